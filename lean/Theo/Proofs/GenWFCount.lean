/-
  C03 for the generator, helpers: counting RET instructions before a position (`countRet`, equal
  to `retsBefore` of the checker), slices of the code, and `prepBefore` under position-wise
  kind-preserving changes of the code (backpatching).
-/
import Theo.Proofs.GenWFGroups

namespace Theo
namespace GenWF

def slice (code : List Instr) (a b : Nat) : List Instr := (code.drop a).take (b - a)

theorem slice_getElem? (code : List Instr) (a b i : Nat) :
    (slice code a b)[i]? = if i < b - a then code[a + i]? else none := by
  unfold slice
  rw [List.getElem?_take, List.getElem?_drop]

theorem slice_length (code : List Instr) (a b : Nat) (h : b ≤ code.length) : (slice code a b).length = b - a := by
  unfold slice
  rw [List.length_take, List.length_drop, Nat.min_eq_left (Nat.sub_le_sub_right h a)]

theorem slice_congr {c c' : List Instr} {a b : Nat} (h : ∀ pc, a ≤ pc → pc < b → c'[pc]? = c[pc]?) :
    slice c' a b = slice c a b := by
  apply List.ext_getElem?
  intro i
  rw [slice_getElem?, slice_getElem?]
  split
  · rename_i hi; exact h _ (Nat.le_add_right _ _) (Nat.add_lt_of_lt_sub' hi)
  · rfl

theorem slice_decomp (code : List Instr) (a b : Nat) (hab : a ≤ b) :
    code = code.take a ++ slice code a b ++ code.drop b := by
  unfold slice
  have h1 : code.drop b = (code.drop a).drop (b - a) := by
    rw [List.drop_drop, Nat.add_sub_cancel' hab]
  rw [h1, List.append_assoc, List.take_append_drop, List.take_append_drop]

theorem slice_append_left (c s : List Instr) : slice (c ++ s) c.length (c.length + s.length) = s := by
  unfold slice
  simp

def countRet (code : List Instr) (n : Nat) : Nat := ((code.take n).filter isRet).length

theorem countRet_succ (c : List Instr) (n : Nat) :
    countRet c (n + 1) = countRet c n + (if (c[n]?).map isRet = some true then 1 else 0) := by
  unfold countRet
  rw [List.take_add_one, List.filter_append, List.length_append]
  congr 1
  cases h : c[n]? with
  | none => simp
  | some i =>
    cases hi : isRet i <;> simp [hi]

theorem countRet_congr {c c' : List Instr} : ∀ {n : Nat},
    (∀ i, i < n → (c'[i]?).map isRet = (c[i]?).map isRet) → countRet c' n = countRet c n := by
  intro n
  induction n with
  | zero => intro _; simp [countRet]
  | succ n ih =>
    intro h
    rw [countRet_succ, countRet_succ, ih (fun i hi => h i (Nat.lt_succ_of_lt hi)), h n (Nat.lt_succ_self n)]

theorem countRet_append_le (c s : List Instr) (n : Nat) (h : n ≤ c.length) : countRet (c ++ s) n = countRet c n := by
  unfold countRet
  rw [List.take_append_of_le_length h]

theorem countRet_full_append (c s : List Instr) :
    countRet (c ++ s) (c ++ s).length = countRet c c.length + (s.filter isRet).length := by
  unfold countRet
  rw [List.take_of_length_le (Nat.le_refl _), List.take_of_length_le (Nat.le_refl _), List.filter_append,
    List.length_append]

theorem countRet_full (c : List Instr) (n : Nat) (h : c.length ≤ n) : countRet c n = countRet c c.length := by
  unfold countRet
  rw [List.take_of_length_le h, List.take_of_length_le (Nat.le_refl _)]

theorem filter_isRet_eq_nil {s : List Instr} (h : ∀ i ∈ s, isRet i = false) : s.filter isRet = [] := by
  rw [List.filter_eq_nil_iff]
  intro a ha
  rw [h a ha]
  simp

theorem retsBefore_aux (e : Nat) (q : Instr × Nat → Bool)
    (hq : ∀ x, q x = (isRet x.1 && decide ((x.2 : Int) < (e : Int)))) (l : List Instr) : ∀ (k : Nat),
    ((l.zipIdx k).filter q).length = ((l.take (e - k)).filter isRet).length := by
  induction l with
  | nil => intro k; simp
  | cons i l ih =>
    intro k
    rw [List.zipIdx_cons, List.filter_cons, hq]
    by_cases hk : k < e
    · have he : e - k = (e - (k + 1)) + 1 := by
        rw [Nat.sub_succ]; exact (Nat.succ_pred_eq_of_pos (Nat.sub_pos_of_lt hk)).symm
      rw [he, List.take_succ_cons, List.filter_cons]
      have hd : decide ((k : Int) < (e : Int)) = true := decide_eq_true (Int.ofNat_lt.2 hk)
      simp only [hd, Bool.and_true]
      split
      · simp only [List.length_cons]; rw [ih]
      · rw [ih]
    · have he : e - k = 0 := Nat.sub_eq_zero_of_le (Nat.le_of_not_lt hk)
      rw [he, List.take_zero]
      have hd : decide ((k : Int) < (e : Int)) = false := decide_eq_false (fun h => hk (Int.ofNat_lt.1 h))
      simp only [hd, Bool.and_false, Bool.false_eq_true, if_false]
      rw [ih]
      rw [Nat.sub_eq_zero_of_le (Nat.le_succ_of_le (Nat.le_of_not_lt hk))]; rfl

theorem retsBefore_eq (code : List Instr) (n : Nat) : retsBefore code (n : Int) = countRet code n := by
  unfold retsBefore countRet
  refine retsBefore_aux n _ ?_ code 0
  intro x
  rcases x with ⟨i, k⟩
  cases i <;> rfl

def SameKind (i i' : Instr) : Prop :=
  i' = i ∨ (∃ a b, i = .jmp a ∧ i' = .jmp b) ∨ (∃ a b s, i = .jmpc a s ∧ i' = .jmpc b s)

theorem SameKind.notAE {i i' : Instr} (h : SameKind i i') : notAE i' = notAE i := by
  rcases h with rfl | ⟨a, b, rfl, rfl⟩ | ⟨a, b, s, rfl, rfl⟩ <;> rfl

theorem SameKind.isRet {i i' : Instr} (h : SameKind i i') : isRet i' = isRet i := by
  rcases h with rfl | ⟨a, b, rfl, rfl⟩ | ⟨a, b, s, rfl, rfl⟩ <;> rfl

@[reducible] def SameCode (c c' : List Instr) : Prop :=
  ∀ pc : Nat, (c[pc]? = none ∧ c'[pc]? = none) ∨ ∃ i i', c[pc]? = some i ∧ c'[pc]? = some i' ∧ SameKind i i'

theorem SameCode.prepBefore {c c' : List Instr} (h : SameCode c c') : ∀ pc, prepBefore c' pc = prepBefore c pc := by
  intro pc
  induction pc with
  | zero => rfl
  | succ pc ih =>
    rw [prepBefore_succ, prepBefore_succ]
    rcases h pc with ⟨h1, h2⟩ | ⟨i, i', h1, h2, hk⟩
    · rw [h1, h2]
    · rw [h1, h2]
      rcases hk with rfl | ⟨a, b, rfl, rfl⟩ | ⟨a, b, s, rfl, rfl⟩
      · cases i' <;> simp only [] <;> exact ih
      · rfl
      · rfl

theorem SameCode.plain {c c' : List Instr} (h : SameCode c c') {x : Nat} (hp : Plain c x) : Plain c' x := by
  intro i' hi'
  rcases h x with ⟨_, h2⟩ | ⟨i, j, h1, h2, hk⟩
  · rw [h2] at hi'; cases hi'
  · rw [h2] at hi'
    have := Option.some.inj hi'
    subst this
    rw [hk.notAE]; exact hp i h1

theorem SameCode.inside {c c' : List Instr} (h : SameCode c c') {x : Nat} (hp : Inside c x) : Inside c' x := by
  obtain ⟨i, hi, hn⟩ := hp
  rcases h x with ⟨h1, _⟩ | ⟨i0, j, h1, h2, hk⟩
  · rw [h1] at hi; cases hi
  · rw [h1] at hi
    have := Option.some.inj hi
    subst this
    exact ⟨j, h2, by rw [hk.notAE]; exact hn⟩

theorem SameCode.none_iff {c c' : List Instr} (h : SameCode c c') (pc : Nat) : c[pc]? = none ↔ c'[pc]? = none := by
  rcases h pc with ⟨h1, h2⟩ | ⟨i, i', h1, h2, _⟩ <;> rw [h1, h2]
  exact ⟨nofun, nofun⟩

theorem SameCode.length {c c' : List Instr} (h : SameCode c c') : c'.length = c.length :=
  Nat.le_antisymm (List.getElem?_eq_none_iff.1 ((h.none_iff _).1 (List.getElem?_eq_none (Nat.le_refl _))))
    (List.getElem?_eq_none_iff.1 ((h.none_iff _).2 (List.getElem?_eq_none (Nat.le_refl _))))

theorem SameCode.countRet {c c' : List Instr} (h : SameCode c c') (n : Nat) : countRet c' n = countRet c n := by
  apply countRet_congr
  intro i _
  rcases h i with ⟨h1, h2⟩ | ⟨a, b, h1, h2, hk⟩
  · rw [h1, h2]
  · rw [h1, h2]; simp [hk.isRet]

end GenWF
end Theo
