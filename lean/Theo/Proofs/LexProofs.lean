/-
  The lexer against its specification (C14): derivatives decide `Matches`, `longest` returns the
  maximal munch (`IsMaxMunch`) or there is none, `lexFrom` makes progress and its lexemes spell the
  input; a buffer that is one lexeme is one token, which is how the keyword table is checked.
-/
import Theo.Spec.Tokenisation

namespace Theo

namespace Rx

theorem not_matches_empty {s : Bytes} : ¬ Matches .empty s := by
  intro h; cases h

theorem matches_eps_iff {s : Bytes} : Matches .eps s ↔ s = [] := by
  constructor
  · intro h; cases h; rfl
  · intro h; subst h; exact .eps

theorem matches_cls_iff {rs} {s : Bytes} :
    Matches (.cls rs) s ↔ ∃ c, s = [c] ∧ inRanges rs c = true := by
  constructor
  · intro h; cases h with | cls h => exact ⟨_, rfl, h⟩
  · rintro ⟨c, rfl, h⟩; exact .cls h

theorem matches_ncls_iff {rs} {s : Bytes} :
    Matches (.ncls rs) s ↔ ∃ c, s = [c] ∧ inRanges rs c = false := by
  constructor
  · intro h; cases h with | ncls h => exact ⟨_, rfl, h⟩
  · rintro ⟨c, rfl, h⟩; exact .ncls h

theorem matches_seq_iff {a b : Rx} {s : Bytes} :
    Matches (.seq a b) s ↔ ∃ s1 s2, s = s1 ++ s2 ∧ Matches a s1 ∧ Matches b s2 := by
  constructor
  · intro h; cases h with | seq h1 h2 => exact ⟨_, _, rfl, h1, h2⟩
  · rintro ⟨s1, s2, rfl, h1, h2⟩; exact .seq h1 h2

theorem matches_alt_iff {a b : Rx} {s : Bytes} :
    Matches (.alt a b) s ↔ Matches a s ∨ Matches b s := by
  constructor
  · intro h
    cases h with
    | altL h => exact .inl h
    | altR h => exact .inr h
  · rintro (h | h)
    · exact .altL h
    · exact .altR h

theorem matches_star_cons_aux {a r : Rx} {t : Bytes} (h : Matches r t) :
    ∀ (c : UInt8) (s : Bytes), r = .star a → t = c :: s →
      ∃ s1 s2, s = s1 ++ s2 ∧ Matches a (c :: s1) ∧ Matches (.star a) s2 := by
  induction h with
  | eps => intro c s hr; cases hr
  | cls _ => intro c s hr; cases hr
  | ncls _ => intro c s hr; cases hr
  | seq _ _ _ _ => intro c s hr; cases hr
  | altL _ _ => intro c s hr; cases hr
  | altR _ _ => intro c s hr; cases hr
  | starNil => intro c s _ ht; cases ht
  | @starCons a' u v h1 h2 _ ih2 =>
    intro c s hr ht
    cases hr
    cases u with
    | nil => exact ih2 c s rfl (by simpa using ht)
    | cons d u' =>
      simp only [List.cons_append, List.cons.injEq] at ht
      obtain ⟨rfl, rfl⟩ := ht
      exact ⟨u', v, rfl, h1, h2⟩

theorem matches_star_cons_iff {a : Rx} {c : UInt8} {s : Bytes} :
    Matches (.star a) (c :: s) ↔
      ∃ s1 s2, s = s1 ++ s2 ∧ Matches a (c :: s1) ∧ Matches (.star a) s2 := by
  constructor
  · intro h; exact matches_star_cons_aux h c s rfl rfl
  · rintro ⟨s1, s2, rfl, h1, h2⟩
    exact Matches.starCons h1 h2

theorem matches_mkSeq {a b : Rx} {s : Bytes} :
    Matches (mkSeq a b) s ↔ Matches (.seq a b) s := by
  unfold mkSeq
  split
  · simp [matches_seq_iff, not_matches_empty]
  · simp [matches_seq_iff, not_matches_empty]
  · rw [matches_seq_iff]
    constructor
    · intro h; exact ⟨[], s, rfl, .eps, h⟩
    · rintro ⟨s1, s2, rfl, h1, h2⟩
      rw [matches_eps_iff] at h1; subst h1; simpa using h2
  · rw [matches_seq_iff]
    constructor
    · intro h; exact ⟨s, [], by simp, h, .eps⟩
    · rintro ⟨s1, s2, rfl, h1, h2⟩
      rw [matches_eps_iff] at h2; subst h2; simpa using h1
  · exact Iff.rfl

theorem matches_mkAlt {a b : Rx} {s : Bytes} :
    Matches (mkAlt a b) s ↔ Matches (.alt a b) s := by
  unfold mkAlt
  split
  · simp [matches_alt_iff, not_matches_empty]
  · simp [matches_alt_iff, not_matches_empty]
  · split
    · next h => subst h; simp [matches_alt_iff]
    · exact Iff.rfl

theorem nullable_correct (r : Rx) : r.nullable = true ↔ r.Matches [] := by
  induction r with
  | empty => simp [nullable, not_matches_empty]
  | eps => simp [nullable, matches_eps_iff]
  | cls rs => simp [nullable, matches_cls_iff]
  | ncls rs => simp [nullable, matches_ncls_iff]
  | seq a b iha ihb =>
    simp only [nullable, Bool.and_eq_true, iha, ihb, matches_seq_iff]
    constructor
    · rintro ⟨h1, h2⟩; exact ⟨[], [], rfl, h1, h2⟩
    · rintro ⟨s1, s2, h, h1, h2⟩
      have h' := h.symm
      simp only [List.append_eq_nil_iff] at h'
      obtain ⟨rfl, rfl⟩ := h'
      exact ⟨h1, h2⟩
  | alt a b iha ihb =>
    simp [nullable, matches_alt_iff, iha, ihb]
  | star a _ => simp [nullable]; exact .starNil

theorem matches_seq_cons_iff {a b : Rx} {c : UInt8} {s : Bytes} :
    Matches (.seq a b) (c :: s) ↔
      (∃ s1 s2, s = s1 ++ s2 ∧ Matches a (c :: s1) ∧ Matches b s2) ∨
      (Matches a [] ∧ Matches b (c :: s)) := by
  rw [matches_seq_iff]
  constructor
  · rintro ⟨s1, s2, h, h1, h2⟩
    cases s1 with
    | nil =>
      simp only [List.nil_append] at h
      subst h
      exact .inr ⟨h1, h2⟩
    | cons d s1' =>
      simp only [List.cons_append, List.cons.injEq] at h
      obtain ⟨rfl, rfl⟩ := h
      exact .inl ⟨s1', s2, rfl, h1, h2⟩
  · rintro (⟨s1, s2, rfl, h1, h2⟩ | ⟨h1, h2⟩)
    · exact ⟨c :: s1, s2, rfl, h1, h2⟩
    · exact ⟨[], c :: s, rfl, h1, h2⟩

theorem deriv_correct (r : Rx) (c : UInt8) (s : Bytes) :
    (r.deriv c).Matches s ↔ r.Matches (c :: s) := by
  induction r generalizing s with
  | empty => simp [deriv, not_matches_empty]
  | eps => simp [deriv, not_matches_empty, matches_eps_iff]
  | cls rs =>
    simp only [deriv, matches_cls_iff]
    split
    · next h =>
      rw [matches_eps_iff]
      constructor
      · rintro rfl; exact ⟨c, rfl, h⟩
      · rintro ⟨d, hd, _⟩; simp at hd; exact hd.2
    · next h =>
      constructor
      · intro h'; exact absurd h' not_matches_empty
      · rintro ⟨d, hd, hr⟩
        simp at hd
        obtain ⟨rfl, _⟩ := hd
        exact absurd hr h
  | ncls rs =>
    simp only [deriv, matches_ncls_iff]
    split
    · next h =>
      constructor
      · intro h'; exact absurd h' not_matches_empty
      · rintro ⟨d, hd, hr⟩
        simp at hd
        obtain ⟨rfl, _⟩ := hd
        simp [h] at hr
    · next h =>
      rw [matches_eps_iff]
      constructor
      · rintro rfl; exact ⟨c, rfl, by simpa using h⟩
      · rintro ⟨d, hd, _⟩; simp at hd; exact hd.2
  | seq a b iha ihb =>
    rw [matches_seq_cons_iff]
    simp only [deriv]
    split
    · next hn =>
      rw [matches_mkAlt, matches_alt_iff, matches_mkSeq, matches_seq_iff, ihb]
      simp only [iha, ← nullable_correct, hn, true_and]
    · next hn =>
      rw [matches_mkSeq, matches_seq_iff]
      simp only [iha, ← nullable_correct, hn, false_and, or_false, Bool.false_eq_true]
  | alt a b iha ihb =>
    simp only [deriv]
    rw [matches_mkAlt, matches_alt_iff, matches_alt_iff, iha, ihb]
  | star a iha =>
    simp only [deriv]
    rw [matches_mkSeq, matches_seq_iff, matches_star_cons_iff]
    simp only [iha]

theorem derivs_correct (p : Bytes) (r : Rx) (t : Bytes) :
    (derivs p r).Matches t ↔ r.Matches (p ++ t) := by
  induction p generalizing r with
  | nil => simp [derivs]
  | cons c p ih => simp only [derivs, ih, deriv_correct, List.cons_append]

theorem matchesB_correct (r : Rx) (s : Bytes) : r.matchesB s = true ↔ r.Matches s := by
  unfold matchesB
  rw [nullable_correct, derivs_correct, List.append_nil]

theorem derivs_append (p q : Bytes) (r : Rx) : derivs (p ++ q) r = derivs q (derivs p r) := by
  induction p generalizing r with
  | nil => rfl
  | cons c p ih => simp only [List.cons_append, derivs, ih]

theorem derivs_nullable (p : Bytes) (r : Rx) : (derivs p r).nullable = true ↔ r.Matches p := by
  rw [nullable_correct, derivs_correct, List.append_nil]

end Rx

theorem firstNullable_none {rs : List Rx} {k : Nat} (h : firstNullable rs k = none) :
    ∀ (j : Nat) (r : Rx), rs[j]? = some r → r.nullable = false := by
  induction rs generalizing k with
  | nil => intro j r hj; cases hj
  | cons a rs ih =>
    rw [firstNullable] at h
    split at h
    · cases h
    · next hn =>
      intro j r hj
      cases j with
      | zero => cases hj; exact Bool.eq_false_iff.2 hn
      | succ j => exact ih h j r hj

theorem firstNullable_some {rs : List Rx} {k i : Nat} (h : firstNullable rs k = some i) :
    k ≤ i ∧ (∃ r, rs[i - k]? = some r ∧ r.nullable = true) ∧
      ∀ (j : Nat) (r : Rx), j < i - k → rs[j]? = some r → r.nullable = false := by
  induction rs generalizing k with
  | nil => cases h
  | cons a rs ih =>
    rw [firstNullable] at h
    split at h
    · next hn =>
      cases h
      exact ⟨Nat.le_refl _, ⟨a, by rw [Nat.sub_self]; rfl, hn⟩, fun j r hj => by omega⟩
    · next hn =>
      obtain ⟨h1, ⟨r, hr, hrn⟩, h3⟩ := ih h
      have e : i - k = (i - (k + 1)) + 1 := by omega
      refine ⟨by omega, ⟨r, by rw [e]; exact hr, hrn⟩, fun j r' hj hr' => ?_⟩
      cases j with
      | zero => cases hr'; exact Bool.eq_false_iff.2 hn
      | succ j => exact h3 j r' (by omega) hr'

def MunchAbove (rules : List Rx) (inp : Bytes) (lo i n : Nat) : Prop :=
  lo < n ∧ n ≤ inp.length ∧
  (∃ r : Rx, rules[i]? = some r ∧ r.Matches (inp.take n)) ∧
  (∀ (j : Nat) (r : Rx) (m : Nat), rules[j]? = some r → lo < m → m ≤ inp.length →
      r.Matches (inp.take m) → m ≤ n ∧ (m = n → i ≤ j))

def NoMunchAbove (rules : List Rx) (inp : Bytes) (lo : Nat) : Prop :=
  ∀ (j : Nat) (r : Rx) (m : Nat), rules[j]? = some r → lo < m → m ≤ inp.length →
    ¬ r.Matches (inp.take m)

theorem derivs_empty (s : Bytes) : Rx.derivs s .empty = .empty := by
  induction s with
  | nil => rfl
  | cons c s ih => simpa [Rx.derivs, Rx.deriv] using ih

theorem map_deriv_map_derivs (orig : List Rx) (p : Bytes) (c : UInt8) :
    (orig.map (Rx.derivs p)).map (Rx.deriv c) = orig.map (Rx.derivs (p ++ [c])) := by
  simp only [List.map_map]
  apply List.map_congr_left
  intro r _
  simp [Rx.derivs_append, Rx.derivs]

theorem take_append_of_le {p cs : Bytes} {m : Nat} (h : p.length ≤ m) :
    (p ++ cs).take m = p ++ cs.take (m - p.length) := by
  rw [List.take_append, List.take_of_length_le h]

/-- a munch above `lo + 1` is one above `lo`: it is longer than the matches of length `lo + 1`
    that come into view -/
theorem MunchAbove.pred {rules : List Rx} {inp : Bytes} {lo i n : Nat}
    (h : MunchAbove rules inp (lo + 1) i n) : MunchAbove rules inp lo i n := by
  obtain ⟨h1, h2, h3, h4⟩ := h
  refine ⟨by omega, h2, h3, fun j r m hj hm1 hm2 hmm => ?_⟩
  by_cases hm : m = lo + 1
  · exact ⟨by omega, fun h => by omega⟩
  · exact h4 j r m hj (by omega) hm2 hmm

theorem NoMunchAbove.pred {rules : List Rx} {inp : Bytes} {lo : Nat}
    (h : ∀ (j : Nat) (r : Rx), rules[j]? = some r → ¬ r.Matches (inp.take (lo + 1)))
    (hno : NoMunchAbove rules inp (lo + 1)) : NoMunchAbove rules inp lo := by
  intro j r m hj h1 h2 hmm
  by_cases hm : m = lo + 1
  · exact h j r hj (hm ▸ hmm)
  · exact hno j r m hj (by omega) h2 hmm

theorem NoMunchAbove.first {rules : List Rx} {inp : Bytes} {lo i0 : Nat} {r0 : Rx}
    (hno : NoMunchAbove rules inp (lo + 1))
    (hlen : lo + 1 ≤ inp.length) (hr0 : rules[i0]? = some r0) (hm0 : r0.Matches (inp.take (lo + 1)))
    (hfirst : ∀ (j : Nat) (r : Rx), j < i0 → rules[j]? = some r → ¬ r.Matches (inp.take (lo + 1))) :
    MunchAbove rules inp lo i0 (lo + 1) := by
  refine ⟨by omega, hlen, ⟨r0, hr0, hm0⟩, fun j r m hj hm1 hm2 hmm => ?_⟩
  by_cases hm : m = lo + 1
  · exact ⟨by omega, fun _ => Nat.le_of_not_lt fun hlt => hfirst j r hlt hj (hm ▸ hmm)⟩
  · exact absurd hmm (hno j r m hj (by omega) hm2)

theorem longestAux_spec (orig : List Rx) (cs : Bytes) :
    ∀ (p : Bytes) (best : Option (Nat × Nat)),
      (NoMunchAbove orig (p ++ cs) p.length ∧
          longestAux (orig.map (Rx.derivs p)) cs p.length best = best) ∨
      (∃ i n, longestAux (orig.map (Rx.derivs p)) cs p.length best = some (i, n) ∧
          MunchAbove orig (p ++ cs) p.length i n) := by
  induction cs with
  | nil =>
    intro p best
    exact .inl ⟨fun j r m _ h1 h2 => by simp at h2; omega, rfl⟩
  | cons c cs ih =>
    intro p best
    have hlen : (p ++ [c]).length = p.length + 1 := by simp
    have hinp : p ++ c :: cs = (p ++ [c]) ++ cs := by simp
    have htake : (p ++ c :: cs).take (p.length + 1) = p ++ [c] := by
      rw [hinp, take_append_of_le (by omega), hlen]; simp
    -- a rule matches the prefix one byte longer than `p` iff its derivative by it is nullable
    have hnull : ∀ r : Rx, r.Matches ((p ++ c :: cs).take (p.length + 1)) ↔
        (Rx.derivs (p ++ [c]) r).nullable = true := fun r => by rw [htake, Rx.derivs_nullable]
    simp only [longestAux, map_deriv_map_derivs]
    split
    · next hall =>
      refine .inl ⟨fun j r m hj h1 h2 hm => ?_, rfl⟩
      rw [hinp, take_append_of_le (by omega), ← Rx.derivs_correct,
        beq_iff_eq.1 (List.all_eq_true.1 hall _ (List.mem_map.2 ⟨r, List.mem_of_getElem? hj, rfl⟩))] at hm
      exact Rx.not_matches_empty hm
    · have IH := ih (p ++ [c])
      rw [hlen, ← hinp] at IH
      cases hfn : firstNullable (orig.map (Rx.derivs (p ++ [c]))) 0 with
      | none =>
        have hnone : ∀ (j : Nat) (r : Rx), orig[j]? = some r →
            ¬ r.Matches ((p ++ c :: cs).take (p.length + 1)) := fun j r hj hm => by
          rw [hnull, firstNullable_none hfn j _ (by rw [List.getElem?_map, hj]; rfl)] at hm
          cases hm
        exact (IH best).imp (fun ⟨hno, hres⟩ => ⟨hno.pred hnone, hres⟩)
          fun ⟨i, n, hres, hm⟩ => ⟨i, n, hres, hm.pred⟩
      | some i0 =>
        obtain ⟨_, ⟨r0', hr0', hr0n⟩, hfirst⟩ := firstNullable_some hfn
        rw [Nat.sub_zero, List.getElem?_map] at hr0'
        obtain ⟨r0, hr0, rfl⟩ := Option.map_eq_some_iff.1 hr0'
        refine .inr ((IH (some (i0, p.length + 1))).elim (fun ⟨hno, hres⟩ => ⟨i0, _, hres, ?_⟩)
          fun ⟨i, n, hres, hm⟩ => ⟨i, n, hres, hm.pred⟩)
        refine hno.first (by simp) hr0 ((hnull r0).2 hr0n) fun j r hlt hj hm => ?_
        rw [hnull, hfirst j _ (by omega) (by rw [List.getElem?_map, hj]; rfl)] at hm
        cases hm

theorem longest_spec (rules : List Rx) (inp : Bytes) :
    (NoMunch rules inp ∧ longest rules inp = none) ∨
    (∃ i n, longest rules inp = some (i, n) ∧ IsMaxMunch rules inp i n) := by
  -- `NoMunch` and `IsMaxMunch` are `NoMunchAbove` and `MunchAbove` at 0 by definition
  have h := longestAux_spec rules inp [] none
  simp only [List.nil_append, List.length_nil, Rx.derivs, List.map_id_fun', id_eq] at h
  exact h

theorem isMaxMunch_unique {rules : List Rx} {inp : Bytes} {i n i' n' : Nat}
    (h : IsMaxMunch rules inp i n) (h' : IsMaxMunch rules inp i' n') : i = i' ∧ n = n' := by
  obtain ⟨a1, a2, ⟨r, a3, a4⟩, a5⟩ := h
  obtain ⟨b1, b2, ⟨r', b3, b4⟩, b5⟩ := h'
  have c1 := a5 i' r' n' b3 b1 b2 b4
  have c2 := b5 i r n a3 a1 a2 a4
  have hn : n = n' := by omega
  refine ⟨?_, hn⟩
  have := c1.2 hn.symm
  have := c2.2 hn
  omega

theorem isMaxMunch_not_noMunch {rules : List Rx} {inp : Bytes} {i n : Nat}
    (h : IsMaxMunch rules inp i n) : ¬ NoMunch rules inp := by
  obtain ⟨a1, a2, ⟨r, a3, a4⟩, _⟩ := h
  intro hno
  exact hno i r n a3 a1 a2 a4

theorem longest_match (rules : List Rx) (inp : Bytes) (i n : Nat) :
    longest rules inp = some (i, n) ↔ IsMaxMunch rules inp i n := by
  rcases longest_spec rules inp with ⟨hno, hres⟩ | ⟨i', n', hres, hm⟩
  · constructor
    · intro h; rw [hres] at h; cases h
    · intro h; exact absurd hno (isMaxMunch_not_noMunch h)
  · constructor
    · intro h
      rw [hres] at h
      cases h
      exact hm
    · intro h
      obtain ⟨rfl, rfl⟩ := isMaxMunch_unique h hm
      exact hres

theorem longest_none (rules : List Rx) (inp : Bytes) :
    longest rules inp = none ↔ NoMunch rules inp := by
  rcases longest_spec rules inp with ⟨hno, hres⟩ | ⟨i', n', hres, hm⟩
  · exact ⟨fun _ => hno, fun _ => hres⟩
  · constructor
    · intro h; rw [hres] at h; cases h
    · intro h; exact absurd h (isMaxMunch_not_noMunch hm)

/-- every rule is dead or completed after `p`: nothing longer than `p` is matched -/
def spentAfter (rules : List Rx) (p : Bytes) : Bool :=
  rules.all (fun r => Rx.derivs p r == Rx.empty || Rx.derivs p r == Rx.eps)

theorem longest_decided {rules : List Rx} {p : Bytes} {i n : Nat} (hl : longest rules p = some (i, n))
    (hs : spentAfter rules p = true) (q : Bytes) : longest rules (p ++ q) = some (i, n) := by
  rw [longest_match] at hl ⊢
  obtain ⟨h1, h2, h3, h4⟩ := hl
  have htake : ∀ m, m ≤ p.length → (p ++ q).take m = p.take m := fun m hm =>
    List.take_append_of_le_length hm
  refine ⟨h1, by rw [List.length_append]; omega, by rwa [htake n h2], fun j r m hj hm0 hml hmm => ?_⟩
  by_cases hm : m ≤ p.length
  · exact h4 j r m hj hm0 hm (htake m hm ▸ hmm)
  · exfalso
    rw [take_append_of_le (by omega), ← Rx.derivs_correct] at hmm
    have hne : q.take (m - p.length) ≠ [] := by
      intro h
      have := congrArg List.length h
      rw [List.length_append] at hml
      rw [List.length_take, List.length_nil] at this
      omega
    have := List.all_eq_true.1 hs r (List.mem_of_getElem? hj)
    simp only [Bool.or_eq_true, beq_iff_eq] at this
    rcases this with h | h <;> rw [h] at hmm
    · exact Rx.not_matches_empty hmm
    · exact hne (Rx.matches_eps_iff.1 hmm)

theorem catch_all :
    LexGen.rules.getLast? = some (Rx.alt (Rx.ncls [(10, 10)]) (Rx.cls [(10, 10)]), some Tok.NV_ID) := by
  decide +kernel

theorem matches_any_byte (c : UInt8) :
    (Rx.alt (Rx.ncls [(10, 10)]) (Rx.cls [(10, 10)])).Matches [c] := by
  cases h : inRanges [(10, 10)] c
  · exact .altL (.ncls h)
  · exact .altR (.cls h)

theorem longest_total (inp : Bytes) (h : inp ≠ []) :
    (longest (LexGen.rules.map (·.1)) inp).isSome = true := by
  cases hl : longest (LexGen.rules.map (·.1)) inp with
  | some _ => rfl
  | none =>
    exfalso
    rw [longest_none] at hl
    cases inp with
    | nil => exact h rfl
    | cons c cs =>
      have hlast := catch_all
      rw [List.getLast?_eq_getElem?] at hlast
      refine hl (LexGen.rules.length - 1) (Rx.alt (Rx.ncls [(10, 10)]) (Rx.cls [(10, 10)])) 1 ?_ (by omega) (by simp) ?_
      · rw [List.getElem?_map, hlast]; rfl
      · simpa using matches_any_byte c

theorem longest_some_bounds {rules : List Rx} {inp : Bytes} {i n : Nat}
    (h : longest rules inp = some (i, n)) : 0 < n ∧ n ≤ inp.length := by
  rw [longest_match] at h
  exact ⟨h.1, h.2.1⟩

theorem lexFrom_eq_tokensOfLexemes (rules : List (Rx × Option Nat)) (fuel : Nat) (inp : Bytes)
    (line : Nat) :
    lexFrom rules fuel inp line = tokensOfLexemes rules (lexemes rules fuel inp line) := by
  induction fuel, inp, line using lexemes.induct rules with
  | case1 | case2 => rfl
  | case3 fuel line c cs hl => rw [lexFrom, lexemes, hl]; rfl
  | case4 fuel line c cs i n hl text line' ih =>
    rw [lexFrom, lexemes, hl]
    simp only [text, line'] at ih
    simp only [ih, tokensOfLexemes, List.filterMap_cons]
    cases (rules[i]?).bind (·.2) <;> rfl

theorem lexemes_flatten (fuel : Nat) (inp : Bytes) (line : Nat) (hf : inp.length < fuel) :
    ((lexemes LexGen.rules fuel inp line).map (·.2.1)).flatten = inp := by
  induction fuel, inp, line using lexemes.induct LexGen.rules with
  | case1 => omega
  | case2 => rfl
  | case3 fuel line c cs hl =>
    have htot := longest_total (c :: cs) (by simp)
    rw [hl] at htot; cases htot
  | case4 fuel line c cs i n hl text line' ih =>
    obtain ⟨hn0, hn1⟩ := longest_some_bounds hl
    rw [lexemes, hl]
    simp only [List.map_cons, List.flatten_cons]
    rw [ih (by rw [List.length_drop]; simp only [List.length_cons] at hf hn1 ⊢; omega)]
    exact List.take_append_drop n (c :: cs)

theorem lexemes_maxmunch (rules : List (Rx × Option Nat)) (fuel : Nat) (inp : Bytes) (line k : Nat)
    (l : Nat × Bytes × Nat) (h : (lexemes rules fuel inp line)[k]? = some l) :
    IsMaxMunch (rules.map (·.1))
        (inp.drop ((((lexemes rules fuel inp line).take k).map (·.2.1)).flatten.length))
        l.1 l.2.1.length ∧
      l.2.1 = (inp.drop ((((lexemes rules fuel inp line).take k).map (·.2.1)).flatten.length)).take
        l.2.1.length := by
  induction fuel, inp, line using lexemes.induct rules generalizing k with
  | case1 | case2 => cases h
  | case3 fuel line c cs hl => rw [lexemes, hl] at h; cases h
  | case4 fuel line c cs i n hl text line' ih =>
    rw [lexemes, hl] at h ⊢
    simp only [text, line'] at ih
    obtain ⟨hn0, hn1⟩ := longest_some_bounds hl
    have hlen : ((c :: cs).take n).length = n := by rw [List.length_take]; omega
    cases k with
    | zero =>
      cases h
      simp only [List.take_zero, List.map_nil, List.flatten_nil, List.length_nil, List.drop_zero, hlen]
      exact ⟨(longest_match _ _ _ _).1 hl, trivial⟩
    | succ k =>
      have := ih k h
      simp only [List.take_succ_cons, List.map_cons, List.flatten_cons, List.length_append, hlen]
      rw [← List.drop_drop]
      exact this

theorem lexemes_line (rules : List (Rx × Option Nat)) (fuel : Nat) (inp : Bytes) (line k : Nat)
    (l : Nat × Bytes × Nat) (h : (lexemes rules fuel inp line)[k]? = some l) :
    l.2.2 = line + countNl ((((lexemes rules fuel inp line).take (k + 1)).map (·.2.1)).flatten) := by
  induction fuel, inp, line using lexemes.induct rules generalizing k with
  | case1 | case2 => cases h
  | case3 fuel line c cs hl => rw [lexemes, hl] at h; cases h
  | case4 fuel line c cs i n hl text line' ih =>
    rw [lexemes, hl] at h ⊢
    simp only [text, line'] at ih
    cases k with
    | zero => cases h; simp
    | succ k =>
      rw [ih k h]
      simp only [List.take_succ_cons, List.map_cons, List.flatten_cons, countNl, List.count_append]
      omega

theorem longest_whole {rules : List Rx} {w : Bytes} {i : Nat} {r : Rx} (hw : w ≠ [])
    (hr : rules[i]? = some r) (hm : r.Matches w)
    (hfirst : ∀ j r', j < i → rules[j]? = some r' → ¬ r'.Matches w) :
    longest rules w = some (i, w.length) := by
  rw [longest_match]
  refine ⟨List.length_pos_iff.2 hw, Nat.le_refl _, ⟨r, hr, by rwa [List.take_length]⟩, ?_⟩
  intro j r' m hj _ hm1 hmm
  refine ⟨hm1, fun hme => Nat.le_of_not_lt fun hlt => ?_⟩
  subst hme
  rw [List.take_length] at hmm
  exact hfirst j r' hlt hj hmm

theorem lexFrom_nil (rules : List (Rx × Option Nat)) (fuel line : Nat) :
    lexFrom rules fuel [] line = [] := by
  cases fuel <;> rfl

theorem cstr_eq_self {w : Bytes} (h : 0 ∉ w) : cstr w = w := by
  have := List.takeWhile_append_of_pos (p := fun c : UInt8 => decide (c ≠ 0)) (l₁ := w) (l₂ := [])
    (fun c hc => decide_eq_true fun e => h (e ▸ hc))
  rw [List.append_nil] at this
  exact this.trans (List.append_nil w)

theorem lexBuffer_whole {w : Bytes} {i k : Nat} (h0 : 0 ∉ w) (hnl : 10 ∉ w)
    (hl : longest (LexGen.rules.map (·.1)) w = some (i, w.length))
    (hk : (LexGen.rules[i]?).bind (·.2) = some k) : lexBuffer w = [⟨k, w, 1⟩] := by
  unfold lexBuffer
  simp only [cstr_eq_self h0]
  cases w with
  | nil => cases hl
  | cons c cs =>
    simp only [lexFrom, hl, List.take_length, List.drop_length, lexFrom_nil, hk, countNl,
      List.count_eq_zero.2 hnl, Nat.add_zero]

def wordKind (w : Bytes) : Option Nat :=
  (LexGen.rules.find? (fun r => r.1.matchesB w)).bind (·.2)

theorem lexBuffer_of_wordKind {w : Bytes} {k : Nat} (hw : w ≠ []) (h0 : 0 ∉ w) (hnl : 10 ∉ w)
    (h : wordKind w = some k) : lexBuffer w = [⟨k, w, 1⟩] := by
  obtain ⟨p, hp, hk⟩ := Option.bind_eq_some_iff.1 h
  obtain ⟨hm, as, bs, hrules, has⟩ := List.find?_eq_some_iff_append.1 hp
  have hi : LexGen.rules[as.length]? = some p := by rw [hrules]; simp
  refine lexBuffer_whole h0 hnl (longest_whole hw (by rw [List.getElem?_map, hi]; rfl)
    ((Rx.matchesB_correct _ _).1 hm) ?_) (by rw [hi]; exact hk)
  intro j r' hj hr' hmm
  rw [List.getElem?_map, hrules, List.getElem?_append_left hj] at hr'
  obtain ⟨q, hq, rfl⟩ := Option.map_eq_some_iff.1 hr'
  have := has q (List.mem_of_getElem? hq)
  rw [(Rx.matchesB_correct _ _).2 hmm] at this
  cases this

/-- by `lexBuffer_of_wordKind`: what is evaluated is `wordKind`, not the lexer -/
theorem keywords_lex :
    LexGen.keywords.all (fun e => lexBuffer e.1 == [⟨e.2, e.1, 1⟩]) = true := by
  have h : LexGen.keywords.all (fun e =>
      !e.1.isEmpty && !e.1.contains 0 && !e.1.contains 10 && wordKind e.1 == some e.2) = true := by
    decide +kernel
  refine List.all_eq_true.2 fun e he => ?_
  have := List.all_eq_true.1 h e he
  simp only [Bool.and_eq_true, Bool.not_eq_true', List.isEmpty_eq_false_iff, List.contains_eq_mem,
    decide_eq_false_iff_not, beq_iff_eq] at this
  exact beq_iff_eq.2 (lexBuffer_of_wordKind this.1.1.1 this.1.1.2 this.1.2 this.2)

end Theo
