/-
  The transitions of the reference machine (`Sem.step`, Spec/Semantics.lean) as rules: one per
  branch of `step`, from a running configuration with top frame `fr` above `rest`.  A proof
  about all steps is a case analysis on `step_rule`.
-/
import Theo.Spec.Semantics

namespace Theo
namespace Sim
open Sem

theorem stmts_induct {P : Stmt → Prop} {Q : Stmts → Prop}
    (assign : ∀ x v pos, P (.assign x v pos)) (mark : ∀ m pos, P (.mark m pos))
    (loop : ∀ id x body pos, Q body → P (.loop id x body pos))
    (while_ : ∀ x body pos, Q body → P (.while_ x body pos))
    (goto : ∀ m pos, P (.goto m pos)) (ifGoto : ∀ x c m pos, P (.ifGoto x c m pos))
    (stop : ∀ pos, P (.stop pos)) (nil : Q .nil) (cons : ∀ s ss, P s → Q ss → Q (.cons s ss)) :
    (∀ s, P s) ∧ ∀ ss, Q ss :=
  ⟨fun s => Stmt.rec (motive_2 := Q) assign mark loop while_ goto ifGoto stop nil cons s,
   fun ss => Stmts.rec (motive_1 := P) assign mark loop while_ goto ifGoto stop nil cons ss⟩

theorem findLabel_pres {P : Stmts → Prop} {Q : Kont → Prop} (tail : ∀ s ss, P (.cons s ss) → P ss)
    (loop : ∀ id x body pos rest K, P (.cons (.loop id x body pos) rest) → Q K →
      P body ∧ Q (.loop id body rest K))
    (while_ : ∀ x body pos rest K, P (.cons (.while_ x body pos) rest) → Q K →
      P body ∧ Q (.while_ x body rest K)) (m : Name) :
    ∀ ss K, P ss → Q K → ∀ f k, findLabel m ss K = some (f, k) → P f ∧ Q k := by
  suffices h : (∀ s rest K, P (.cons s rest) → Q K → ∀ f k,
      findLabelStmt m s rest K = some (f, k) → P f ∧ Q k) ∧
      ∀ ss K, P ss → Q K → ∀ f k, findLabel m ss K = some (f, k) → P f ∧ Q k from h.2
  apply stmts_induct
  case assign => exact fun _ _ _ _ _ _ _ _ _ he => nomatch he
  case mark =>
    intro m' pos rest K h hk f k he
    rw [findLabelStmt, Option.ite_none_right_eq_some] at he
    cases he.2
    exact ⟨h, hk⟩
  case loop =>
    intro id x body pos ih rest K h hk
    exact ih _ (loop id x body pos rest K h hk).1 (loop id x body pos rest K h hk).2
  case while_ =>
    intro x body pos ih rest K h hk
    exact ih _ (while_ x body pos rest K h hk).1 (while_ x body pos rest K h hk).2
  case goto => exact fun _ _ _ _ _ _ _ _ he => nomatch he
  case ifGoto => exact fun _ _ _ _ _ _ _ _ _ _ he => nomatch he
  case stop => exact fun _ _ _ _ _ _ _ he => nomatch he
  case nil => exact fun _ _ _ _ _ he => nomatch he
  case cons =>
    intro s rest ih1 ih2 K h hk f k he
    rw [findLabel] at he
    split at he
    · rename_i r hr
      cases he
      exact ih1 rest K h hk f k hr
    · exact ih2 K (tail s rest h) hk f k he

theorem bodyOf_lt {src : Source} {r : Nat} {pd : ProgDef} (h : src.progs[r]? = some pd) :
    bodyOf src r = pd.body := by
  unfold bodyOf; rw [h]

theorem bodyOf_root (src : Source) : bodyOf src src.progs.length = src.main := by
  unfold bodyOf; rw [List.getElem?_eq_none (Nat.le_refl _)]

inductive SimpleVal (env : Env) : Value → Nat → Prop where
  | var (y : Name) : SimpleVal env (.var y) (env.get y)
  | num (n : Nat) : SimpleVal env (.num n) n
  | inc (y : Name) (k : Nat) : SimpleVal env (.inc y k) (addSat (env.get y) k)
  | dec (y : Name) (k : Nat) : SimpleVal env (.dec y k) (env.get y - k)

def jumpTo (src : Source) (fr : Frame) (rest : List Frame) (m : Name) : Config :=
  match findLabel m (bodyOf src fr.routine) .done with
  | some (f, k2) => ⟨{ fr with focus := f, k := k2 } :: rest, .running⟩
  | none => ⟨fr :: rest, .stuck⟩

inductive Rule (src : Source) : Frame → List Frame → Config → Prop where
  | assign (r env ctrs x v pos ss k rest) :
      Rule src ⟨r, env, ctrs, .cons (.assign x v pos) ss, k, .run⟩ rest
        ⟨⟨r, env, ctrs, ss, k, .eval v x []⟩ :: rest, .running⟩
  | mark (r env ctrs m pos ss k rest) :
      Rule src ⟨r, env, ctrs, .cons (.mark m pos) ss, k, .run⟩ rest
        ⟨⟨r, env, ctrs, ss, k, .run⟩ :: rest, .running⟩
  | loop (r env ctrs id x body pos ss k rest) :
      Rule src ⟨r, env, ctrs, .cons (.loop id x body pos) ss, k, .run⟩ rest
        (if env.get x ≠ 0 then
          ⟨⟨r, env, ctrs.set id (env.get x), body, .loop id body ss k, .run⟩ :: rest, .running⟩
         else ⟨⟨r, env, ctrs.set id (env.get x), ss, k, .run⟩ :: rest, .running⟩)
  | while_ (r env ctrs x body pos ss k rest) :
      Rule src ⟨r, env, ctrs, .cons (.while_ x body pos) ss, k, .run⟩ rest
        (if env.get x ≠ 0 then
          ⟨⟨r, env, ctrs, body, .while_ x body ss k, .run⟩ :: rest, .running⟩
         else ⟨⟨r, env, ctrs, ss, k, .run⟩ :: rest, .running⟩)
  | goto (r env ctrs m pos ss k rest) :
      Rule src ⟨r, env, ctrs, .cons (.goto m pos) ss, k, .run⟩ rest
        (jumpTo src ⟨r, env, ctrs, .cons (.goto m pos) ss, k, .run⟩ rest m)
  | ifGoto (r env ctrs x cst m pos ss k rest) :
      Rule src ⟨r, env, ctrs, .cons (.ifGoto x cst m pos) ss, k, .run⟩ rest
        (if env.get x = cst then jumpTo src ⟨r, env, ctrs, .cons (.ifGoto x cst m pos) ss, k, .run⟩ rest m
         else ⟨⟨r, env, ctrs, ss, k, .run⟩ :: rest, .running⟩)
  | stop (r env ctrs pos ss k rest) :
      Rule src ⟨r, env, ctrs, .cons (.stop pos) ss, k, .run⟩ rest
        ⟨⟨r, env, ctrs, .cons (.stop pos) ss, k, .run⟩ :: rest, .halted⟩
  | endLoop (r env ctrs id body ss k' rest) :
      Rule src ⟨r, env, ctrs, .nil, .loop id body ss k', .run⟩ rest
        (if ctrs.get id - 1 ≠ 0 then
          ⟨⟨r, env, ctrs.set id (ctrs.get id - 1), body, .loop id body ss k', .run⟩ :: rest, .running⟩
         else ⟨⟨r, env, ctrs.set id (ctrs.get id - 1), ss, k', .run⟩ :: rest, .running⟩)
  | endWhile (r env ctrs x body ss k' rest) :
      Rule src ⟨r, env, ctrs, .nil, .while_ x body ss k', .run⟩ rest
        (if env.get x ≠ 0 then
          ⟨⟨r, env, ctrs, body, .while_ x body ss k', .run⟩ :: rest, .running⟩
         else ⟨⟨r, env, ctrs, ss, k', .run⟩ :: rest, .running⟩)
  | endRoot (r env ctrs) :
      Rule src ⟨r, env, ctrs, .nil, .done, .run⟩ [] ⟨[⟨r, env, ctrs, .nil, .done, .run⟩], .halted⟩
  | endRet (r env ctrs r2 env2 ctrs2 focus2 k2 x cs rest') :
      Rule src ⟨r, env, ctrs, .nil, .done, .run⟩ (⟨r2, env2, ctrs2, focus2, k2, .wait x cs⟩ :: rest')
        ⟨⟨r2, env2, ctrs2, focus2, k2,
            .ret (env.get (match src.progs[r]? with | some pd => pd.out | none => [])) x cs⟩ :: rest',
          .running⟩
  | endStuck (r env ctrs caller rest') (h : ∀ x cs, caller.ctrl ≠ .wait x cs) :
      Rule src ⟨r, env, ctrs, .nil, .done, .run⟩ (caller :: rest')
        ⟨⟨r, env, ctrs, .nil, .done, .run⟩ :: caller :: rest', .stuck⟩
  | evalSimple (r env ctrs focus k v n x cs rest) (hv : SimpleVal env v n) :
      Rule src ⟨r, env, ctrs, focus, k, .eval v x cs⟩ rest
        ⟨⟨r, env, ctrs, focus, k, .ret n x cs⟩ :: rest, .running⟩
  | evalCallNil (r env ctrs focus k f x cs rest) :
      Rule src ⟨r, env, ctrs, focus, k, .eval (.call f .nil) x cs⟩ rest
        (doCall src ⟨r, env, ctrs, focus, k, .wait x cs⟩ rest f [])
  | evalCallCons (r env ctrs focus k f a0 as0 x cs rest) :
      Rule src ⟨r, env, ctrs, focus, k, .eval (.call f (.cons a0 as0)) x cs⟩ rest
        ⟨⟨r, env, ctrs, focus, k, .eval a0 x (⟨f, [], as0⟩ :: cs)⟩ :: rest, .running⟩
  | retNil (r env ctrs focus k n x rest) :
      Rule src ⟨r, env, ctrs, focus, k, .ret n x []⟩ rest
        ⟨⟨r, env.set x n, ctrs, focus, k, .run⟩ :: rest, .running⟩
  | retCall (r env ctrs focus k n x f done cs' rest) :
      Rule src ⟨r, env, ctrs, focus, k, .ret n x (⟨f, done, .nil⟩ :: cs')⟩ rest
        (doCall src ⟨r, env, ctrs, focus, k, .wait x cs'⟩ rest f (done ++ [n]))
  | retMore (r env ctrs focus k n x f done a0 as0 cs' rest) :
      Rule src ⟨r, env, ctrs, focus, k, .ret n x (⟨f, done, .cons a0 as0⟩ :: cs')⟩ rest
        ⟨⟨r, env, ctrs, focus, k, .eval a0 x (⟨f, done ++ [n], as0⟩ :: cs')⟩ :: rest, .running⟩
  | waitStuck (r env ctrs focus k x cs rest) :
      Rule src ⟨r, env, ctrs, focus, k, .wait x cs⟩ rest
        ⟨⟨r, env, ctrs, focus, k, .wait x cs⟩ :: rest, .stuck⟩

theorem step_rule (src : Source) (fr : Frame) (rest : List Frame) :
    Rule src fr rest (Sem.step src ⟨fr :: rest, .running⟩) := by
  obtain ⟨r, env, ctrs, focus, k, ctrl⟩ := fr
  cases ctrl with
  | run =>
    cases focus with
    | cons s ss =>
      cases s with
      | assign x v pos => exact .assign ..
      | mark m pos => exact .mark ..
      | loop id x body pos => exact .loop ..
      | while_ x body pos => exact .while_ ..
      | goto m pos => exact .goto ..
      | ifGoto x cst m pos => exact .ifGoto ..
      | stop pos => exact .stop ..
    | nil =>
      cases k with
      | loop id body ss k' => exact .endLoop ..
      | while_ x body ss k' => exact .endWhile ..
      | done =>
        cases rest with
        | nil => exact .endRoot ..
        | cons caller rest' =>
          obtain ⟨r2, env2, ctrs2, focus2, k2, ctrl2⟩ := caller
          cases ctrl2 with
          | wait x cs => exact .endRet ..
          | run => exact .endStuck _ _ _ _ _ (fun _ _ h => nomatch h)
          | eval _ _ _ => exact .endStuck _ _ _ _ _ (fun _ _ h => nomatch h)
          | ret _ _ _ => exact .endStuck _ _ _ _ _ (fun _ _ h => nomatch h)
  | eval v x cs =>
    cases v with
    | var y => exact .evalSimple _ _ _ _ _ _ _ _ _ _ (.var y)
    | num n => exact .evalSimple _ _ _ _ _ _ _ _ _ _ (.num n)
    | inc y c => exact .evalSimple _ _ _ _ _ _ _ _ _ _ (.inc y c)
    | dec y c => exact .evalSimple _ _ _ _ _ _ _ _ _ _ (.dec y c)
    | call f args =>
      cases args with
      | nil => exact .evalCallNil ..
      | cons a0 as0 => exact .evalCallCons ..
  | ret n x cs =>
    cases cs with
    | nil => exact .retNil ..
    | cons c1 cs' =>
      obtain ⟨f, done, todo⟩ := c1
      cases todo with
      | nil => exact .retCall ..
      | cons a0 as0 => exact .retMore ..
  | wait x cs => exact .waitStuck ..

/- `cmeasure`: the size of what is left of the focus; on every reachable configuration it is at most
   the width of the source (`cmeasure_le_width`, SimCountWidth.lean). -/

mutual
def vsize : Value → Nat
  | .var _ => 1
  | .num _ => 1
  | .inc _ _ => 1
  | .dec _ _ => 1
  | .call _ args => 1 + vssize args
def vssize : Values → Nat
  | .nil => 0
  | .cons a as => vsize a + vssize as + 1
end

def ssize1 : Stmt → Nat
  | .assign _ v _ => vsize v + 2
  | _ => 1

def fsize : Stmts → Nat
  | .nil => 0
  | .cons s ss => ssize1 s + fsize ss + 1

def csize : List ECtx → Nat
  | [] => 0
  | c :: cs => vssize c.todo + 1 + csize cs

def fmeasure (fr : Frame) : Nat :=
  match fr.ctrl with
  | .run => fsize fr.focus
  | .eval v _ cs => vsize v + csize cs + fsize fr.focus + 1
  | .ret _ _ cs => csize cs + fsize fr.focus + 1
  | .wait _ _ => 0

def cmeasure (c : Config) : Nat :=
  match c.stack with
  | fr :: _ => fmeasure fr
  | [] => 0

end Sim
end Theo
