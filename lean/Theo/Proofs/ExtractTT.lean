/-
  The descent of `extractMacros` (S / D / MD / A).  One preservation principle (`ExStep`): a
  predicate on extraction states that the primitive steps of the descent preserve holds after
  `exS`.  Here it gives: the slot table `tt` of every extracted definition is strictly increasing
  (hence has no repeats) — the positions pushed by `ExSt.pushRule` are `rule.length - 1` right after
  the rule has been extended, and every position already in the table is `<` the old rule length;
  `checkInsertions` only rewrites bodies.
-/
import Theo.Model.MacroExtract
import Theo.Proofs.Invariant

namespace Theo

/-- `I` is preserved by the primitive steps of the descent; a token is pushed onto a rule or a body
    only when one is under the cursor -/
structure ExStep (I : ExSt → Prop) : Prop where
  err : ∀ {es : ExSt} (k : Nat), I es → I (es.err k)
  setPos : ∀ {es : ExSt} (n : Nat), I es → I { es with pos := n }
  copy : ∀ {es : ExSt}, I es → I es.copy
  pushMacro : ∀ {es : ExSt}, I es → I es.pushMacro
  popMacro : ∀ {es : ExSt}, I es → I es.popMacro
  pushRule : ∀ {es : ExSt}, es.la ≠ Tok.T_EOF → I es → I es.pushRule
  pushBody : ∀ {es : ExSt}, es.la ≠ Tok.T_EOF → I es → I es.pushBody
  setPrio : ∀ {es : ExSt} (v : Int), I es → I (es.modifyLast (fun m => { m with priority := v }))

/-- the optional `PRIO <int>` part of a definition head -/
def prioPart (es1 : ExSt) : ExSt :=
  if es1.la = Tok.PRIORITY then
    let es1a := es1.advance
    let (es1b, ok) := es1a.matchK Tok.INT
    if ok then
      let text := ((es1b.toks[es1b.pos - 1]?).getD default).text
      let (es1c, v) := es1b.strToInt text
      es1c.modifyLast (fun m => { m with priority := v })
    else es1b
  else es1

theorem exS_succ (f : Nat) (es : ExSt) : exS (f + 1) es =
    if es.la = Tok.T_EOF then es.copy.advance
    else if es.la = Tok.DEFINE then
      exS f (exMD (2 * es.toks.length + 4) true (prioPart es.advance.pushMacro))
    else exS f es.copy.advance := by
  rw [exS]
  rfl

namespace ExStep
variable {I : ExSt → Prop} (h : ExStep I) {es : ExSt}
include h

theorem advance (hi : I es) : I es.advance := h.setPos _ hi

theorem matchK (hi : I es) (k : Nat) : I (es.matchK k).1 := by
  unfold ExSt.matchK
  exact ite_ind (p := fun x : ExSt × Bool => I x.1) (h.setPos _ (h.err _ hi)) (h.setPos _ hi)

theorem strToInt (hi : I es) (text : Bytes) : I (es.strToInt text).1 := by
  unfold ExSt.strToInt
  dsimp only
  exact ite_ind (h.err _ hi) hi

theorem exA : ∀ (f : Nat) (es : ExSt), I es → I (exA f es)
  | 0, es, hi => by rw [Theo.exA]; exact hi
  | f + 1, es, hi => by
    rw [Theo.exA]
    by_cases h1 : es.la = Tok.T_EOF
    · rw [if_pos h1]; exact h.matchK hi _
    · rw [if_neg h1]
      exact ite_ind (h.advance hi)
        (ite_ind (exA f _ (h.advance (h.err _ hi))) (exA f _ (h.advance (h.pushBody h1 hi))))

theorem exMD : ∀ (f : Nat) (first : Bool) (es : ExSt), I es → I (exMD f first es)
  | 0, _, es, hi => by rw [Theo.exMD]; exact hi
  | f + 1, first, es, hi => by
    rw [Theo.exMD]
    by_cases h1 : es.la = Tok.T_EOF
    · rw [if_pos h1]; exact h.popMacro (h.exA _ _ (h.matchK hi _))
    · rw [if_neg h1]
      exact ite_ind
        (ite_ind (h.popMacro (h.exA _ _ (h.advance (h.err _ hi)))) (h.exA _ _ (h.advance hi)))
        (ite_ind (exMD f _ _ (h.advance (h.err _ hi))) (exMD f _ _ (h.advance (h.pushRule h1 hi))))

theorem prioPart (hi : I es) : I (prioPart es) := by
  unfold Theo.prioPart
  by_cases hc : es.la = Tok.PRIORITY
  · rw [if_pos hc]
    have h1 := h.matchK (h.advance hi) Tok.INT
    dsimp only
    generalize es.advance.matchK Tok.INT = r at h1 ⊢
    obtain ⟨es1b, ok⟩ := r
    cases ok
    · exact h1
    · exact h.setPrio _ (h.strToInt h1 _)
  · rw [if_neg hc]; exact hi

theorem exS : ∀ (f : Nat) (es : ExSt), I es → I (exS f es)
  | 0, es, hi => by rw [Theo.exS]; exact hi
  | f + 1, es, hi => by
    rw [exS_succ]
    exact ite_ind (h.advance (h.copy hi))
      (ite_ind (exS f _ (h.exMD _ _ _ (h.prioPart (h.pushMacro (h.advance hi)))))
        (exS f _ (h.advance (h.copy hi))))

end ExStep

def MacroDef.ttInc (m : MacroDef) : Prop :=
  m.tt.Pairwise (· < ·) ∧ ∀ i ∈ m.tt, i < m.rule.length

def ExSt.ttGood (es : ExSt) : Prop := ∀ m ∈ es.macros, m.ttInc

theorem pairwise_lt_nodup {l : List Nat} (h : l.Pairwise (· < ·)) : l.Nodup :=
  h.imp Nat.ne_of_lt

theorem pairwise_lt_snoc {l : List Nat} {n : Nat} (h : l.Pairwise (· < ·)) (hb : ∀ i ∈ l, i < n) :
    (l ++ [n]).Pairwise (· < ·) :=
  List.pairwise_append.2 ⟨h, List.pairwise_singleton _ _,
    fun a ha _ hb' => List.mem_singleton.1 hb' ▸ hb a ha⟩

namespace ExSt

theorem ttGood_pushMacro {es : ExSt} (h : es.ttGood) : es.pushMacro.ttGood := by
  intro m hm
  rcases List.mem_append.mp hm with hm | hm
  · exact h m hm
  · rw [List.mem_singleton.mp hm]
    exact ⟨List.Pairwise.nil, fun i hi => nomatch hi⟩

theorem ttGood_popMacro {es : ExSt} (h : es.ttGood) : es.popMacro.ttGood :=
  fun m hm => h m (List.dropLast_subset _ hm)

theorem ttGood_modifyLast {es : ExSt} (f : MacroDef → MacroDef)
    (hf : ∀ m, m.ttInc → (f m).ttInc) (h : es.ttGood) : (es.modifyLast f).ttGood := by
  unfold modifyLast
  split
  · rename_i m hm
    intro x hx
    rcases List.mem_append.mp hx with hx | hx
    · exact h x (List.dropLast_subset _ hx)
    · rw [List.mem_singleton.mp hx]
      exact hf m (h m (List.mem_of_getLast? hm))
  · exact h

/-- the one step that touches `tt`: the pushed position is the old rule length -/
theorem ttGood_pushRule {es : ExSt} (h : es.ttGood) : es.pushRule.ttGood := by
  refine ttGood_modifyLast _ (fun m ⟨hp, hb⟩ => ?_) h
  have hlt : ∀ i ∈ m.tt, i < (m.rule ++ [(es.toks[es.pos]?).getD default]).length := by
    intro i hi
    have := hb i hi
    rw [List.length_append]
    omega
  simp only []
  split
  · exact ⟨hp, hlt⟩
  · split
    · refine ⟨pairwise_lt_snoc hp (by simpa using hb), fun i hi => ?_⟩
      rcases List.mem_append.mp hi with hi | hi
      · exact hlt i hi
      · rw [List.mem_singleton.mp hi, List.length_append, List.length_singleton]
        omega
    · exact ⟨hp, hlt⟩

end ExSt

theorem ExSt.ttGood_step : ExStep ExSt.ttGood where
  err _ h := h
  setPos _ h := h
  copy h := h
  pushMacro := ExSt.ttGood_pushMacro
  popMacro := ExSt.ttGood_popMacro
  pushRule _ := ExSt.ttGood_pushRule
  pushBody _ := ExSt.ttGood_modifyLast _ (fun _ hm => ⟨hm.1, hm.2⟩)
  setPrio _ := ExSt.ttGood_modifyLast _ (fun _ hm => ⟨hm.1, hm.2⟩)

def ciBody (endTok : Token) (m : MacroDef) (errs : List PErr) : List Token × List PErr :=
  m.body.foldl (fun (a : List Token × List PErr) t =>
      if t.kind = Tok.INSERTION then
        let v := strtolNat (t.text.drop 1)
        let e1 := if macroRangeBad v then a.2 ++ [⟨PErrT.RANGE, endTok.file, endTok.line, []⟩] else a.2
        let ind := toInt32 v
        if ind < 0 ∨ ind ≥ (m.tt.length : Int) then
          (a.1 ++ [{ t with kind := Tok.ID, text := [101, 114, 114, 111, 114] }],
           e1 ++ [⟨PErrT.RANGE, t.file, t.line, []⟩])
        else (a.1 ++ [t], e1)
      else (a.1 ++ [t], a.2)) ([], errs)

theorem checkInsertions_eq (endTok : Token) (ms : List MacroDef) (errs : List PErr) :
    checkInsertions endTok ms errs =
      ms.foldl (fun (acc : List MacroDef × List PErr) m =>
        (acc.1 ++ [{ m with body := (ciBody endTok m acc.2).1 }], (ciBody endTok m acc.2).2)) ([], errs) :=
  rfl

theorem checkInsertions_ttInc (endTok : Token) (ms : List MacroDef) (errs : List PErr)
    (h : ∀ m ∈ ms, m.ttInc) : ∀ m ∈ (checkInsertions endTok ms errs).1, m.ttInc := by
  rw [checkInsertions_eq]
  exact foldl_inv (fun acc : List MacroDef × List PErr => ∀ m ∈ acc.1, m.ttInc) MacroDef.ttInc _
    (fun acc m ha hm => forall_snoc (a := { m with body := (ciBody endTok m acc.2).1 }) ha ⟨hm.1, hm.2⟩) ms _ (List.forall_mem_nil _) h

end Theo
