/-
  Everything `shapeCheck` establishes about a program, routine by routine (`Valid`, `Valid.OK`).
-/
import Theo.Proofs.SimShape

namespace Theo
namespace Sim
open Sem

/-- the jumps over the routine bodies, from the instruction after the root `PREPARE` to `main` -/
inductive Skips (code : List Instr) : Nat → Nat → Prop where
  | refl (pc : Nat) : Skips code pc pc
  | jump {pc : Nat} {off : Int} {after pcF : Nat} : code[skipc code pc]? = some (.jmp off) →
      ((skipc code pc : Nat) : Int) + off = (after : Int) → Skips code after pcF → Skips code pc pcF

/-- `n` jumps as in `Skips`, with at most `S` sites in front of each (`S = 0`: the jumps stand
    exactly at `pc`, `after`, …) -/
inductive SkipsS (code : List Instr) (S : Nat) : Nat → Nat → Nat → Prop where
  | refl (pc : Nat) : SkipsS code S 0 pc pc
  | jump {n pc : Nat} {off : Int} {after pcF : Nat} : skipc code pc ≤ pc + S →
      code[skipc code pc]? = some (.jmp off) →
      ((skipc code pc : Nat) : Int) + off = (after : Int) → SkipsS code S n after pcF →
      SkipsS code S (n + 1) pc pcF

theorem SkipsS.skips {code : List Instr} {S n pc pcF : Nat} (h : SkipsS code S n pc pcF) :
    Skips code pc pcF := by
  induction h with
  | refl pc => exact Skips.refl pc
  | jump _ h1 h2 _ ih => exact Skips.jump h1 h2 ih

theorem checkProgs_specN (p : Program) (src : Source) {S : Nat} (hS : SiteBound p.code S) :
    ∀ (rest : List ProgDef) (i : Nat) (infos : List RInfo) (pc : Nat) (infosF : List RInfo)
      (pcF : Nat),
    checkProgs p src rest i infos pc = some (infosF, pcF) →
    ∃ more : List (RInfo × Walk), infosF = infos ++ more.map (·.1) ∧ more.length = rest.length ∧
      (∀ k pd, rest[k]? = some pd → ∃ rg, more[k]? = some rg ∧
        RoutOK src p (infos ++ (more.take k).map (·.1)) (i + k) pd rg.1 rg.2) ∧
      SkipsS p.code S rest.length pc pcF := by
  intro rest
  induction rest with
  | nil =>
    intro i infos pc infosF pcF h
    simp only [checkProgs] at h
    cases h
    exact ⟨[], by simp, rfl, fun k pd hk => by simp at hk, SkipsS.refl _⟩
  | cons pd rest ih =>
    intro i infos pc infosF pcF h
    obtain ⟨off, sm, w, h1, h2, hro, hoff, h⟩ := checkProgs_cons_iff.1 h
    obtain ⟨more, g1, g2, g3, g4⟩ := ih _ _ _ _ _ h
    refine ⟨(⟨skipc p.code pc + 1, i, sm.map⟩, w) :: more, ?_, by simp [g2], ?_,
      SkipsS.jump (hS _) h1 hoff g4⟩
    · rw [g1]; simp
    · intro k pd' hk
      cases k with
      | zero =>
        simp only [List.getElem?_cons_zero, Option.some.injEq] at hk
        subst hk
        refine ⟨_, rfl, ?_⟩
        simp only [List.take_zero, List.map_nil, List.append_nil, Nat.add_zero]
        exact hro
      | succ k =>
        simp only [List.getElem?_cons_succ] at hk ⊢
        obtain ⟨rg, q1, q2⟩ := g3 k pd' hk
        refine ⟨rg, q1, ?_⟩
        simp only [List.take_succ_cons, List.map_cons]
        rw [show i + (k + 1) = i + 1 + k by omega]
        simpa using q2

theorem checkProgs_spec (p : Program) (src : Source) (rest : List ProgDef) (i : Nat)
    (infos : List RInfo) (pc : Nat) (infosF : List RInfo) (pcF : Nat)
    (h : checkProgs p src rest i infos pc = some (infosF, pcF)) :
    ∃ more : List (RInfo × Walk), infosF = infos ++ more.map (·.1) ∧ more.length = rest.length ∧
      (∀ k pd, rest[k]? = some pd → ∃ rg, more[k]? = some rg ∧
        RoutOK src p (infos ++ (more.take k).map (·.1)) (i + k) pd rg.1 rg.2) ∧
      Skips p.code pc pcF := by
  obtain ⟨more, h1, h2, h3, h4⟩ :=
    checkProgs_specN p src (siteBound_maxSiteRun p.code) rest i infos pc infosF pcF h
  exact ⟨more, h1, h2, h3, h4.skips⟩

/-- the validated layout of a program: per routine `r` (the root is `r = progs.length`) its
    register information, the final walk of its body and where the body starts -/
structure Valid (src : Source) (p : Program) where
  infos : List RInfo
  ri : Nat → RInfo
  G : Nat → Walk
  start : Nat → Nat

/-- the environment `shapeCheck` checks routine `r` in: it may call the routines before it -/
def Valid.env {src : Source} {p : Program} (V : Valid src p) (r : Nat) : VEnv :=
  ⟨p.code, src, V.ri r, r, V.infos.take r⟩

structure Valid.OK {src : Source} {p : Program} (V : Valid src p) : Prop where
  len : V.infos.length = src.progs.length
  info : ∀ j, j < src.progs.length → V.infos[j]? = some (V.ri j)
  mi : ∀ r, r ≤ src.progs.length → (V.ri r).mi = r
  entry : ∀ r, r < src.progs.length → (V.ri r).entry = V.start r
  regs : ∀ r, r ≤ src.progs.length → ∃ sm, p.stackMaps[r]? = some sm ∧ (V.ri r).regs = sm.map
  nodup : ∀ r, r ≤ src.progs.length → namesNodup (V.ri r) = true
  chk : ∀ r, r ≤ src.progs.length →
    checkStmts (V.env r) (bodyOf src r) ⟨V.start r, [], []⟩ = some (V.G r)
  res : ∀ r, r ≤ src.progs.length → resolveOK p.code (V.G r) = true
  rout : ∀ r, r < src.progs.length → ∃ pd ro, src.progs[r]? = some pd ∧
    paramsOK (V.ri r) pd.params = true ∧ (V.env r).at (V.G r).pc = some (.ret ro) ∧
    (V.ri r).regOf pd.out = some ro
  halt : p.code[skipc p.code (V.G src.progs.length).pc]? = some .halt
  last : skipc p.code (V.G src.progs.length).pc + 1 = p.code.length
  head : ∃ cnt tgt, p.code[0]? = some (.prepare cnt (src.progs.length : Int) tgt)
  skips : Skips p.code 1 (V.start src.progs.length)

theorem valid_of_shapeCheck_strong {src : Source} {p : Program} (h : shapeCheck src p = true) :
    ∃ V : Valid src p, V.OK ∧
      checkProgs p src src.progs 0 [] 1 = some (V.infos, V.start src.progs.length) ∧
      ∃ sm, p.stackMaps[src.progs.length]? = some sm ∧
        V.ri src.progs.length = ⟨0, src.progs.length, sm.map⟩ := by
  unfold shapeCheck at h
  split at h
  · rename_i cnt mi tgt crest hcode
    split at h
    · rename_i infosF pcM hprogs
      split at h
      · rename_i sm hsm
        simp only [Bool.and_eq_true, decide_eq_true_eq] at h
        obtain ⟨⟨hmi, hnd⟩, h⟩ := h
        split at h
        · rename_i wR hchk
          simp only [Bool.and_eq_true, beq_iff_eq] at h
          obtain ⟨⟨hres, hlast⟩, hhalt⟩ := h
          obtain ⟨more, g1, g2, g3, g4⟩ := checkProgs_spec p src _ _ _ _ _ _ hprogs
          simp only [List.nil_append, Nat.zero_add] at g1 g3
          have hlen : infosF.length = src.progs.length := by rw [g1, List.length_map, g2]
          obtain ⟨lay, hroot, hsome⟩ : ∃ lay : Nat → RInfo × Walk,
              lay src.progs.length = (⟨0, src.progs.length, sm.map⟩, wR) ∧
              ∀ r, r < src.progs.length → ∃ pd, src.progs[r]? = some pd ∧ more[r]? = some (lay r) ∧
                RoutOK src p (infosF.take r) r pd (lay r).1 (lay r).2 := by
            refine ⟨fun r => (more[r]?).getD (⟨0, src.progs.length, sm.map⟩, wR), ?_, fun r hr => ?_⟩
            · show (more[src.progs.length]?).getD _ = _
              rw [List.getElem?_eq_none (Nat.le_of_eq g2), Option.getD_none]
            · obtain ⟨rg, q1, q2⟩ := g3 r _ (List.getElem?_eq_getElem hr)
              show ∃ pd, _ ∧ _ = some ((more[r]?).getD _) ∧
                RoutOK src p _ r pd ((more[r]?).getD _).1 ((more[r]?).getD _).2
              rw [q1, g1, ← List.map_take]
              exact ⟨_, List.getElem?_eq_getElem hr, rfl, q2⟩
          obtain ⟨start, hsL, hsr⟩ : ∃ start : Nat → Nat, start src.progs.length = pcM ∧
              ∀ r, r < src.progs.length → start r = (lay r).1.entry :=
            ⟨fun r => if r < src.progs.length then (lay r).1.entry else pcM,
              if_neg (Nat.lt_irrefl _), fun r hr => if_pos hr⟩
          have hall : ∀ r, r ≤ src.progs.length → (lay r).1.mi = r ∧
              (∃ sm', p.stackMaps[r]? = some sm' ∧ (lay r).1.regs = sm'.map) ∧
              namesNodup (lay r).1 = true ∧
              checkStmts ⟨p.code, src, (lay r).1, r, infosF.take r⟩ (bodyOf src r)
                ⟨start r, [], []⟩ = some (lay r).2 ∧
              resolveOK p.code (lay r).2 = true := by
            intro r hr
            unfold bodyOf
            rcases Nat.lt_or_eq_of_le hr with hlt | rfl
            · obtain ⟨pd, q1, _, q⟩ := hsome r hlt
              rw [hsr r hlt, q1]
              exact ⟨q.1, q.2.1, q.2.2.1, q.2.2.2.2.1, q.2.2.2.2.2.1⟩
            · rw [hsL, hroot, List.getElem?_eq_none (Nat.le_refl _),
                List.take_of_length_le (Nat.le_of_eq hlen)]
              exact ⟨rfl, ⟨sm, hsm, rfl⟩, hnd, hchk, hres⟩
          rw [← hsL] at hprogs g4
          rw [show wR = (lay src.progs.length).2 by rw [hroot]] at hhalt hlast
          refine ⟨⟨infosF, fun r => (lay r).1, fun r => (lay r).2, start⟩, ?_, hprogs,
            sm, hsm, by show (lay _).1 = _; rw [hroot]⟩
          exact
            { len := hlen
              info := fun j hj => by
                obtain ⟨pd, _, q, _⟩ := hsome j hj
                rw [g1, List.getElem?_map, q]
                rfl
              mi := fun r hr => (hall r hr).1
              entry := fun r hr => (hsr r hr).symm
              regs := fun r hr => (hall r hr).2.1
              nodup := fun r hr => (hall r hr).2.2.1
              chk := fun r hr => (hall r hr).2.2.2.1
              res := fun r hr => (hall r hr).2.2.2.2
              rout := fun r hr => by
                obtain ⟨pd, q1, _, q⟩ := hsome r hr
                obtain ⟨ro, q4, q5⟩ := q.2.2.2.2.2.2
                exact ⟨pd, ro, q1, q.2.2.2.1, q4, q5⟩
              halt := hhalt
              last := hlast
              head := by rw [hcode, hmi]; exact ⟨cnt, tgt, rfl⟩
              skips := g4 }
        · cases h
      · cases h
    · cases h
  · cases h

theorem valid_of_shapeCheck {src : Source} {p : Program} (h : shapeCheck src p = true) :
    ∃ V : Valid src p, V.OK := by
  obtain ⟨V, hV, _⟩ := valid_of_shapeCheck_strong h
  exact ⟨V, hV⟩

theorem valid_of_shapeCheck_skipsN {src : Source} {p : Program} (h : shapeCheck src p = true)
    {S : Nat} (hS : SiteBound p.code S) :
    ∃ V : Valid src p, V.OK ∧ SkipsS p.code S src.progs.length 1 (V.start src.progs.length) := by
  obtain ⟨V, hV, hchk, _⟩ := valid_of_shapeCheck_strong h
  obtain ⟨_, _, _, _, hsk⟩ := checkProgs_specN p src hS _ _ _ _ _ _ hchk
  exact ⟨V, hV, hsk⟩

end Sim
end Theo
