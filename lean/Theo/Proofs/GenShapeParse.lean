/-
  C01 for the generator model: an error-free parse builds a tree that satisfies the
  identifier part of the side condition (`astIdents`: operands present, variables `varOK`)
  whenever the texts of the ID tokens are `varOK` — so for sources a user can write only the
  uniqueness of jump targets (`astLabels`) remains of `astNames` (`astNames_eq`, `parser_idents`).
-/
import Theo.Proofs.GenShapeGen
import Theo.Proofs.StaticParse

namespace Theo
namespace GenShape
open GS Sem Static C04

def astIdents : Node → Bool
  | .nil => true
  | .mk t tok f ln l r =>
    if t = NodeT.SPLIT ∧ l.ty = NodeT.PROGRAM then progNames l.left && stmtNames l.right && astIdents r
    else stmtNames (.mk t tok f ln l r)

def astLabels : Node → Bool
  | .nil => true
  | .mk t tok f ln l r =>
    if t = NodeT.SPLIT ∧ l.ty = NodeT.PROGRAM then labelsOK l.right && astLabels r
    else labelsOK (.mk t tok f ln l r)

theorem astNames_eq : ∀ root : Node, astNames root = (astIdents root && astLabels root)
  | .nil => by rw [astNames, astIdents, astLabels]; rfl
  | .mk t tok f ln l r => by
    rw [astNames, astIdents, astLabels]
    by_cases h : t = NodeT.SPLIT ∧ l.ty = NodeT.PROGRAM
    · rw [if_pos h, if_pos h, if_pos h, astNames_eq r, Bool.and_assoc _ (labelsOK _), Bool.and_assoc _ (astIdents r),
        Bool.and_left_comm (labelsOK _)]
    · rw [if_neg h, if_neg h, if_neg h]

theorem valNames_leafName (t : Token) : valNames (leaf NodeT.NAME t) = varOK t.text := rfl
theorem valNames_leafNumber (t : Token) : valNames (leaf NodeT.NUMBER t) = true := rfl
theorem valNames_call (n a args : Node) : valNames (mkAt NodeT.CALL n a args) = valNames args := rfl
theorem valNames_split (n a b : Node) : valNames (mkAt NodeT.SPLIT n a b) = (valNames a && valNames b) := rfl
theorem stmtNames_split (n a b : Node) : stmtNames (mkAt NodeT.SPLIT n a b) = (stmtNames a && stmtNames b) := rfl
theorem stmtNames_assign (n : Node) (t : Token) (v : Node) :
    stmtNames (mkAt NodeT.ASSIGN n (leaf NodeT.NAME t) v) = (varOK t.text && !isNil v && valNames v) := rfl
theorem stmtNames_mark (n a b : Node) : stmtNames (mkAt NodeT.MARK n a b) = true := rfl
theorem stmtNames_goto (n a b : Node) : stmtNames (mkAt NodeT.GOTO n a b) = true := rfl
theorem stmtNames_stop (t : Token) : stmtNames (leaf NodeT.STOP t) = true := rfl
theorem stmtNames_loop (t : Nat) (ht : t = NodeT.LOOP ∨ t = NodeT.WHILE) (n : Node) (tk : Token) (b : Node) :
    stmtNames (mkAt t n (leaf NodeT.NAME tk) b) = (varOK tk.text && stmtNames b) := by
  rcases ht with rfl | rfl <;> rfl
theorem stmtNames_if (n m : Node) (t1 t2 : Token) (g : Node) :
    stmtNames (mkAt NodeT.IF n (mkAt NodeT.EQ m (leaf NodeT.NAME t1) (leaf NodeT.NUMBER t2)) g) = varOK t1.text := rfl
theorem namesOf_arg (n : Node) (t : Token) (more : Node) :
    namesOf (mkAt NodeT.SPLIT n (leaf NodeT.NAME t) more) = t.text :: namesOf more := rfl
theorem outNameOf_nil_ok : varOK (outNameOf .nil) = true := by decide
theorem isNil_of_ne {n : Node} (h : n ≠ .nil) : isNil n = false := by
  cases n with
  | nil => exact absurd rfl h
  | mk => rfl

theorem astIdents_of_stmt : ∀ n : Node, stmtShape n = true → stmtNames n = true → astIdents n = true
  | .nil, _, _ => by rw [astIdents]
  | .mk t tok file line l r, h, hn => by rw [astIdents, if_neg (stmtShape_not_prog h)]; exact hn

theorem astIdents_prog (n nm hdr body more : Node) :
    astIdents (mkAt NodeT.SPLIT n (mkAt NodeT.PROGRAM nm hdr body) more) =
      (progNames hdr && stmtNames body && astIdents more) := rfl
theorem progNames_split (n name port : Node) : progNames (mkAt NodeT.SPLIT n name port) =
    ((namesOf port.left).all varOK && varOK (outNameOf port.right)) := rfl

def Toks (ts : List Token) : Prop := ∀ t ∈ ts, t.kind = Tok.ID → varOK t.text = true

theorem Toks.hd {t : Token} {r : List Token} (h : Toks (t :: r)) (k : t.kind = Tok.ID) : varOK t.text = true :=
  h t List.mem_cons_self k
theorem Toks.tl {t : Token} {r : List Token} (h : Toks (t :: r)) : Toks r :=
  fun x hx => h x (List.mem_cons_of_mem _ hx)

def NamesOf : RK → Node → Prop
  | .VALUE, n | .MVARGS, n => valNames n = true
  | .ARGS, n => (namesOf n).all varOK = true
  | .OPORTS, n => varOK (outNameOf n) = true
  | .PORTS, n => (namesOf n.left).all varOK = true ∧ varOK (outNameOf n.right) = true
  | .P, n | .TAIL, n => stmtNames n = true
  | .S, n => astIdents n = true

theorem built_names {k : RK} {ts ts' : List Token} {n : Node} (h : Built k ts ts' n) :
    Toks ts → NamesOf k n ∧ Toks ts' := by
  induction h with
  | s_prog _ _ _ _ _ _ _ ih1 ih2 ih3 =>
    intro h
    obtain ⟨⟨a1, a2⟩, h1⟩ := ih1 h.tl.tl
    obtain ⟨(n2 : stmtNames _ = true), h2⟩ := ih2 h1.tl
    obtain ⟨(n3 : astIdents _ = true), h3⟩ := ih3 h2.tl
    refine ⟨?_, h3⟩
    show astIdents _ = true
    rw [astIdents_prog, progNames_split, a1, a2, stmtNames_split, stmtNames_mark, n2, n3]; rfl
  | s_p _ hp ih => exact fun h => ⟨astIdents_of_stmt _ (built_shape hp) (ih h).1, (ih h).2⟩
  | ports_nil _ => exact fun h => ⟨⟨rfl, outNameOf_nil_ok⟩, h⟩
  | ports_in _ _ _ ih1 ih2 =>
    intro h
    obtain ⟨n1, h1⟩ := ih1 h.tl
    obtain ⟨n2, h2⟩ := ih2 h1
    exact ⟨⟨n1, n2⟩, h2⟩
  | oports_nil _ => exact fun h => ⟨outNameOf_nil_ok, h⟩
  | oports_out _ k2 => exact fun h => ⟨h.tl.hd k2, h.tl.tl⟩
  | args_one k1 _ =>
    intro h
    refine ⟨?_, h.tl⟩
    show (namesOf _).all varOK = true
    rw [namesOf_arg, List.all_cons, h.hd k1]; rfl
  | args_more k1 _ _ ih =>
    intro h
    obtain ⟨(n1 : (namesOf _).all varOK = true), h1⟩ := ih h.tl.tl
    refine ⟨?_, h1⟩
    show (namesOf _).all varOK = true
    rw [namesOf_arg, List.all_cons, h.hd k1, n1]; rfl
  | p_assign k1 _ hv _ ih1 ih2 =>
    intro h
    obtain ⟨(n1 : valNames _ = true), h1⟩ := ih1 h.tl.tl
    obtain ⟨(n2 : stmtNames _ = true), h2⟩ := ih2 h1
    refine ⟨?_, h2⟩
    show stmtNames _ = true
    rw [stmtNames_split, stmtNames_assign, h.hd k1, isNil_of_ne hv.value_ne_nil, n1, n2]; rfl
  | p_label _ _ _ _ ih1 ih2 =>
    intro h
    obtain ⟨(n1 : stmtNames _ = true), h1⟩ := ih1 h.tl.tl
    obtain ⟨(n2 : stmtNames _ = true), h2⟩ := ih2 h1
    refine ⟨?_, h2⟩
    show stmtNames _ = true
    rw [stmtNames_split, stmtNames_split, stmtNames_mark, n1, n2]; rfl
  | p_loop _ k2 _ _ _ _ ih1 ih2 =>
    intro h
    obtain ⟨(n1 : stmtNames _ = true), h1⟩ := ih1 h.tl.tl.tl
    obtain ⟨(n2 : stmtNames _ = true), h2⟩ := ih2 h1.tl
    refine ⟨?_, h2⟩
    show stmtNames _ = true
    rw [stmtNames_split, stmtNames_split, stmtNames_mark, stmtNames_loop _ (Or.inl rfl), h.tl.hd k2, n1, n2]; rfl
  | p_while _ k2 _ _ _ _ _ ih1 ih2 =>
    intro h
    obtain ⟨(n1 : stmtNames _ = true), h1⟩ := ih1 h.tl.tl.tl.tl
    obtain ⟨(n2 : stmtNames _ = true), h2⟩ := ih2 h1.tl
    refine ⟨?_, h2⟩
    show stmtNames _ = true
    rw [stmtNames_split, stmtNames_split, stmtNames_mark, stmtNames_loop _ (Or.inr rfl), h.tl.hd k2, n1, n2]; rfl
  | p_goto _ _ _ ih =>
    intro h
    obtain ⟨(n1 : stmtNames _ = true), h1⟩ := ih h.tl.tl
    refine ⟨?_, h1⟩
    show stmtNames _ = true
    rw [stmtNames_split, stmtNames_goto, n1]; rfl
  | p_if _ k2 _ _ _ _ _ _ ih =>
    intro h
    obtain ⟨(n1 : stmtNames _ = true), h1⟩ := ih h.tl.tl.tl.tl.tl.tl.tl
    refine ⟨?_, h1⟩
    show stmtNames _ = true
    rw [stmtNames_split, stmtNames_if, h.tl.hd k2, n1]; rfl
  | p_stop _ _ ih =>
    intro h
    obtain ⟨(n1 : stmtNames _ = true), h1⟩ := ih h.tl
    refine ⟨?_, h1⟩
    show stmtNames _ = true
    rw [stmtNames_split, stmtNames_stop, n1]; rfl
  | tail_nil _ => exact fun h => ⟨rfl, h⟩
  | tail_semi _ _ ih => exact fun h => ih h.tl
  | value_id k1 => exact fun h => ⟨(valNames_leafName _).trans (h.hd k1), h.tl⟩
  | value_int _ => exact fun h => ⟨valNames_leafNumber _, h.tl⟩
  | value_run0 _ _ _ _ => exact fun h => ⟨valNames_call _ _ .nil, h.tl.tl.tl.tl⟩
  | value_runargs _ _ _ _ _ _ ih1 ih2 =>
    intro h
    obtain ⟨(n1 : valNames _ = true), h1⟩ := ih1 h.tl.tl.tl
    obtain ⟨(n2 : valNames _ = true), h2⟩ := ih2 h1
    refine ⟨?_, h2.tl⟩
    show valNames _ = true
    rw [valNames_call, valNames_split, n1, n2]; rfl
  | mv_nil _ => exact fun h => ⟨rfl, h⟩
  | mv_more _ _ _ ih1 ih2 =>
    intro h
    obtain ⟨(n1 : valNames _ = true), h1⟩ := ih1 h.tl
    obtain ⟨(n2 : valNames _ = true), h2⟩ := ih2 h1
    refine ⟨?_, h2⟩
    show valNames _ = true
    rw [valNames_split, n1, n2]; rfl

theorem parser_idents (ts : List Token) (he : (parseTokens ts).2 = [])
    (hid : ∀ t ∈ ts, t.kind = Tok.ID → varOK t.text = true) : astIdents (parseTokens ts).1 = true :=
  let ⟨_, h, _⟩ := parseTokens_built ts he
  (built_names h hid).1

end GenShape
end Theo
