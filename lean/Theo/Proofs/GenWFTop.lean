/-
  C03 for the generator: the layout of the whole code while the program definitions are
  generated.  `Rt` records one finished routine (entry, position of its RET, frame size, the range
  of labels it owns, its index); `TopCore code n labels todo sms rts` says that the code below
  position `n` is the root PREPARE, then — in between potential-break sites and the `JMP after` of
  every definition — the finished routines, each a `Groups` body followed by its RET.  Pure list
  statements; the generator enters in Proofs/GenWFProg.lean.
-/
import Theo.Proofs.GenWFCount

namespace Theo
namespace GenWF

/-- a finished routine: body `code[entry, ret)` with its RET at `ret`, `frame` registers, owner
    of the labels `[lo, hi)`.  `id` is its index in the routine table (`RtOK.id`); `rdOf` reads
    it off. -/
structure Rt where
  entry : Nat
  ret : Nat
  frame : Nat
  lo : Nat
  hi : Nat
  id : Nat

def Callee (rts : List Rt) (k : Nat) (p : ProgRec) : Prop :=
  ∃ j r, j < k ∧ rts[j]? = some r ∧ p.mi = (j : Int) ∧ p.ind = (r.entry : Int) ∧
    p.stackSize = r.frame ∧ p.argnum ≤ r.frame

theorem Callee.mono {rts rts' : List Rt} {k k' : Nat} {p : ProgRec} (h : Callee rts k p) (hk : k ≤ k')
    (hr : ∀ (j : Nat) (x : Rt), rts[j]? = some x → rts'[j]? = some x) : Callee rts' k' p := by
  obtain ⟨j, r, h1, h2, h3⟩ := h
  exact ⟨j, r, Nat.lt_of_lt_of_le h1 hk, hr j r h2, h3⟩

/-- `r` is the `k`-th routine of `rts`, in `code`.  At `entry - 1` (not position 0 or 1: `e2`)
    stands the `JMP after` of its definition (`jmp`), which is on the backpatch list (`jtodo`);
    its target is the label `lo - 1` (`lo1`), created just before the routine's own labels, and
    that label points behind the RET (`after`).  `jtodos`: every jump inside the body is on the
    backpatch list.  `labs`: the routine's own labels point into `[entry, ret]`, never into a
    call sequence.  `er`, `rl`, `lohi`, `hil` are the bounds `entry ≤ ret < code.length` and
    `lo ≤ hi ≤ labels.length`. -/
structure RtOK (code : List Instr) (labels : List Int) (todo : List Nat) (sms : List StackMap)
    (rts : List Rt) (k : Nat) (r : Rt) : Prop where
  id : r.id = k
  e2 : 2 ≤ r.entry
  er : r.entry ≤ r.ret
  rl : r.ret < code.length
  lo1 : 1 ≤ r.lo
  lohi : r.lo ≤ r.hi
  hil : r.hi ≤ labels.length
  jmp : code[r.entry - 1]? = some (Instr.jmp ((r.lo - 1 : Nat) : Int))
  jtodo : r.entry - 1 ∈ todo
  after : labels[r.lo - 1]? = some ((r.ret + 1 : Nat) : Int)
  retI : ∃ s, code[r.ret]? = some (Instr.ret s) ∧ RegIn s r.frame
  groups : Groups (Callee rts k) r.frame r.lo r.hi (slice code r.entry r.ret)
  labs : ∀ l : Nat, r.lo ≤ l → l < r.hi → ∃ x : Nat, r.entry ≤ x ∧ x ≤ r.ret ∧ labels[l]? = some ((x : Nat) : Int) ∧ Plain code x
  jtodos : ∀ (pc : Nat) (i : Instr), r.entry ≤ pc → pc < r.ret → code[pc]? = some i → isJump i = true → pc ∈ todo
  smap : ∃ sm, sms[k]? = some sm ∧ ∀ e ∈ sm.map, RegIn e.1 r.frame

theorem getElem?_snoc_cases {α : Type} (l : List α) (a : α) (j : Nat) (r : α)
    (h : (l ++ [a])[j]? = some r) : l[j]? = some r ∨ (j = l.length ∧ r = a) := by
  have hj : j < l.length + 1 := by
    have := (List.getElem?_eq_some_iff.1 h).1
    rwa [List.length_append, List.length_singleton] at this
  by_cases hlt : j < l.length
  · rw [List.getElem?_append_left hlt] at h; exact Or.inl h
  · have hje : j = l.length := Nat.le_antisymm (Nat.le_of_lt_succ hj) (Nat.le_of_not_lt hlt)
    rw [hje, List.getElem?_append_right (Nat.le_refl _), Nat.sub_self] at h
    exact Or.inr ⟨hje, (Option.some.inj h).symm⟩

section
variable {code code' : List Instr} {labels labels' : List Int} {todo todo' : List Nat}
  {sms sms' : List StackMap} {rts rts' : List Rt} {n n' : Nat}

theorem RtOK.mono {k : Nat} {r : Rt} (h : RtOK code labels todo sms rts k r)
    (hc : ∀ pc, 1 ≤ pc → pc ≤ r.ret → code'[pc]? = code[pc]?)
    (hll : labels.length ≤ labels'.length) (hl : ∀ l, l < r.hi → labels'[l]? = labels[l]?)
    (ht : ∀ x ∈ todo, x ∈ todo')
    (hs : ∀ (i : Nat) (sm : StackMap), sms[i]? = some sm → sms'[i]? = some sm)
    (hr : ∀ (j : Nat) (x : Rt), rts[j]? = some x → rts'[j]? = some x) : RtOK code' labels' todo' sms' rts' k r := by
  have her := h.er
  have a1 : 1 ≤ r.entry := Nat.le_of_succ_le h.e2
  have a2 : 1 ≤ r.entry - 1 := Nat.le_sub_of_add_le h.e2
  have a3 : r.entry - 1 ≤ r.ret := Nat.le_trans (Nat.sub_le _ _) her
  have a4 : r.lo - 1 < r.hi := Nat.lt_of_lt_of_le (Nat.sub_lt h.lo1 Nat.one_pos) h.lohi
  obtain ⟨s, hs1, hs2⟩ := h.retI
  obtain ⟨sm, hm1, hm2⟩ := h.smap
  have hret' : code'[r.ret]? = some (Instr.ret s) := (hc _ (Nat.le_trans a1 her) (Nat.le_refl _)).trans hs1
  refine ⟨h.id, h.e2, her, (List.getElem?_eq_some_iff.1 hret').1, h.lo1, h.lohi, Nat.le_trans h.hil hll,
    (hc _ a2 a3).trans h.jmp, ht _ h.jtodo, (hl _ a4).trans h.after,
    ⟨s, hret', hs2⟩, ?_, ?_, ?_, ⟨sm, hs _ _ hm1, hm2⟩⟩
  · rw [slice_congr (c := code) (c' := code') (fun pc h1 h2 => hc pc (Nat.le_trans a1 h1) (Nat.le_of_lt h2))]
    exact h.groups.mono (fun p hp => hp.mono (Nat.le_refl _) hr) (Nat.le_refl _) (Nat.le_refl _)
  · intro l h1 h2
    obtain ⟨x, x1, x2, x3, x4⟩ := h.labs l h1 h2
    exact ⟨x, x1, x2, (hl l h2).trans x3, fun i hi => x4 i ((hc x (Nat.le_trans a1 x1) x2) ▸ hi)⟩
  · intro pc i h1 h2 h3 h4
    exact ht _ (h.jtodos pc i h1 h2 ((hc pc (Nat.le_trans a1 h1) (Nat.le_of_lt h2)) ▸ h3) h4)

def Outside (rts : List Rt) (pc : Nat) : Prop := ∀ r ∈ rts, ¬ (r.entry ≤ pc ∧ pc ≤ r.ret)

structure TopCore (code : List Instr) (n : Nat) (labels : List Int) (todo : List Nat) (sms : List StackMap)
    (rts : List Rt) : Prop where
  n1 : 1 ≤ n
  rt : ∀ (k : Nat) (r : Rt), rts[k]? = some r → RtOK code labels todo sms rts k r
  rlt : ∀ (k : Nat) (r : Rt), rts[k]? = some r → r.ret < n
  ord : ∀ (j k : Nat) (rj rk : Rt), j < k → rts[j]? = some rj → rts[k]? = some rk → rj.ret + 1 < rk.entry
  cnt : ∀ (k : Nat) (r : Rt), rts[k]? = some r → countRet code r.entry = k
  cntAll : countRet code n = rts.length
  root : ∀ pc, 1 ≤ pc → pc < n → Outside rts pc →
    code[pc]? = some Instr.potBreak ∨ ∃ r ∈ rts, pc + 1 = r.entry

theorem countRet_extend (c : List Instr) (m : Nat) : ∀ n, m ≤ n →
    (∀ i, m ≤ i → i < n → (c[i]?).map isRet ≠ some true) → countRet c n = countRet c m := by
  intro n
  induction n with
  | zero => intro h _; rw [Nat.le_zero.1 h]
  | succ n ih =>
    intro h hn
    by_cases hm : m = n + 1
    · rw [hm]
    · have hmn : m ≤ n := Nat.le_of_lt_succ (Nat.lt_of_le_of_ne h hm)
      rw [countRet_succ, if_neg (hn n hmn (Nat.lt_succ_self n)), Nat.add_zero]
      exact ih hmn (fun i h1 h2 => hn i h1 (Nat.lt_succ_of_lt h2))

theorem countRet_sites {c : List Instr} {m n : Nat} (hmn : m ≤ n)
    (h : ∀ pc, m ≤ pc → pc < n → c[pc]? = some Instr.potBreak) : countRet c n = countRet c m :=
  countRet_extend c m n hmn (fun i h1 h2 => by rw [h i h1 h2]; exact fun hx => Bool.noConfusion (Option.some.inj hx))

theorem TopCore.mono (h : TopCore code n labels todo sms rts)
    (hc : ∀ pc, 1 ≤ pc → pc < n → code'[pc]? = code[pc]?)
    (h0 : (code'[0]?).map isRet = (code[0]?).map isRet)
    (hll : labels.length ≤ labels'.length) (hl : ∀ l, l < labels.length → labels'[l]? = labels[l]?)
    (ht : ∀ x ∈ todo, x ∈ todo')
    (hs : ∀ (i : Nat) (sm : StackMap), sms[i]? = some sm → sms'[i]? = some sm) :
    TopCore code' n labels' todo' sms' rts := by
  have hret : ∀ i, i < n → (code'[i]?).map isRet = (code[i]?).map isRet := by
    intro i hi
    cases i with
    | zero => exact h0
    | succ i => rw [hc _ (Nat.succ_pos i) hi]
  refine ⟨h.n1, ?_, h.rlt, h.ord, ?_, (countRet_congr hret).trans h.cntAll, ?_⟩
  · intro k r hr
    have ok := h.rt k r hr
    have hlt := h.rlt k r hr
    exact ok.mono (fun pc h1 h2 => hc pc h1 (Nat.lt_of_le_of_lt h2 hlt)) hll
      (fun l hl' => hl l (Nat.lt_of_lt_of_le hl' ok.hil)) ht hs (fun _ _ hx => hx)
  · intro k r hr
    have hlt := Nat.lt_of_le_of_lt (h.rt k r hr).er (h.rlt k r hr)
    exact (countRet_congr (fun i hi => hret i (Nat.lt_trans hi hlt))).trans (h.cnt k r hr)
  · intro pc h1 h2 h3
    rw [hc pc h1 h2]
    exact h.root pc h1 h2 h3

theorem TopCore.extend (h : TopCore code n labels todo sms rts) (hn : n ≤ n')
    (hpb : ∀ pc, n ≤ pc → pc < n' → code[pc]? = some Instr.potBreak) :
    TopCore code n' labels todo sms rts := by
  refine ⟨Nat.le_trans h.n1 hn, h.rt, fun k r hr => Nat.lt_of_lt_of_le (h.rlt k r hr) hn, h.ord, h.cnt,
    (countRet_sites hn hpb).trans h.cntAll, ?_⟩
  intro pc h1 h2 h3
  by_cases hp : pc < n
  · exact h.root pc h1 hp h3
  · exact Or.inl (hpb pc (Nat.le_of_not_lt hp) h2)

theorem TopCore.shrink (h : TopCore code n labels todo sms rts) (h1 : 1 ≤ n') (hn : n' ≤ n)
    (hpb : ∀ pc, n' ≤ pc → pc < n → code[pc]? = some Instr.potBreak) :
    TopCore code n' labels todo sms rts := by
  refine ⟨h1, h.rt, ?_, h.ord, h.cnt, (countRet_sites hn hpb).symm.trans h.cntAll,
    fun pc h1 h2 h3 => h.root pc h1 (Nat.lt_of_lt_of_le h2 hn) h3⟩
  intro k r hr
  obtain ⟨s, hs1, _⟩ := (h.rt k r hr).retI
  apply Nat.lt_of_not_le
  intro hle
  have := hpb r.ret hle (h.rlt k r hr)
  rw [hs1] at this
  cases this

end

theorem routine_code (code seg : List Instr) (j r : Instr) :
    (code ++ [j] ++ seg ++ [r]).length = code.length + 1 + seg.length + 1 ∧
    (∀ pc, pc < code.length → (code ++ [j] ++ seg ++ [r])[pc]? = code[pc]?) ∧
    (code ++ [j] ++ seg ++ [r])[code.length]? = some j ∧
    (∀ k, k < seg.length → (code ++ [j] ++ seg ++ [r])[code.length + 1 + k]? = seg[k]?) ∧
    (code ++ [j] ++ seg ++ [r])[code.length + 1 + seg.length]? = some r := by
  have hl : (code ++ [j]).length = code.length + 1 := by rw [List.length_append, List.length_singleton]
  refine ⟨?_, ?_, ?_, ?_, ?_⟩
  · rw [List.length_append, List.length_append, hl, List.length_singleton]
  · intro pc hpc
    rw [List.append_assoc, List.append_assoc, List.getElem?_append_left hpc]
  · rw [List.append_assoc, List.append_assoc, List.getElem?_append_right (Nat.le_refl _), Nat.sub_self]
    rfl
  · intro k hk
    exact hl ▸ getElem?_seg (code ++ [j]) seg [r] hk
  · have := getElem?_after (code ++ [j]) seg [r] 0
    rw [hl, Nat.add_zero] at this
    exact this

theorem TopCore.addRoutine {code : List Instr} {labels : List Int} {todo : List Nat} {sms : List StackMap}
    {rts : List Rt} (h : TopCore code code.length labels todo sms rts) (hnsm : sms.length = rts.length)
    (seg : List Instr) (s : Int) (F : Nat) (labels' : List Int) (todo' : List Nat) (sm : StackMap)
    (hlen : labels.length + 1 ≤ labels'.length)
    (hlold : ∀ l, l < labels.length → labels'[l]? = labels[l]?)
    (hafter : labels'[labels.length]? = some (((code.length + 1 + seg.length + 1 : Nat)) : Int))
    (hg : Groups (Callee rts rts.length) F (labels.length + 1) labels'.length seg)
    (hlab : ∀ l, labels.length + 1 ≤ l → l < labels'.length → ∃ k : Nat, k ≤ seg.length ∧
      labels'[l]? = some (((code.length + 1 + k : Nat)) : Int) ∧ ∀ i, seg[k]? = some i → notAE i = true)
    (htodo : ∀ x ∈ todo, x ∈ todo') (hj : code.length ∈ todo')
    (hjs : ∀ (k : Nat) (i : Instr), seg[k]? = some i → isJump i = true → code.length + 1 + k ∈ todo')
    (hs : RegIn s F) (hsm : ∀ e ∈ sm.map, RegIn e.1 F) :
    TopCore (code ++ [Instr.jmp ((labels.length : Nat) : Int)] ++ seg ++ [Instr.ret s])
      (code ++ [Instr.jmp ((labels.length : Nat) : Int)] ++ seg ++ [Instr.ret s]).length labels' todo' (sms ++ [sm])
      (rts ++ [⟨code.length + 1, code.length + 1 + seg.length, F, labels.length + 1, labels'.length, rts.length⟩]) := by
  obtain ⟨hlen', c1, c2, c3, c4⟩ := routine_code code seg (Instr.jmp ((labels.length : Nat) : Int)) (Instr.ret s)
  generalize code ++ [Instr.jmp ((labels.length : Nat) : Int)] ++ seg ++ [Instr.ret s] = code' at hlen' c1 c2 c3 c4 ⊢
  generalize hrt : (⟨code.length + 1, code.length + 1 + seg.length, F, labels.length + 1, labels'.length,
    rts.length⟩ : Rt) = rt
  have hpre : ∀ j x, rts[j]? = some x → (rts ++ [rt])[j]? = some x :=
    fun j x hx => getElem?_append_some hx _
  have hnew : RtOK code' labels' todo' (sms ++ [sm]) (rts ++ [rt]) rts.length rt := by
    subst hrt
    refine ⟨rfl, Nat.succ_le_succ h.n1, Nat.le_add_right _ _, by rw [hlen']; exact Nat.lt_succ_self _,
      Nat.succ_pos _, hlen, Nat.le_refl _, c2, hj, hafter, ⟨s, c4, hs⟩,
      ?_, ?_, ?_, ⟨sm, ?_, hsm⟩⟩
    · have hslice : slice code' (code.length + 1) (code.length + 1 + seg.length) = seg := by
        apply List.ext_getElem?
        intro i
        rw [slice_getElem?, Nat.add_sub_cancel_left]
        by_cases hi : i < seg.length
        · rw [if_pos hi, c3 i hi]
        · rw [if_neg hi, List.getElem?_eq_none (Nat.le_of_not_lt hi)]
      show Groups _ F (labels.length + 1) labels'.length (slice code' (code.length + 1) (code.length + 1 + seg.length))
      rw [hslice]
      exact hg.mono (fun p hp => hp.mono (Nat.le_refl _) hpre) (Nat.le_refl _) (Nat.le_refl _)
    · intro l h1 h2
      obtain ⟨k, k1, k2, k3⟩ := hlab l h1 h2
      refine ⟨code.length + 1 + k, Nat.le_add_right _ _, Nat.add_le_add_left k1 _, k2, ?_⟩
      intro i hi
      by_cases hk : k < seg.length
      · rw [c3 k hk] at hi; exact k3 i hi
      · rw [Nat.le_antisymm k1 (Nat.le_of_not_lt hk), c4] at hi
        rw [← Option.some.inj hi]; rfl
    · intro pc i h1 h2 h3 h4
      obtain ⟨m, rfl⟩ := Nat.exists_eq_add_of_le h1
      rw [c3 m (Nat.lt_of_add_lt_add_left h2)] at h3
      exact hjs m i h3 h4
    · rw [← hnsm, List.getElem?_append_right (Nat.le_refl _), Nat.sub_self]
      rfl
  have hre : rt.entry = code.length + 1 := by rw [← hrt]
  have hrr : rt.ret = code.length + 1 + seg.length := by rw [← hrt]
  clear hrt
  have hcases : ∀ (k : Nat) (r : Rt), (rts ++ [rt])[k]? = some r → rts[k]? = some r ∨ (k = rts.length ∧ r = rt) :=
    fun k r hr => getElem?_snoc_cases rts rt k r hr
  have hold : ∀ (k : Nat) (r : Rt), rts[k]? = some r → r.ret < code.length := h.rlt
  have hcl : code.length ≤ code'.length :=
    hlen' ▸ Nat.le_add_right_of_le (Nat.le_add_right_of_le (Nat.le_add_right _ _))
  have hcntE : countRet code' (code.length + 1) = rts.length := by
    have hz : (if (code'[code.length]?).map isRet = some true then 1 else 0) = 0 := by rw [c2]; rfl
    rw [countRet_succ, hz, Nat.add_zero]
    exact (countRet_congr (fun i hi => by rw [c1 i hi])).trans h.cntAll
  refine ⟨by rw [hlen']; exact Nat.succ_pos _, ?_, ?_, ?_, ?_, ?_, ?_⟩
  · intro k r hr
    rcases hcases k r hr with hr | ⟨rfl, rfl⟩
    · have ok := h.rt k r hr
      exact ok.mono (fun pc _ h2 => c1 pc (Nat.lt_of_le_of_lt h2 (hold k r hr))) (Nat.le_of_succ_le hlen)
        (fun l hl => hlold l (Nat.lt_of_lt_of_le hl ok.hil)) htodo
        (fun i x hx => getElem?_append_some hx _) hpre
    · exact hnew
  · intro k r hr
    rcases hcases k r hr with hr | ⟨_, rfl⟩
    · exact Nat.lt_of_lt_of_le (hold k r hr) hcl
    · rw [hrr, hlen']; exact Nat.lt_succ_self _
  · intro j k rj rk hjk hj' hk'
    rcases hcases k rk hk' with hk' | ⟨rfl, rfl⟩
    · rcases hcases j rj hj' with hj' | ⟨rfl, _⟩
      · exact h.ord j k rj rk hjk hj' hk'
      · exact absurd (Nat.lt_trans hjk (List.getElem?_eq_some_iff.1 hk').1) (Nat.lt_irrefl _)
    · rcases hcases j rj hj' with hj' | ⟨rfl, _⟩
      · rw [hre]; exact Nat.succ_lt_succ (hold j rj hj')
      · exact absurd hjk (Nat.lt_irrefl _)
  · intro k r hr
    rcases hcases k r hr with hr | ⟨rfl, rfl⟩
    · have hlt := Nat.lt_of_le_of_lt (h.rt k r hr).er (hold k r hr)
      exact (countRet_congr (fun i hi => by rw [c1 i (Nat.lt_trans hi hlt)])).trans (h.cnt k r hr)
    · rw [hre]; exact hcntE
  · have hz : (if (code'[code.length + 1 + seg.length]?).map isRet = some true then 1 else 0) = 1 := by rw [c4]; rfl
    rw [hlen', countRet_succ, hz, List.length_append, List.length_singleton, ← hcntE]
    congr 1
    refine countRet_extend code' _ _ (Nat.le_add_right _ _) ?_
    intro i h1 h2
    obtain ⟨m, rfl⟩ := Nat.exists_eq_add_of_le h1
    have hm : m < seg.length := Nat.lt_of_add_lt_add_left h2
    rw [c3 m hm, List.getElem?_eq_getElem hm, Option.map_some, hg.noRet _ (List.getElem_mem hm)]
    exact fun hx => Bool.noConfusion (Option.some.inj hx)
  · intro pc h1 h2 h3
    by_cases hp : pc < code.length
    · rw [c1 pc hp]
      rcases h.root pc h1 hp (fun r hr => h3 r (List.mem_append_left _ hr)) with hh | ⟨r, hr, hh⟩
      · exact Or.inl hh
      · exact Or.inr ⟨r, List.mem_append_left _ hr, hh⟩
    · have hmem : rt ∈ rts ++ [rt] := List.mem_append_right _ (List.mem_singleton.2 rfl)
      by_cases hp2 : pc = code.length
      · exact Or.inr ⟨rt, hmem, by rw [hre, hp2]⟩
      · have : rt.entry ≤ pc ∧ pc ≤ rt.ret := by omega
        exact absurd this (h3 rt hmem)

end GenWF
end Theo
