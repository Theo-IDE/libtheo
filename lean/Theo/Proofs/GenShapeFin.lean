/-
  The steps of `gen` behind the walk over the tree (`genFin`: root stack map, patched root
  PREPARE, HALT, backpatching), exactly (`genFin_code`), and the steps behind the body of a
  definition (`progPost_full`): shared by the shape, site and well-formedness developments.
-/
import Theo.Proofs.GenShapeJT

namespace Theo
namespace GenShape
open GS Sem Static

structure PopFull (gs : GS) (a : Int) (g : GS) : Prop where
  stackMaps : g.stackMaps = gs.stackMaps ++ [⟨gs.top.name, smap gs.top.regs⟩]
  funcAddrs : g.funcAddrs = (gs.top.name, ⟨a, (gs.stackMaps.length : Int), gs.top.argnum, gs.top.regs.length⟩) ::
    gs.funcAddrs.filter (fun e => e.1 ≠ gs.top.name)
  symbols : g.symbols = gs.symbols.drop 1
  code : g.code = gs.code
  labels : g.labels = gs.labels
  loops : g.loops = gs.loops
  todo : g.todo = gs.todo

theorem popSymbols_full (gs : GS) (a : Int) : PopFull gs a (gs.popSymbols a) := by
  rw [popSymbols_eq]; exact ⟨rfl, rfl, rfl, rfl, rfl, rfl, rfl⟩

structure ProgPost (b : GS) (out : Bytes) (entry : Int) (after : Nat) (res : GS) : Prop where
  code : res.code = b.code ++ [.ret (b.fetchVar out).2]
  labels : res.labels = b.labels.set after ((b.code.length + 1 : Nat) : Int)
  stackMaps : res.stackMaps = b.stackMaps ++ [⟨b.top.name, smap (b.fetchVar out).1.top.regs⟩]
  funcAddrs : res.funcAddrs =
    (b.top.name, ⟨entry, (b.stackMaps.length : Int), b.top.argnum, (b.fetchVar out).1.top.regs.length⟩) ::
      b.funcAddrs.filter (fun e => e.1 ≠ b.top.name)
  symbols : res.symbols = b.symbols.drop 1
  loops : res.loops = b.loops

theorem progPost_full (b : GS) (out : Bytes) (entry : Int) (after : Nat) :
    ProgPost b out entry after (progPost b out entry after) := by
  unfold progPost
  dsimp only
  have fv := fetchVar_spec (fun _ => True) b out trivial
  have q := quiet_fetchVar b out
  have pf := popSymbols_full ((b.fetchVar out).1.emit (.ret (b.fetchVar out).2)) entry
  generalize ((b.fetchVar out).1.emit (.ret (b.fetchVar out).2)).popSymbols entry = c at pf
  have h1 : ((b.fetchVar out).1.emit (.ret (b.fetchVar out).2)).top = (b.fetchVar out).1.top := rfl
  refine ⟨?_, ?_, ?_, ?_, ?_, ?_⟩
  · show c.code = _
    rw [pf.code, emit_code, fv.code]
  · show c.labels.set after c.nextPos = _
    unfold nextPos
    rw [pf.labels, pf.code, emit_code, fv.code]
    show (b.fetchVar out).1.labels.set _ _ = _
    rw [q.labels]; simp
  · show c.stackMaps = _
    rw [pf.stackMaps, h1, q.name]
    show (b.fetchVar out).1.stackMaps ++ _ = _
    rw [fv.vq.stackMaps]
  · show c.funcAddrs = _
    rw [pf.funcAddrs, h1, q.name, q.argnum]
    show (_, (⟨entry, ((b.fetchVar out).1.stackMaps.length : Int), _, _⟩ : ProgRec)) :: (b.fetchVar out).1.funcAddrs.filter _ = _
    rw [fv.vq.stackMaps, fv.vq.funcAddrs]
  · show c.symbols = _
    rw [pf.symbols]
    show (b.fetchVar out).1.symbols.drop 1 = _
    exact q.outer
  · show c.loops = _
    rw [pf.loops]
    show (b.fetchVar out).1.loops = _
    exact fv.vq.loops

theorem fixHead_full (c : GS) (a b t : Int) (tl : List Instr) (p : ProgRec) (hc : c.code = .prepare a b t :: tl)
    (hl : c.lookupFunc bRoot = some p) :
    (fixHead c).code = .prepare p.stackSize p.mi t :: tl ∧ (fixHead c).stackMaps = c.stackMaps ∧
    (fixHead c).labels = c.labels ∧ (fixHead c).todo = c.todo := by
  unfold fixHead
  rw [hl, hc]
  exact ⟨rfl, rfl, rfl, rfl⟩

theorem JT.fixHead' {c : GS} (h : JT c) (x y z : Int) (tl : List Instr) (hc : ∃ i, c.code = i :: tl)
    (g : GS) (hg : g.code = .prepare x y z :: tl) (ht : g.todo = c.todo) : JT g := by
  obtain ⟨i0, hc⟩ := hc
  intro p i hp hj
  rw [ht]
  rw [hg] at hp
  cases p with
  | zero => simp at hp; subst hp; cases hj
  | succ p =>
    refine h (p + 1) i ?_ hj
    rw [hc]
    simpa using hp

/-- the tail of `genState`, as a function of the state behind the walk over the tree -/
def genFin (b : GS) : GS := backpatch ((fixHead (b.popSymbols 0)).emit .halt)

theorem gen_code (errs : List SynErr) (root : Node) : (gen ⟨true, errs, root⟩).code =
    ⟨(genFin (genS gs1 root)).code, (genFin (genS gs1 root)).stackMaps,
     (genFin (genS gs1 root)).potBreaks, (genFin (genS gs1 root)).lineInfo⟩ := by
  rw [gen_eq, genState_ok]; rfl

theorem walk_facts (root : Node) : JT (genS gs1 root) ∧ (genS gs1 root).top.name = bRoot := by
  refine ⟨JT.genInv.genS ?_ (nodeP_true root), (step_void gs1 root).name⟩
  intro p i hp hj
  have : gs1.code = [.prepare (-1) (-1) 0] := rfl
  rw [this] at hp
  cases p with
  | zero => simp at hp; subst hp; cases hj
  | succ p => simp at hp

/-- `genFin b` holds, position by position, the backpatched `PREPARE regs maps 0 :: tl ++ [HALT]` -/
theorem genFin_code {b : GS} {tl : List Instr} (hbc : b.code = .prepare (-1) (-1) 0 :: tl) (jb : JT b) (tb : TodoOK b)
    (ab : LabAcc (fun _ => False) b) (hname : b.top.name = bRoot) :
    (genFin b).code.length = b.code.length + 1 ∧
    (∀ p i, (Instr.prepare (b.top.regs.length : Int) (b.stackMaps.length : Int) 0 :: (tl ++ [.halt]))[p]? = some i →
      (genFin b).code[p]? = some (patch b.labels p i)) ∧
    (genFin b).stackMaps = b.stackMaps ++ [⟨bRoot, smap b.top.regs⟩] := by
  unfold genFin
  obtain ⟨te, hel, _⟩ := finish_spec b tb ab
  have pf := popSymbols_full b 0
  generalize b.popSymbols 0 = c at *
  have hlook : c.lookupFunc bRoot = some ⟨0, (b.stackMaps.length : Int), b.top.argnum, b.top.regs.length⟩ := by
    unfold lookupFunc
    rw [pf.funcAddrs, hname, List.find?_cons_of_pos (by simp)]; rfl
  obtain ⟨f1, f2, f3, f4⟩ := fixHead_full c (-1) (-1) 0 tl _ (pf.code.trans hbc) hlook
  have je : JT ((fixHead c).emit .halt) :=
    (JT.fixHead' (jb.same pf.code pf.todo) _ _ _ tl ⟨_, pf.code.trans hbc⟩ (fixHead c) f1 f4).emit _ rfl
  obtain ⟨b1, b2, b3, b4⟩ := backpatch_code _ te je
  have hec : ((fixHead c).emit .halt).code = .prepare (b.top.regs.length : Int) (b.stackMaps.length : Int) 0 :: (tl ++ [.halt]) := by
    rw [emit_code, f1]; rfl
  rw [hec] at b3 b4
  refine ⟨by rw [b3, hbc]; simp, fun p i hi => hel ▸ b4 p i hi, ?_⟩
  rw [b2]
  show (fixHead c).stackMaps = _
  rw [f2, pf.stackMaps, hname]

theorem genFin_spec {b : GS} {tl : List Instr} (hbc : b.code = .prepare (-1) (-1) 0 :: tl) (jb : JT b) (tb : TodoOK b)
    (ab : LabAcc (fun _ => False) b) (hname : b.top.name = bRoot) :
    Agree b.labels (b.code ++ [.halt]) (genFin b).code ∧ (genFin b).code.length = b.code.length + 1 ∧
    (genFin b).code[0]? = some (.prepare (b.top.regs.length : Int) (b.stackMaps.length : Int) 0) ∧
    (genFin b).stackMaps = b.stackMaps ++ [⟨bRoot, smap b.top.regs⟩] := by
  obtain ⟨h1, h2, h3⟩ := genFin_code hbc jb tb ab hname
  refine ⟨fun p i h0 hi => h2 p i ?_, h1, h2 0 _ rfl, h3⟩
  rw [hbc] at hi
  obtain ⟨q, rfl⟩ : ∃ q, p = q + 1 := ⟨p - 1, by omega⟩
  exact hi

end GenShape
end Theo
