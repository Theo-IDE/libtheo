/-
  C01 for the generator model: the whole tree — the definitions in text order, then the main
  statements; `TopAt` is the position of this walk — and `gen`, whose last steps are `genFin`
  (GenShapeFin.lean): `gen_shape`.
-/
import Theo.Proofs.GenShapeProg

namespace Theo
namespace GenShape
open GS Sem Static

/-- the side conditions on the whole tree (see Props/C01GenShape.lean) -/
def astNames : Node → Bool
  | .nil => true
  | .mk t tok f ln l r =>
    if t = NodeT.SPLIT ∧ l.ty = NodeT.PROGRAM then
      progNames l.left && stmtNames l.right && labelsOK l.right && astNames r
    else stmtNames (.mk t tok f ln l r) && labelsOK (.mk t tok f ln l r)

theorem top_cases {root : Node} (hs : AstShape root = true) (hn : astNames root = true) :
    (stmtShape root = true ∧ stmtNames root = true ∧ labelsOK root = true ∧
      ∀ t tok file line l r, root = .mk t tok file line l r → ¬ (t = NodeT.SPLIT ∧ l.ty = NodeT.PROGRAM)) ∨
    ∃ tok file line tok2 file2 line2 l2 r2 r,
      root = .mk NodeT.SPLIT tok file line (.mk NodeT.PROGRAM tok2 file2 line2 l2 r2) r ∧
      stmtShape r2 = true ∧ AstShape r = true ∧ progNames l2 = true ∧ stmtNames r2 = true ∧ labelsOK r2 = true ∧
      astNames r = true := by
  cases root with
  | nil => exact Or.inl ⟨rfl, rfl, rfl, fun _ _ _ _ _ _ h => by cases h⟩
  | mk t tok file line l r =>
    by_cases hpr : t = NodeT.SPLIT ∧ l.ty = NodeT.PROGRAM
    · obtain ⟨rfl, hl⟩ := hpr
      cases l with
      | nil => simp [Node.ty, NodeT.PROGRAM] at hl
      | mk t2 tok2 file2 line2 l2 r2 =>
        obtain rfl : t2 = NodeT.PROGRAM := hl
        have hs' : stmtShape r2 = true ∧ AstShape r = true := by
          rw [AstShape] at hs
          simpa [Node.ty, Node.right] using hs
        have hn' : ((progNames l2 = true ∧ stmtNames r2 = true) ∧ labelsOK r2 = true) ∧ astNames r = true := by
          rw [astNames, if_pos ⟨rfl, rfl⟩] at hn
          simpa [Node.left, Node.right] using hn
        exact Or.inr ⟨_, _, _, _, _, _, _, _, _, rfl, hs'.1, hs'.2, hn'.1.1.1, hn'.1.1.2, hn'.1.2, hn'.2⟩
    · rw [AstShape, if_neg hpr] at hs
      rw [astNames, if_neg hpr, Bool.and_eq_true] at hn
      exact Or.inl ⟨hs, hn.1, hn.2, fun _ _ _ _ _ _ h => by cases h; exact hpr⟩

theorem astNames_induction {P : Node → Prop}
    (prog : ∀ tok file line tok2 file2 line2 l2 r2 r, stmtShape r2 = true → AstShape r = true → progNames l2 = true →
      stmtNames r2 = true → labelsOK r2 = true → astNames r = true → P r →
      P (.mk NodeT.SPLIT tok file line (.mk NodeT.PROGRAM tok2 file2 line2 l2 r2) r))
    (main : ∀ n, stmtShape n = true → stmtNames n = true → labelsOK n = true → P n) :
    ∀ n, AstShape n = true → astNames n = true → P n
  | .nil, _, _ => main .nil rfl rfl rfl
  | .mk t tok file line l r, hs, hn => by
    rcases top_cases hs hn with ⟨hs', hn', hl', _⟩ | ⟨_, _, _, _, _, _, _, _, _, heq, hs2, hsr, hpn, hn2, hlab, hnr⟩
    · exact main _ hs' hn' hl'
    · cases heq
      exact prog _ _ _ _ _ _ _ _ _ hs2 hsr hpn hn2 hlab hnr (astNames_induction prog main r hsr hnr)

theorem top_source (src : Source) {k : Nat} {ps : List ProgDef} (hk : ps.length = k) (tok file : Bytes) (line : Int)
    (tok2 file2 : Bytes) (line2 : Int) (l2 r2 r : Node) (n : Nat) (hs2 : stmtShape r2 = true)
    (hp : (stmtsOf (.mk NodeT.SPLIT tok file line (.mk NodeT.PROGRAM tok2 file2 line2 l2 r2) r) n ps).2.2 = src.progs)
    (hm : (stmtsOf (.mk NodeT.SPLIT tok file line (.mk NodeT.PROGRAM tok2 file2 line2 l2 r2) r) n ps).1 = src.main) :
    (stmtsOf r (n + loopCount r2)
      (ps ++ [⟨l2.left.tok, namesOf l2.right.left, outNameOf l2.right.right, (stmtsOf r2 n ps).1⟩])).2.2 = src.progs ∧
    (stmtsOf r (n + loopCount r2)
      (ps ++ [⟨l2.left.tok, namesOf l2.right.left, outNameOf l2.right.right, (stmtsOf r2 n ps).1⟩])).1 = src.main ∧
    src.progs[k]? = some ⟨l2.left.tok, namesOf l2.right.left, outNameOf l2.right.right, (stmtsOf r2 n ps).1⟩ ∧
    src.progs.drop k =
      ⟨l2.left.tok, namesOf l2.right.left, outNameOf l2.right.right, (stmtsOf r2 n ps).1⟩ :: src.progs.drop (k + 1) := by
  rw [stmtsOf_mk_split, stmtsOf_mk_program] at hp hm
  simp only [] at hp hm
  rw [(stmts_link src k .nil r2 hs2 n ps).1, stmtsOf_loops r2 n ps] at hp hm
  obtain ⟨ext, hext⟩ := stmtsOf_prefix r (n + loopCount r2)
    (ps ++ [⟨l2.left.tok, namesOf l2.right.left, outNameOf l2.right.right, (stmtsOf r2 n ps).1⟩])
  have hprogs : src.progs = ps ++ (⟨l2.left.tok, namesOf l2.right.left, outNameOf l2.right.right, (stmtsOf r2 n ps).1⟩ :: ext) := by
    rw [← hp, hext]; simp
  refine ⟨hp, hm, ?_, ?_⟩ <;> (rw [hprogs, ← hk]; simp)

theorem def_sites (gs : GS) (line : Int) (file : Bytes) (line2 : Int) (file2 : Bytes) :
    ∃ k0, Sites gs ((gs.advanceLine line file).advanceLine line2 file2) k0 := by
  obtain ⟨_, _, s1⟩ := advanceLine_sites gs line file
  obtain ⟨_, _, s2⟩ := advanceLine_sites (gs.advanceLine line file) line2 file2
  exact ⟨_, s1.trans s2⟩

/-- the walk over the whole tree stands in front of `root`: `k` definitions are done, `ps` are their
    records and `infos` what the validator knows of them; `stmtsOf` reads the rest of `src` off `root` -/
structure TopAt (src : Source) (root : Node) (gs : GS) (k : Nat) (infos : List RInfo) (ps : List ProgDef) : Prop
    extends TopInv src gs k infos where
  len : ps.length = k
  progs : (stmtsOf root gs.loops ps).2.2 = src.progs
  main : (stmtsOf root gs.loops ps).1 = src.main

theorem TopAt.atMain {src : Source} {root : Node} {gs : GS} {k : Nat} {infos : List RInfo} {ps : List ProgDef}
    (T : TopAt src root gs k infos ps) (hs : stmtShape root = true) : k = src.progs.length := by
  rw [← T.len, ← T.progs, (stmts_link src k .nil root hs gs.loops ps).1]

/-- one definition further: `prog_gen` with the bookkeeping of the source -/
theorem TopAt.step {src : Source} {tok file : Bytes} {line : Int} {tok2 file2 : Bytes} {line2 : Int} {l2 r2 r : Node}
    {gs gs00 : GS} {k k0 : Nat} {infos : List RInfo} {ps : List ProgDef}
    (T : TopAt src (.mk NodeT.SPLIT tok file line (.mk NodeT.PROGRAM tok2 file2 line2 l2 r2) r) gs k infos ps)
    (hpar : ∀ pd ∈ src.progs, pd.params.Nodup) (hs2 : stmtShape r2 = true) (hn2 : stmtNames r2 = true)
    (h0 : Sites gs gs00 k0) :
    src.progs[k]? = some ⟨l2.left.tok, namesOf l2.right.left, outNameOf l2.right.right, (stmtsOf r2 gs.loops ps).1⟩ ∧
    src.progs.drop k =
      ⟨l2.left.tok, namesOf l2.right.left, outNameOf l2.right.right, (stmtsOf r2 gs.loops ps).1⟩ :: src.progs.drop (k + 1) ∧
    TopAt src r (progRes gs00 l2 r2) (k + 1) (infos ++ [progRi gs gs00 k0 l2 r2 k])
      (ps ++ [⟨l2.left.tok, namesOf l2.right.left, outNameOf l2.right.right, (stmtsOf r2 gs.loops ps).1⟩]) ∧
    TQ gs (progRes gs00 l2 r2) ∧ gs.labels.length ≤ (progRes gs00 l2 r2).labels.length := by
  obtain ⟨hp, hm, hget, hdrop⟩ := top_source src T.len tok file line tok2 file2 line2 l2 r2 r gs.loops hs2 T.progs T.main
  obtain ⟨hti, htq, hll, hloops⟩ := prog_gen src l2 r2 k infos ps h0 T.toTopInv hs2 hn2 hget
    (hpar _ (List.mem_of_getElem? hget))
  exact ⟨hget, hdrop, ⟨hti, by simp [T.len], by rw [hloops]; exact hp, by rw [hloops]; exact hm⟩, htq, hll⟩

theorem top_gen {src : Source} (hpar : ∀ pd ∈ src.progs, pd.params.Nodup) : ∀ root : Node,
    AstShape root = true → astNames root = true →
    ∀ (gs : GS) (k : Nat) (infos : List RInfo) (ps : List ProgDef), TopAt src root gs k infos ps →
    NTNodup (genS gs root).top.regs ∧ (genS gs root).stackMaps.length = src.progs.length ∧ TQ gs (genS gs root) := by
  apply astNames_induction
  case main =>
    intro root hs' hn' _ gs k infos ps T
    have sq := sq_void gs root hs' hn'
    exact ⟨sq.gq.ntn (by unfold NTNodup; rw [T.regs]; exact List.nodup_nil),
      by rw [sq.gq.stackMaps, T.nprogs, T.atMain hs'],
      sq.gq.code, by rw [sq.gq.stackMaps]; exact List.prefix_refl _, body_frame gs root hs' hn' T.marks⟩
  case prog =>
    intro tok file line tok2 file2 line2 l2 r2 r hs2 _ hpn hn2 _ _ ih gs k infos ps T
    rw [genS_split, dispatchVoid_program]
    obtain ⟨k0, h0⟩ := def_sites gs line file line2 file2
    obtain ⟨_, _, T', htq, hll⟩ := T.step hpar hs2 hn2 h0
    obtain ⟨h2, h3, h4⟩ := ih _ _ _ _ T'
    exact ⟨h2, h3, htq.trans h4 hll⟩

theorem TopAt.bodyCtx {P : Program} {src : Source} {L : List Int} {gs : GS} {root : Node} {infos : List RInfo}
    {ps : List ProgDef} (T : TopAt src root gs src.progs.length infos ps) (hs : stmtShape root = true)
    (hn : stmtNames root = true) (hst : Static.routineOK src src.progs.length = true) (F : Fits P L (genS gs root)) :
    BodyCtx ⟨P.code, L, (genS gs root).top.regs, src, src.progs.length, infos, 0⟩ gs root ps := by
  have sq := sq_void gs root hs hn
  refine ⟨⟨sq.gq.tn (by rw [T.regs]; intro r h; cases h), sq.gq.ntn (by unfold NTNodup; rw [T.regs]; exact List.nodup_nil),
    ⟨_, sq.ctr (by rw [T.regs]; exact CtrInv.nil _)⟩⟩, ?_, T.marks, T.head, RegsExt.refl _, F.agree,
    fun f j pd h => T.func f j pd h, F.fin⟩
  unfold Static.routineOK at hst
  rw [Sim.bodyOf_root] at hst
  rw [T.main]; exact hst

theorem top_corr {P : Program} {src : Source} {L : List Int}
    (hst : ∀ r, r ≤ src.progs.length → Static.routineOK src r = true) (hpar : ∀ pd ∈ src.progs, pd.params.Nodup) :
    ∀ root : Node, AstShape root = true → astNames root = true →
    ∀ (gs : GS) (k : Nat) (infos : List RInfo) (ps : List ProgDef), TopAt src root gs k infos ps →
    Fits P L (genS gs root) → ∀ pc, skipc P.code pc = skipc P.code gs.code.length →
    ∃ infos' pc', checkProgs P src (src.progs.drop k) k infos pc = some (infos', pc') ∧
      ∃ w, checkStmts ⟨P.code, src, ⟨0, src.progs.length, smap (genS gs root).top.regs⟩, src.progs.length, infos'⟩
          src.main ⟨pc', [], []⟩ = some w ∧ resolveOK P.code w = true ∧
        skipc P.code w.pc = skipc P.code (genS gs root).code.length := by
  apply astNames_induction
  case main =>
    intro root hs' hn' hl' gs k infos ps T F pc hpc
    obtain rfl := T.atMain hs'
    have hpos : 0 < gs.code.length := by obtain ⟨i, h1, _⟩ := T.head; exact (List.getElem?_eq_some_iff.1 h1).1
    obtain ⟨w, cw, atw, rok⟩ := body_corr (T.bodyCtx hs' hn' (hst _ (Nat.le_refl _)) F) hs' hn' hl' pc ⟨hpc, hpos⟩
    rw [T.main] at cw
    refine ⟨infos, pc, ?_, w, cw, rok, atw.eq⟩
    rw [List.drop_of_length_le (Nat.le_refl _)]
    simp only [checkProgs]
  case prog =>
    intro tok file line tok2 file2 line2 l2 r2 r hs2 hsr hpn hn2 hlab hnr ih gs k infos ps T F pc hpc
    rw [genS_split, dispatchVoid_program] at F ⊢
    obtain ⟨k0, h0⟩ := def_sites gs line file line2 file2
    obtain ⟨hget, hdrop, T', _, _⟩ := T.step hpar hs2 hn2 h0
    have hklt : k < src.progs.length := (List.getElem?_eq_some_iff.1 hget).1
    obtain ⟨infos', pc', c1, c2⟩ := ih _ _ _ _ T' F _ rfl
    refine ⟨infos', pc', ?_, c2⟩
    rw [hdrop]
    exact prog_corr P src L l2 r2 k infos ps _ h0 T.toTopInv hs2 hn2 hlab hpn hget
      (hst k (Nat.le_of_lt hklt)) (hpar _ (List.mem_of_getElem? hget)) (F.back (top_gen hpar r hsr hnr _ _ _ _ T').2.2) pc hpc c1

theorem shapeCheck_ok (src : Source) (P : Program) (c mi t : Int) (tl : List Instr)
    (hcode : P.code = .prepare c mi t :: tl) (infos : List RInfo) (pc : Nat)
    (h1 : checkProgs P src src.progs 0 [] 1 = some (infos, pc)) (sm : StackMap)
    (h2 : P.stackMaps[src.progs.length]? = some sm) (h3 : mi = (src.progs.length : Int))
    (h4 : namesNodup ⟨0, src.progs.length, sm.map⟩ = true) (w : Walk)
    (h5 : checkStmts ⟨P.code, src, ⟨0, src.progs.length, sm.map⟩, src.progs.length, infos⟩ src.main ⟨pc, [], []⟩ = some w)
    (h6 : resolveOK P.code w = true) (h7 : skipc P.code w.pc + 1 = P.code.length)
    (h8 : P.code[skipc P.code w.pc]? = some .halt) : shapeCheck src P = true := by
  unfold shapeCheck
  split
  · rename_i c' mi' t' tl' hc
    rw [hcode] at hc
    cases hc
    simp only [h1, h2, h5]
    simp [h3, h4, h6, h7, h8]
  · rename_i hne
    exact absurd hcode (hne _ _ _ _)

theorem cons_of_head {α} {l : List α} {x : α} (h : l[0]? = some x) : l = x :: l.tail := by
  cases l with
  | nil => simp at h
  | cons y ys => simp at h; rw [h]; rfl

theorem lookupProg_zero (src : Source) (g : Bytes) : lookupProg src g 0 = none :=
  LoopHalts.lookupProg_zero src g

theorem staticOK_split {src : Source} (h : staticOK src = true) :
    (∀ r, r ≤ src.progs.length → Static.routineOK src r = true) ∧ (∀ pd ∈ src.progs, pd.params.Nodup) := by
  unfold staticOK at h
  rw [Bool.and_eq_true, List.all_eq_true, List.all_eq_true] at h
  refine ⟨fun r hr => h.1 r (List.mem_range.2 (by omega)), fun pd hpd => ?_⟩
  simpa using h.2 pd hpd

theorem TopInv.init (src : Source) : TopInv src gs1 0 [] :=
  ⟨rfl, rfl, rfl, rfl, ⟨_, rfl, by intro h; cases h⟩, ⟨_, rfl, by intro h; cases h⟩,
   fun f j pd hl => by rw [lookupProg_zero] at hl; cases hl⟩

theorem TopAt.init (root : Node) : TopAt (toSource root) root gs1 0 [] [] :=
  ⟨TopInv.init _, rfl, by rw [toSource_eq]; rfl, by rw [toSource_eq]; rfl⟩

theorem gen_frame (root : Node) (h : AstShape root = true) (hn : astNames root = true)
    (hpar : ∀ pd ∈ (toSource root).progs, pd.params.Nodup) :
    ∃ tl, (genS gs1 root).code = .prepare (-1) (-1) 0 :: tl ∧
      NTNodup (genS gs1 root).top.regs ∧
      (genS gs1 root).stackMaps.length = (toSource root).progs.length ∧
      Agree (genS gs1 root).labels ((genS gs1 root).code ++ [.halt]) (genFin (genS gs1 root)).code ∧
      (genFin (genS gs1 root)).code.length = (genS gs1 root).code.length + 1 ∧
      (genFin (genS gs1 root)).code[0]? =
        some (.prepare ((genS gs1 root).top.regs.length : Int) ((genS gs1 root).stackMaps.length : Int) 0) ∧
      (genFin (genS gs1 root)).stackMaps =
        (genS gs1 root).stackMaps ++ [⟨bRoot, smap (genS gs1 root).top.regs⟩] := by
  obtain ⟨jb, hname⟩ := walk_facts root
  obtain ⟨tb, ab⟩ := walk_gs1 root
  obtain ⟨h2, h3, tq⟩ := top_gen hpar root h hn _ _ _ _ (TopAt.init root)
  obtain ⟨tl, hbc⟩ := tq.code
  exact ⟨tl, hbc.symm, h2, h3, genFin_spec hbc.symm jb tb ab hname⟩

theorem gen_shape (root : Node) (h : AstShape root = true) (hs : staticOK (toSource root) = true)
    (hn : astNames root = true) : shapeCheck (toSource root) (gen ⟨true, [], root⟩).code = true := by
  obtain ⟨hst, hpar⟩ := staticOK_split hs
  obtain ⟨tl, hbc, h2, h3, hag, hlen, hhead, hes⟩ := gen_frame root h hn hpar
  have key := fun P L => top_corr (P := P) (L := L) hst hpar root h hn _ _ _ _ (TopAt.init root)
  rw [gen_code]
  generalize genS gs1 root = b at *
  generalize genFin b = fin at *
  obtain ⟨infos, pc, c1, w, c2, c3, c4⟩ := key ⟨fin.code, fin.stackMaps, fin.potBreaks, fin.lineInfo⟩ b.labels
    ⟨hag.of_prefix (prefix_append_self _ _), by intro l v hl _; rw [hl]; rfl,
     by show b.stackMaps <+: fin.stackMaps; rw [hes]; exact prefix_append_self _ _⟩ 1 rfl
  rw [List.drop_zero] at c1
  have hhalt : fin.code[b.code.length]? = some .halt := by
    rw [hag _ _ (by rw [hbc]; exact Nat.succ_pos _) (getElem?_snoc_len _ _)]; rfl
  have hskip : skipc fin.code w.pc = b.code.length := by
    have : skipc fin.code w.pc = skipc fin.code b.code.length := c4
    rw [this]
    exact skipc_eq_self hhalt nofun
  refine shapeCheck_ok (toSource root) _ _ _ _ _ (cons_of_head hhead) infos pc c1 ⟨bRoot, smap b.top.regs⟩ ?_ (by rw [h3])
    (namesNodup_smap _ h2 _ _) w c2 c3 ?_ ?_
  · show fin.stackMaps[(toSource root).progs.length]? = _
    rw [hes, ← h3, getElem?_snoc_len]
  · show skipc fin.code w.pc + 1 = fin.code.length
    rw [hskip, hlen]
  · show fin.code[skipc fin.code w.pc]? = _
    rw [hskip]; exact hhalt

end GenShape
end Theo
