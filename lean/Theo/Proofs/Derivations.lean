/-
  Rightmost derivations (`Spec/KnuthLR.lean`) against the other two readings of "derives" in
  `Spec/CFG.lean`: a derivation tree read as a rightmost derivation (`tree_rd`), a rightmost
  derivation as a derivation between sentential forms (`rd_sd`), and the last step of the
  rightmost derivation of a terminal string (`Exposed`).
-/
import Theo.Spec.KnuthLR
import Theo.Proofs.FirstProofs

namespace Theo
namespace LRConverse
open FirstProofs

theorem tsyms_nil : tsyms [] = [] := rfl
theorem tsyms_cons (a : Nat) (w : List Nat) : tsyms (a :: w) = Sym.t a :: tsyms w := rfl
theorem tsyms_append (a b : List Nat) : tsyms (a ++ b) = tsyms a ++ tsyms b := List.map_append
theorem tsyms_length (a : List Nat) : (tsyms a).length = a.length := List.length_map _

theorem tsyms_inj (a b : List Nat) (h : tsyms a = tsyms b) : a = b :=
  (List.map_inj_right (fun _ _ h => Sym.t.inj h)).1 h

/-- two forms with terminal tails that spell the same string: the heads end at the same place, or
    one continues the other by tokens -/
theorem tsyms_tri {a b : List Sym} {x y : List Nat} (h : a ++ tsyms x = b ++ tsyms y) :
    (a = b ∧ x = y) ∨ (∃ c τ, a = b ++ tsyms (c :: τ) ∧ y = c :: τ ++ x) ∨
      (∃ c τ, b = a ++ tsyms (c :: τ) ∧ x = c :: τ ++ y) := by
  rcases List.append_eq_append_iff.1 h with ⟨r, rfl, hx⟩ | ⟨r, rfl, hy⟩
  · obtain ⟨τ, y', rfl, rfl, hy'⟩ := List.map_eq_append_iff.1 hx
    obtain rfl := tsyms_inj _ _ hy'
    cases τ with
    | nil => exact Or.inl ⟨(List.append_nil a).symm, rfl⟩
    | cons c τ => exact Or.inr (Or.inr ⟨c, τ, rfl, rfl⟩)
  · obtain ⟨τ, x', rfl, rfl, hx'⟩ := List.map_eq_append_iff.1 hy
    obtain rfl := tsyms_inj _ _ hx'
    cases τ with
    | nil => exact Or.inl ⟨List.append_nil b, rfl⟩
    | cons c τ => exact Or.inr (Or.inl ⟨c, τ, rfl, rfl⟩)

theorem n_not_mem_tsyms (A : Nat) (w : List Nat) : Sym.n A ∉ tsyms w := by
  intro h
  simp only [tsyms, List.mem_map] at h
  obtain ⟨a, _, h⟩ := h
  cases h

theorem singleton_split {s : Sym} {α : List Sym} {A : Nat} {w : List Nat}
    (h : [s] = α ++ Sym.n A :: tsyms w) : α = [] ∧ s = .n A ∧ w = [] := by
  cases α with
  | nil =>
    simp only [List.nil_append, List.cons.injEq] at h
    refine ⟨rfl, h.1, ?_⟩
    cases w with
    | nil => rfl
    | cons x w => simp [tsyms] at h
  | cons s' α =>
    have := congrArg List.length h
    simp at this

theorem rd_cases {g : Grammar} {a b : List Sym} (h : RDerives g a b) :
    a = b ∨ ∃ m, RDerives g a m ∧ RStep g m b := by
  cases h with
  | refl => exact Or.inl rfl
  | tail h1 h2 => exact Or.inr ⟨_, h1, h2⟩

theorem rstep_inv {g : Grammar} {m b : List Sym} (h : RStep g m b) :
    ∃ (α : List Sym) (A k : Nat) (β : List Sym) (w : List Nat), (g.alts A)[k]? = some β ∧
      m = α ++ Sym.n A :: tsyms w ∧ b = α ++ β ++ tsyms w := by
  cases h with
  | mk α A k β w hk => exact ⟨α, A, k, β, w, hk, rfl, rfl⟩

theorem rd_trans {g : Grammar} {a b c : List Sym} (h1 : RDerives g a b) (h2 : RDerives g b c) :
    RDerives g a c := by
  induction h2 with
  | refl => exact h1
  | tail _ hs ih => exact RDerives.tail ih hs

theorem rstep_ctx {g : Grammar} {a b : List Sym} (π : List Sym) (w : List Nat) (h : RStep g a b) :
    RStep g (π ++ a ++ tsyms w) (π ++ b ++ tsyms w) := by
  cases h with
  | mk α A k β w0 hk =>
    have := RStep.mk (g := g) (π ++ α) A k β (w0 ++ w) hk
    simpa [tsyms_append, List.append_assoc] using this

theorem rd_ctx {g : Grammar} {a b : List Sym} (π : List Sym) (w : List Nat) (h : RDerives g a b) :
    RDerives g (π ++ a ++ tsyms w) (π ++ b ++ tsyms w) := by
  induction h with
  | refl => exact RDerives.refl
  | tail _ hs ih => exact RDerives.tail ih (rstep_ctx π w hs)

theorem rd_step {g : Grammar} {A k : Nat} {β : List Sym} (α : List Sym) (w : List Nat)
    (hk : (g.alts A)[k]? = some β) :
    RDerives g (α ++ Sym.n A :: tsyms w) (α ++ β ++ tsyms w) :=
  RDerives.tail (RDerives.refl) (RStep.mk α A k β w hk)

mutual
/-- a derivation tree, read as a rightmost derivation in any right-terminal context -/
theorem tree_rd (g : Grammar) (t : Tree) (hv : t.Valid g) (π : List Sym) (w : List Nat) :
    RDerives g (π ++ t.root :: tsyms w) (π ++ tsyms t.yield ++ tsyms w) :=
  match t, hv with
  | .leaf _, _ => by simpa [Tree.root, Tree.yield, tsyms] using RDerives.refl
  | .node _ _ cs, hv => by
    simpa [Tree.root, Tree.yield] using rd_trans (rd_step π w hv.1) (forest_rd g cs hv.2 π w)
theorem forest_rd (g : Grammar) (f : Forest) (hv : f.Valid g) (π : List Sym) (w : List Nat) :
    RDerives g (π ++ f.roots ++ tsyms w) (π ++ tsyms f.yield ++ tsyms w) :=
  match f, hv with
  | .nil, _ => RDerives.refl
  | .cons t f, hv => by
    -- the rightmost tree first
    have h1 := forest_rd g f hv.2 (π ++ [t.root]) w
    have h2 := tree_rd g t hv.1 π (f.yield ++ w)
    simp only [Forest.roots, Forest.yield, tsyms_append, List.append_assoc, List.cons_append,
      List.nil_append] at h1 h2 ⊢
    exact rd_trans h1 h2
end

/-- `θ ⇒*rm z` (a terminal string) seen from its end: either `θ` is `z` already, or the derivation
    has a last step `θ' C x ⇒ θ' ρ x = z`, reached in every right-terminal context -/
def Exposed (g : Grammar) (θ : List Sym) (z : List Nat) : Prop :=
  θ = tsyms z ∨ ∃ (θ' : List Sym) (C k : Nat) (ρ : List Sym) (x : List Nat),
    (g.alts C)[k]? = some ρ ∧
    (∀ (π : List Sym) (w : List Nat),
      RDerives g (π ++ θ ++ tsyms w) (π ++ θ' ++ Sym.n C :: tsyms (x ++ w))) ∧
    θ' ++ ρ ++ tsyms x = tsyms z

mutual
theorem tree_exposed (g : Grammar) : (t : Tree) → t.Valid g → Exposed g [t.root] t.yield
  | .leaf _, _ => Or.inl rfl
  | .node l k cs, hv => by
    right
    rcases forest_exposed g cs hv.2 with h | ⟨θ', C, k', ρ, x, hk, hd, he⟩
    · exact ⟨[], l, k, cs.roots, [], hv.1, fun π w => by simpa [Tree.root] using RDerives.refl,
        by simpa [Tree.yield, tsyms] using h⟩
    · refine ⟨θ', C, k', ρ, x, hk, fun π w => ?_, by simpa [Tree.yield] using he⟩
      simpa [Tree.root] using rd_trans (rd_step π w hv.1) (hd π w)
theorem forest_exposed (g : Grammar) : (f : Forest) → f.Valid g → Exposed g f.roots f.yield
  | .nil, _ => Or.inl rfl
  | .cons t f, hv => by
    rcases tree_exposed g t hv.1 with ht | ⟨θ', C, k', ρ, x, hk, hd, he⟩
    · -- the first tree is a leaf: the last step happens further right, if at all
      rcases forest_exposed g f hv.2 with hf' | ⟨θ', C, k', ρ, x, hk, hd, he⟩
      · left
        simp only [Forest.roots, Forest.yield, tsyms_append]
        rw [← hf', ← ht]; rfl
      · right
        refine ⟨t.root :: θ', C, k', ρ, x, hk, fun π w => ?_, ?_⟩
        · simpa [Forest.roots, List.append_assoc] using hd (π ++ [t.root]) w
        · simp only [Forest.yield, tsyms_append]
          rw [← he, ← ht]; simp
    · -- the last step of the first tree is the last step of the forest
      right
      refine ⟨θ', C, k', ρ, x ++ f.yield, hk, fun π w => ?_, ?_⟩
      · have h1 := forest_rd g f hv.2 (π ++ [t.root]) w
        have h2 := hd π (f.yield ++ w)
        simp only [Forest.roots, tsyms_append, List.append_assoc, List.cons_append,
          List.nil_append] at h1 h2 ⊢
        exact rd_trans h1 h2
      · simp only [Forest.yield, tsyms_append]
        rw [← he]; simp
end

theorem rd_sd {g : Grammar} {a b : List Sym} (h : RDerives g a b) : SDerives g a b := by
  induction h with
  | refl => exact SDerives.refl _
  | tail _ hs ih =>
    cases hs with
    | mk α A k β w hk => exact sd_trans ih (SDerives.step hk (SDerives.refl _))

end LRConverse
end Theo
