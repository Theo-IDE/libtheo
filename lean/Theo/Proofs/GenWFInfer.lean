/-
  Completeness of the certificate inference (C03) relative to a given valid certificate:
  if some certificate `c` passes `checkCert` and its pending-call routine ids are the ones
  `calleeOf` computes, then the worklist propagation `inferCert` produces a certificate that
  passes too, i.e. `wfCheck p = true` (`wfCheck_of_cert`).
  Proof: the loop keeps its certificate pointwise below `c` (`Below`), every annotated pc is on
  the worklist or has all its successors annotated (`Done`), and the fuel covers the worklist
  plus the still unannotated entries; at the end the rules transfer from `c` (`Chk.congr`).
-/
import Theo.Proofs.WFProofs
import Theo.Proofs.GenWFCert
namespace Theo
namespace GenWF
open WF

namespace Infer

theorem succs_valid {p : Program} {c : Cert} {root pc : Nat} {ins : Instr} {I : PcInfo}
    (hcal : CalOK p c) (hins : p.code[pc]? = some ins) (hI : c.info (pc : Int) = some I)
    (h : Chk p c root pc I ins) :
    ∀ s ∈ succsOf p.code pc ins I, c.info s.1 = some s.2 := by
  intro s hs
  cases h with
  | halt | ret => cases hs
  | potBreak _ hn | brk _ hn | add _ _ _ hn | test _ _ _ _ hn | const _ _ hn | jmp _ hn
  | arg _ _ _ hn =>
    cases List.mem_singleton.1 hs; exact hn
  | jmpc _ _ hj hn =>
    simp only [succsOf, List.mem_cons, List.not_mem_nil, or_false] at hs
    rcases hs with rfl | rfl
    · exact hj
    · exact hn
  | exec hp _ he hn =>
    simp only [succsOf, hp, List.mem_cons, List.not_mem_nil, or_false] at hs
    rcases hs with rfl | rfl
    · exact he
    · exact hn
  | @prepare cnt idx tgt j hp _ _ _ _ hN =>
    cases List.mem_singleton.1 hs
    rw [hN, ← hcal pc cnt idx tgt I _ _ j hins hI hN rfl]

def stepF (acc : Cert × List Nat) (s : Int × PcInfo) : Cert × List Nat :=
  if s.1 < 1 then acc else
  match acc.1[s.1.toNat]? with
  | some none => (acc.1.set s.1.toNat (some s.2), acc.2 ++ [s.1.toNat])
  | _ => acc

theorem count_set_none (l : Cert) (i : Nat) (J : PcInfo) (h : l[i]? = some none) :
    (l.set i (some J)).count none + 1 = l.count none := by
  obtain ⟨hi, hg⟩ := List.getElem?_eq_some_iff.1 h
  rw [List.count_set hi, hg]
  have : 0 < l.count none := List.count_pos_iff.2 (List.mem_of_getElem? h)
  simp
  omega

def Below (c a : Cert) : Prop :=
  a.length = c.length ∧ ∀ (i : Nat) (I : PcInfo), a[i]? = some (some I) → c[i]? = some (some I)

theorem Below.info {c a : Cert} (h : Below c a) {z : Int} {I : PcInfo} (hz : a.info z = some I) :
    c.info z = some I := by
  obtain ⟨h0, hg⟩ := info_eq_some hz
  exact Int.toNat_of_nonneg h0 ▸ info_of_get (h.2 _ _ hg)

structure Grow (x y : Cert × List Nat) : Prop where
  mono : ∀ (i : Nat) (I : PcInfo), x.1[i]? = some (some I) → y.1[i]? = some (some I)
  new : ∀ (i : Nat) (I : PcInfo), y.1[i]? = some (some I) → x.1[i]? = some (some I) ∨ i ∈ y.2
  sub : ∀ i ∈ x.2, i ∈ y.2
  cnt : y.2.length + y.1.count none = x.2.length + x.1.count none

theorem Grow.refl (x : Cert × List Nat) : Grow x x :=
  ⟨fun _ _ h => h, fun _ _ h => Or.inl h, fun _ h => h, rfl⟩

theorem Grow.trans {x y z : Cert × List Nat} (h1 : Grow x y) (h2 : Grow y z) : Grow x z where
  mono := fun i I h => h2.mono i I (h1.mono i I h)
  new := fun i I h => by
    rcases h2.new i I h with h | h
    · rcases h1.new i I h with h | h
      · exact Or.inl h
      · exact Or.inr (h2.sub i h)
    · exact Or.inr h
  sub := fun i h => h2.sub i (h1.sub i h)
  cnt := h2.cnt.trans h1.cnt

theorem stepF_spec {c : Cert} (h0 : c.info 0 = none) {x : Cert × List Nat} (hx : Below c x.1)
    {s : Int × PcInfo} (hs : c.info s.1 = some s.2) :
    Below c (stepF x s).1 ∧ Grow x (stepF x s) ∧ 1 ≤ s.1 ∧
      (stepF x s).1[s.1.toNat]? = some (some s.2) := by
  obtain ⟨hs0, hsg⟩ := info_eq_some hs
  have hne : s.1 ≠ 0 := fun h => by rw [h, h0] at hs; cases hs
  have hs1 : 1 ≤ s.1 := by omega
  unfold stepF
  rw [if_neg (Int.not_lt.2 hs1)]
  generalize s.1.toNat = n at hsg ⊢
  have hlt : n < x.1.length := hx.1 ▸ (List.getElem?_eq_some_iff.1 hsg).1
  cases hg : x.1[n]? with
  | none => exact absurd (List.getElem?_eq_none_iff.1 hg) (Nat.not_le.2 hlt)
  | some o =>
    cases o with
    | some J =>
      have hJ := hx.2 _ _ hg
      rw [hsg] at hJ
      injection hJ with hJ
      injection hJ with hJ
      exact ⟨hx, Grow.refl _, hs1, hJ ▸ hg⟩
    | none =>
      have hset : ∀ i, (x.1.set n (some s.2))[i]? = if n = i then some (some s.2) else x.1[i]? := fun i => by
        rw [List.getElem?_set, if_pos hlt]
      refine ⟨⟨List.length_set.trans hx.1, fun i I hi => ?_⟩,
        ⟨fun i I hi => ?_, fun i I hi => ?_, fun i hi => List.mem_append_left _ hi, ?_⟩,
        hs1, ?_⟩
      · rw [hset] at hi
        by_cases e : n = i
        · rw [if_pos e] at hi; exact e ▸ hi ▸ hsg
        · rw [if_neg e] at hi; exact hx.2 i I hi
      · show (x.1.set n (some s.2))[i]? = _
        rw [hset, if_neg (fun e => by rw [← e, hg] at hi; cases hi)]
        exact hi
      · change (x.1.set n (some s.2))[i]? = _ at hi
        rw [hset] at hi
        by_cases e : n = i
        · exact Or.inr (List.mem_append_right _ (List.mem_singleton.2 e.symm))
        · rw [if_neg e] at hi; exact Or.inl hi
      · have := count_set_none x.1 n s.2 hg
        show (x.2 ++ [n]).length + (x.1.set n (some s.2)).count none = _
        rw [List.length_append, List.length_singleton, Nat.add_assoc, Nat.add_comm 1, this]
      · show (x.1.set n (some s.2))[n]? = _
        rw [hset, if_pos rfl]

theorem fold_spec {c : Cert} (h0 : c.info 0 = none) :
    ∀ (ss : List (Int × PcInfo)) (x : Cert × List Nat), Below c x.1 →
      (∀ s ∈ ss, c.info s.1 = some s.2) →
      Below c (ss.foldl stepF x).1 ∧ Grow x (ss.foldl stepF x) ∧
        ∀ s ∈ ss, 1 ≤ s.1 ∧ (ss.foldl stepF x).1[s.1.toNat]? = some (some s.2) := by
  intro ss
  induction ss with
  | nil => intro x hx _; exact ⟨hx, Grow.refl _, fun _ h => by cases h⟩
  | cons s ss ih =>
    intro x hx hss
    obtain ⟨hb, hg, h1, hset⟩ := stepF_spec h0 hx (hss s List.mem_cons_self)
    obtain ⟨hb', hg', hall⟩ := ih (stepF x s) hb (fun t ht => hss t (List.mem_cons_of_mem _ ht))
    simp only [List.foldl_cons]
    refine ⟨hb', hg.trans hg', ?_⟩
    intro t ht
    rcases List.mem_cons.1 ht with rfl | ht
    · exact ⟨h1, hg'.mono _ _ hset⟩
    · exact hall t ht

theorem inferLoop_succ (code : List Instr) (fuel pc : Nat) (work : List Nat) (c : Cert) :
    inferLoop code (fuel + 1) (pc :: work) c =
      match code[pc]?, (c[pc]?).join with
      | some ins, some I =>
        inferLoop code fuel (work ++ ((succsOf code pc ins I).foldl stepF (c, [])).2)
          ((succsOf code pc ins I).foldl stepF (c, [])).1
      | _, _ => inferLoop code fuel work c := by
  rfl


def Done (p : Program) (a : Cert) (pc : Nat) (I : PcInfo) : Prop :=
  ∀ ins, p.code[pc]? = some ins → ∀ s ∈ succsOf p.code pc ins I,
    1 ≤ s.1 ∧ a[s.1.toNat]? = some (some s.2)

theorem Done.mono {p : Program} {a a' : Cert} {pc : Nat} {I : PcInfo}
    (hm : ∀ (i : Nat) (J : PcInfo), a[i]? = some (some J) → a'[i]? = some (some J))
    (h : Done p a pc I) : Done p a' pc I :=
  fun ins hins s hs => ⟨(h ins hins s hs).1, hm _ _ (h ins hins s hs).2⟩

structure Inv (p : Program) (c : Cert) (R : PcInfo) (work : List Nat) (a : Cert) : Prop where
  below : Below c a
  one : a[1]? = some (some R)
  done : ∀ (pc : Nat) (I : PcInfo), a[pc]? = some (some I) → pc ∈ work ∨ Done p a pc I

theorem loop_spec {p : Program} {c : Cert} {R : PcInfo} (ok : CertOK p c R) (hcal : CalOK p c) :
    ∀ (fuel : Nat) (work : List Nat) (a : Cert), Inv p c R work a →
      work.length + a.count none ≤ fuel → Inv p c R [] (inferLoop p.code fuel work a) := by
  intro fuel
  induction fuel with
  | zero =>
    intro work a hI hf
    have : work = [] := List.eq_nil_of_length_eq_zero (by omega)
    subst this
    exact hI
  | succ fuel ih =>
    intro work a hI hf
    cases work with
    | nil => exact hI
    | cons pc rest =>
      rw [inferLoop_succ]
      split
      · rename_i ins I hins hj
        have hg := Option.join_eq_some_iff.1 hj
        have hcI : c.info (pc : Int) = some I := info_of_get (hI.below.2 _ _ hg)
        have hchk := ok.rule pc I ins hcI hins
        have hss := succs_valid hcal hins hcI hchk
        obtain ⟨hb, hgr, hall⟩ := fold_spec ok.c0 (succsOf p.code pc ins I) (a, []) hI.below hss
        apply ih
        · refine ⟨hb, hgr.mono _ _ hI.one, ?_⟩
          intro i J hi
          rcases hgr.new i J hi with h | h
          · rcases hI.done i J h with hw | hd
            · rcases List.mem_cons.1 hw with rfl | hw
              · right
                have : J = I := by
                  rw [hg] at h; cases h; rfl
                subst this
                intro ins' hins' s hs
                rw [hins] at hins'; cases hins'
                exact hall s hs
              · left; exact List.mem_append.2 (Or.inl hw)
            · right; exact hd.mono hgr.mono
          · left; exact List.mem_append.2 (Or.inr h)
        · have := hgr.cnt
          simp only [List.length_nil, List.length_cons, List.length_append] at this hf ⊢
          omega
      · rename_i hne
        apply ih
        · refine ⟨hI.below, hI.one, ?_⟩
          intro i J hi
          rcases hI.done i J hi with hw | hd
          · rcases List.mem_cons.1 hw with rfl | hw
            · exfalso
              have hlt : i < p.code.length := by
                rw [← ok.len, ← hI.below.1]; exact (List.getElem?_eq_some_iff.1 hi).1
              exact hne _ _ (List.getElem?_eq_getElem hlt) (by rw [hi]; rfl)
            · exact Or.inl hw
          · exact Or.inr hd
        · simp only [List.length_cons] at hf
          omega


theorem inferCert_eq {p : Program} {fr mi t : Int}
    (hcode : p.code[0]? = some (Instr.prepare fr mi t)) (hlen : 2 ≤ p.code.length) :
    inferCert p = inferLoop p.code (p.code.length + 1) [1]
      ((List.replicate p.code.length none).set 1
        (some ⟨fr.toNat, retsBefore p.code p.code.length, none⟩)) := by
  unfold inferCert
  split
  · rename_i fr' mi' t' i1 rest hc
    rw [hc] at hcode
    simp only [List.getElem?_cons_zero, Option.some.injEq, Instr.prepare.injEq] at hcode
    obtain ⟨rfl, rfl, rfl⟩ := hcode
    rfl
  · rename_i hne
    exfalso
    rcases hp : p.code with _ | ⟨i0, _ | ⟨i1, rest⟩⟩
    · rw [hp] at hcode; cases hcode
    · rw [hp] at hlen; simp only [List.length_cons, List.length_nil] at hlen; omega
    · rw [hp] at hcode
      simp only [List.getElem?_cons_zero, Option.some.injEq] at hcode
      subst hcode
      exact hne _ _ _ _ _ hp

theorem certOK_of_inv {p : Program} {c a : Cert} {R : PcInfo} (ok : CertOK p c R) (hcal : CalOK p c)
    (hI : Inv p c R [] a) : CertOK p a R := by
  refine ⟨hI.below.1.trans ok.len, ok.head, ?_, info_of_get hI.one, ok.rpend, ok.rrid, ok.last, ?_, ok.sites⟩
  · cases h : a.info 0 with
    | none => rfl
    | some I => exact absurd ((hI.below.info h).symm.trans ok.c0) nofun
  · intro pc I ins hi hins
    have hcI := hI.below.info hi
    have hchk := ok.rule pc I ins hcI hins
    refine (hchk.congr fun s hs => ?_).to_check
    rw [succs_valid hcal hins hcI hchk s hs]
    rcases hI.done pc I (Int.toNat_natCast pc ▸ (info_eq_some hi).2) with hw | hd
    · cases hw
    · obtain ⟨h1, h2⟩ := hd ins hins s hs
      exact Int.toNat_of_nonneg (Int.le_trans Int.one_nonneg h1) ▸ info_of_get h2

theorem init_get {n i : Nat} {R I : PcInfo}
    (h : ((List.replicate n (none : Option PcInfo)).set 1 (some R))[i]? = some (some I)) : i = 1 ∧ I = R := by
  rw [List.getElem?_set] at h
  by_cases hi : 1 = i
  · rw [if_pos hi] at h
    split at h
    · injection h with h; injection h with h
      exact ⟨hi.symm, h.symm⟩
    · cases h
  · rw [if_neg hi, List.getElem?_replicate] at h
    split at h <;> cases h

end Infer
open Infer

theorem wfCheck_of_cert {p : Program} {c : Cert} (h : checkCert p c = true)
    (hcal : CalOK p c) : wfCheck p = true := by
  obtain ⟨R, ok⟩ := checkCert_iff.1 h
  obtain ⟨fr, mi, t, hcode, hfr, hmap, hR⟩ := ok.head
  obtain ⟨_, hc1⟩ := info_eq_some ok.c1
  have hn : 1 < p.code.length := ok.len ▸ (List.getElem?_eq_some_iff.1 hc1).1
  have hnr : 1 < (List.replicate p.code.length (none : Option PcInfo)).length := by
    rw [List.length_replicate]; exact hn
  unfold wfCheck
  rw [inferCert_eq hcode hn]
  have hRe : R = ⟨fr.toNat, retsBefore p.code p.code.length, none⟩ := by
    have h1 := ok.rpend
    have h2 : R.rid = retsBefore p.code p.code.length := ok.rrid
    cases R
    simp only at hR h1 h2
    subst hR h1 h2
    rfl
  rw [← hRe]
  refine checkCert_iff.2 ⟨R, certOK_of_inv ok hcal (loop_spec ok hcal _ _ _ ?_ ?_)⟩
  · refine ⟨⟨by rw [List.length_set, List.length_replicate, ok.len], fun i I hi => ?_⟩,
      List.getElem?_set_self hnr, fun i I hi => Or.inl ?_⟩
    · obtain ⟨rfl, rfl⟩ := init_get hi
      exact hc1
    · rw [(init_get hi).1]; exact List.mem_singleton.2 rfl
  · have := List.count_le_length (a := (none : Option PcInfo))
      (l := (List.replicate p.code.length none).set 1 (some R))
    rw [List.length_set, List.length_replicate] at this
    rw [List.length_singleton, Nat.add_comm]
    exact Nat.succ_le_succ this

end GenWF
end Theo
