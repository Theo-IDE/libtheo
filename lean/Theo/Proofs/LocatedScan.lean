/-
  C02 (located errors): the scanner.
  Every token and every error of `scan fs main` is positioned at the placeholder ("-", -1) or
  on a line of a file of `fs`; the file set scanned by `parseFiles` (standard file added, include
  phrase prepended to the main file) has the same located positions as the supplied files.
-/
import Theo.Spec.Located
import Theo.Proofs.ScanProofs

namespace Theo
namespace Loc

theorem countNl_take_drop (n : Nat) (s : Bytes) : countNl (s.take n) + countNl (s.drop n) = countNl s := by
  rw [← countNl_append, List.take_append_drop]

theorem lexBuffer_lines (content : Bytes) :
    ∀ t ∈ lexBuffer content, 1 ≤ t.line ∧ t.line ≤ lineCount content := by
  intro t ht
  obtain ⟨pre, suf, _, n, e, _, _, _, hl⟩ := lexFrom_mem LexGen.rules _ _ _ t ht
  have := countNl_take_drop n suf
  unfold lineCount
  rw [e, countNl_append, hl, countNl_append]
  omega

def SLoc (fs : Files) (file : Bytes) (line : Int) : Prop :=
  ∃ c, fs.get? file = some c ∧ InLines c line

def PLoc (fs : Files) (file : Bytes) (line : Int) : Prop :=
  (file = bDash ∧ line = -1) ∨ SLoc fs file line

def OutLoc (fs : Files) (o : ScanOut) : Prop :=
  (∀ t ∈ o.toks, SLoc fs t.file t.line) ∧ (∀ e ∈ o.errs, SLoc fs e.file e.line)

theorem OutLoc.append {fs : Files} {a b : ScanOut} (ha : OutLoc fs a) (hb : OutLoc fs b) :
    OutLoc fs (a.append b) :=
  ⟨List.forall_mem_append.2 ⟨ha.1, hb.1⟩, List.forall_mem_append.2 ⟨ha.2, hb.2⟩⟩

theorem scanFile_loc (fs : Files) (d : Nat) (active : List Bytes) (fname content : Bytes)
    (hf : fs.get? fname = some content) : OutLoc fs (scanFile d fs active fname content) := by
  have hQ : ∀ f c, fs.get? f = some c → ∀ r ∈ lexBuffer c, SLoc fs f r.line := by
    intro f c hc r hr
    have := lexBuffer_lines c r hr
    exact ⟨c, hc, by unfold InLines; omega⟩
  obtain ⟨ht, he⟩ := scanFile_raw fs (fun f r => SLoc fs f r.line) hQ d active fname content (hQ _ _ hf)
  constructor
  · intro t h
    obtain ⟨r, hq, _, _, hl⟩ := ht t h
    rw [hl]; exact hq
  · intro e h
    obtain ⟨r, hq, hl⟩ := he e h
    rw [hl]; exact hq

theorem scan_loc (fs : Files) (main : Bytes) :
    (∀ t ∈ (scan fs main).toks, PLoc fs t.file t.line) ∧
    (∀ e ∈ (scan fs main).errs, PLoc fs e.file e.line) := by
  have hfile := fun c h => scanFile_loc fs (fs.length + 1) [] main c h
  constructor
  · refine scan_toks_ind fs main (fun t => PLoc fs t.file t.line) (fun c h t ht => Or.inr ((hfile c h).1 t ht)) ?_
    unfold scanEof scanBody
    split
    · next l hl =>
      split at hl
      · next c h => exact Or.inr ((hfile c h).1 l (List.mem_of_getLast? hl))
      · cases hl
    · split
      · next hm =>
        obtain ⟨c, hc⟩ := Option.isSome_iff_exists.1 hm
        exact Or.inr ⟨c, hc, by unfold InLines lineCount; simp only; omega⟩
      · exact Or.inl ⟨rfl, rfl⟩
  · rw [scan_errs]
    split
    · next c h => exact fun e he => Or.inr ((hfile c h).2 e he)
    · intro e he
      rw [List.mem_singleton.1 he]
      exact Or.inl ⟨rfl, rfl⟩

def stdFiles (files : Files) : Files :=
  if files.has ConstGen.stdFileName then files
  else files ++ [(ConstGen.stdFileName, ConstGen.stdMacroText)]

def scanFiles (files : Files) (main : Bytes) : Files :=
  (stdFiles files).map (fun e => if e.1 = main then (e.1, ConstGen.includePhrase ++ e.2) else e)

theorem get?_append_single (fs : Files) (k v n : Bytes) :
    Files.get? (fs ++ [(k, v)]) n = (fs.get? n).or (if k = n then some v else none) := by
  unfold Files.get?
  rw [List.find?_append, Option.map_or]
  congr 1
  by_cases h : k = n <;> simp [h]

theorem get?_map_main (fs : Files) (main n : Bytes) (g : Bytes → Bytes) :
    Files.get? (fs.map (fun e => if e.1 = main then (e.1, g e.2) else e)) n =
      (fs.get? n).map (fun c => if n = main then g c else c) := by
  induction fs with
  | nil => rfl
  | cons x xs ih =>
    unfold Files.get? at ih ⊢
    rw [List.map_cons, List.find?_cons, List.find?_cons]
    have e1 : (if x.1 = main then (x.1, g x.2) else x).1 = x.1 := by split <;> rfl
    rw [e1]
    by_cases h : x.1 = n
    · simp only [h, decide_true, Option.map_some]
      subst h; split <;> rfl
    · simp only [h, decide_false]; exact ih

theorem cstr_phrase (c : Bytes) : cstr (ConstGen.includePhrase ++ c) = ConstGen.includePhrase ++ cstr c :=
  List.takeWhile_append_of_pos (by decide)

/-- the include phrase has no newline and no NUL: it does not change the number of lines -/
theorem lineCount_phrase (c : Bytes) : lineCount (ConstGen.includePhrase ++ c) = lineCount c := by
  unfold lineCount
  rw [cstr_phrase, countNl_append]
  have : countNl ConstGen.includePhrase = 0 := by decide
  omega

theorem located_of_scanFiles (files : Files) (main file : Bytes) (line : Int)
    (h : PLoc (scanFiles files main) file line) : Located files file line := by
  rcases h with h | ⟨c, hc, hl⟩
  · exact Or.inl h
  · right
    unfold scanFiles at hc
    rw [get?_map_main] at hc
    obtain ⟨c1, h1, rfl⟩ := Option.map_eq_some_iff.1 hc
    have hl1 : InLines c1 line := by
      unfold InLines at hl ⊢
      split at hl
      · rwa [lineCount_phrase] at hl
      · exact hl
    unfold stdFiles at h1
    split at h1
    · rw [h1]; exact hl1
    · rw [get?_append_single] at h1
      cases h2 : files.get? file with
      | some c2 =>
        rw [h2] at h1
        cases h1
        exact hl1
      | none =>
        rw [h2, Option.none_or] at h1
        split at h1
        · next hk => cases h1; exact ⟨hk.symm, hl1⟩
        · cases h1

theorem scan_located (files : Files) (main : Bytes) :
    (∀ t ∈ (scan (scanFiles files main) main).toks, Located files t.file t.line) ∧
    (∀ e ∈ (scan (scanFiles files main) main).errs, Located files e.file e.line) :=
  ⟨fun t ht => located_of_scanFiles files main _ _ ((scan_loc _ main).1 t ht),
   fun e he => located_of_scanFiles files main _ _ ((scan_loc _ main).2 e he)⟩

end Loc
end Theo
