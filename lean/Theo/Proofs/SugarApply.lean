/-
  C04 (sugar) — `detect`, `replacement`, priority bins and the pass loop of the model on the two
  built-in definitions: one pass of `apply_macros` is one `sugarStep`, the loop is `desugarLA`.
-/
import Theo.Proofs.SugarDetect
import Theo.Proofs.MacroProofs
import Theo.Proofs.SugarList

namespace Theo.Sugar

section defs
variable {m : MacroDef} {op name : Bytes} {line : Int}

theorem check_sugar (hm : IsSugarDef m op name line) (a b c : Token) :
    checkConstraint m [[a], [b], [c]] = (b.text == op) := by
  obtain ⟨req, hr, rfl⟩ := Option.map_eq_some_iff.1 hm.op
  simp [checkConstraint, hm.cc, hr]

theorem detectFrom_hit (hm : IsSugarDef m op name line) (a b c e : Token) (rest : List Token) (i : Nat)
    (h : hitOp op (a :: b :: c :: e :: rest) = true) :
    detectFrom (mkDetector m) (a :: b :: c :: e :: rest) i = some ⟨i, 3, [[a], [b], [c]]⟩ := by
  simp only [hitOp, Bool.and_eq_true, decide_eq_true_eq] at h
  obtain ⟨⟨⟨⟨h1, h2⟩, h3⟩, h4⟩, h5⟩ := h
  obtain ⟨acc, hacc, hsp, hn⟩ := detectAt_sugar_hit hm.tables (rest := rest) h1 h2 h3 h4
  have : (mkDetector m).md = m := rfl
  rw [detectFrom, hacc]
  simp only [this, hsp, hn, check_sugar hm, h5, beq_self_eq_true, if_true]

theorem detectFrom_miss (hm : IsSugarDef m op name line) (t : Token) (ts : List Token) (i : Nat)
    (h : hitOp op (t :: ts) = false) :
    detectFrom (mkDetector m) (t :: ts) i = detectFrom (mkDetector m) ts (i + 1) := by
  rw [detectFrom]
  cases hd : detectAt (mkDetector m) (t :: ts) with
  | none => rfl
  | some acc =>
    obtain ⟨a, b, c, e, rest, heq, h1, h2, h3, h4, hsp, _⟩ := detectAt_sugar hm.tables hd
    have : (mkDetector m).md = m := rfl
    have hb : ¬ b.text = op := fun hb => by
      rw [heq, hitOp_iff.2 ⟨a, b, c, e, rest, rfl, h1, h2, h3, h4, hb⟩] at h; cases h
    simp [this, hsp, check_sugar hm, hb]

theorem detectFrom_loc (d : Detector) (ts : List Token) (i : Nat) (r : Response)
    (h : detectFrom d ts i = some r) : i ≤ r.location := by
  obtain ⟨k, _, _, hl, _⟩ := detectFrom_some d ts i r h
  omega

theorem replacement_sugar (hm : IsSugarDef m op name line) (i : Nat) (a b c : Token) (p : Nat) :
    replacement m ⟨i, 3, [[a], [b], [c]]⟩ p = call name line a c := by
  unfold replacement
  rw [hm.body, hm.tt]
  rfl

end defs

theorem bins_pair (d1 d2 : Detector) (h : d1.md.priority = d2.md.priority) :
    bins [d1, d2] = [[d1, d2]] := by
  simp [bins, h, List.eraseDups_cons, insertionSort, sortedInsert]

def cands (m1 m2 : MacroDef) (ts : List Token) (i : Nat) : List (Detector × Response) :=
  [mkDetector m1, mkDetector m2].filterMap (fun d => (detectFrom d ts i).map (fun r => (d, r)))

theorem mem_cands {m1 m2 : MacroDef} {ts : List Token} {i : Nat} {d : Detector} {r : Response} :
    (d, r) ∈ cands m1 m2 ts i ↔
      (d = mkDetector m1 ∨ d = mkDetector m2) ∧ detectFrom d ts i = some r := by
  simp only [cands, List.mem_filterMap, Option.map_eq_some_iff, Prod.mk.injEq, List.mem_cons,
    List.not_mem_nil, or_false]
  constructor
  · rintro ⟨d', hd', r', hr', rfl, rfl⟩
    exact ⟨hd', hr'⟩
  · rintro ⟨hd, hr⟩
    exact ⟨d, hd, r, hr, rfl, rfl⟩

theorem splice_eq (pre : List Token) (i : Nat) (hpre : pre.length = i) (a b c : Token) (rest repl : List Token) :
    (pre ++ a :: b :: c :: rest).take i ++ repl ++ (pre ++ a :: b :: c :: rest).drop (i + 3) =
      pre ++ (repl ++ rest) := by
  subst hpre
  rw [List.take_left', List.drop_append]
  · simp
  · rfl

/-- an occurrence of `op` at the head of the stream: whichever way the two detections are listed,
    the one chosen is that of the definition of `op` at the head (the other definition finds
    nothing there, and nothing is further left), and the step puts the call in its place -/
theorem head_hit {m m' : MacroDef} {op name op' name' : Bytes} {line line' : Int}
    (hm : IsSugarDef m op name line) (hm' : IsSugarDef m' op' name' line') (hne : op ≠ op')
    {a b c e : Token} {rest : List Token} {i : Nat} (l : List (Detector × Response))
    (hl : ∀ d r, (d, r) ∈ l ↔
      (d = mkDetector m ∨ d = mkDetector m') ∧ detectFrom d (a :: b :: c :: e :: rest) i = some r)
    (h : hitOp op (a :: b :: c :: e :: rest) = true) (p : Nat) :
    ∃ d r, pickBest l = some (d, r) ∧ ∀ pre : List Token, pre.length = i →
      (pre ++ a :: b :: c :: e :: rest).take r.location ++ replacement d.md r p ++
          (pre ++ a :: b :: c :: e :: rest).drop (r.location + r.length) =
        pre ++ (call name line a c ++ e :: rest) := by
  have hd := detectFrom_hit hm a b c e rest i h
  have hmem := (hl _ _).2 ⟨Or.inl rfl, hd⟩
  cases hpb : pickBest l with
  | none => rw [pickBest_none.1 hpb] at hmem; cases hmem
  | some dr =>
    obtain ⟨d, r⟩ := dr
    obtain ⟨hin, hdom⟩ := pickBest_some hpb
    obtain ⟨hdd, hr⟩ := (hl d r).1 hin
    have hloc := detectFrom_loc d _ i r hr
    have hdom0 : r.location < i ∨ (r.location = i ∧ 3 ≤ r.length) := hdom _ hmem
    -- the chosen detection is the one at the head: the other definition starts behind it
    have hr0 : d = mkDetector m ∧ r = ⟨i, 3, [[a], [b], [c]]⟩ := by
      rcases hdd with rfl | rfl
      · rw [hd] at hr; exact ⟨rfl, (Option.some.inj hr).symm⟩
      · rw [detectFrom_miss hm' _ _ i (hitOp_ne hne h)] at hr
        have := detectFrom_loc _ _ _ r hr
        omega
    obtain ⟨rfl, rfl⟩ := hr0
    refine ⟨_, _, rfl, fun pre hpre => ?_⟩
    show _ ++ replacement m _ p ++ _ = _
    rw [replacement_sugar hm]
    exact splice_eq pre i hpre a b c (e :: rest) _

theorem step_sim {m1 m2 : MacroDef} (h1 : IsSugarDef m1 plus incName 1)
    (h2 : IsSugarDef m2 minus decName 2) (p : Nat) :
    ∀ (ts : List Token) (i : Nat),
      match sugarStep ts with
      | none => cands m1 m2 ts i = []
      | some ts' => ∃ d r, pickBest (cands m1 m2 ts i) = some (d, r) ∧
        ∀ pre : List Token, pre.length = i →
          (pre ++ ts).take r.location ++ replacement d.md r p ++ (pre ++ ts).drop (r.location + r.length) =
            pre ++ ts'
  | [], _ => rfl
  | t :: tl, i => by
    rcases hit_cases (t :: tl) with ⟨op, name, line, ho, hh⟩ | ⟨hp, hm⟩
    · obtain ⟨a, b, c, e, rest, heq, _⟩ := hitOp_iff.1 hh
      rw [heq] at hh ⊢
      rw [(sugar_hit ho hh).2.2]
      cases ho
      · exact head_hit h1 h2 plus_ne_minus _ (fun _ _ => mem_cands) hh p
      · exact head_hit h2 h1 plus_ne_minus.symm _ (fun _ _ => by rw [mem_cands, or_comm]) hh p
    · have hc : cands m1 m2 (t :: tl) i = cands m1 m2 tl (i + 1) := by
        simp only [cands, List.filterMap_cons, List.filterMap_nil, detectFrom_miss h1 t tl i hp, detectFrom_miss h2 t tl i hm]
      have ih := step_sim h1 h2 p tl (i + 1)
      rw [(sugar_miss hp hm).2.2, hc]
      cases hx : sugarStep tl with
      | none => rw [hx] at ih; exact ih
      | some tl' =>
        rw [hx] at ih
        obtain ⟨d, r, hpb, hsp⟩ := ih
        exact ⟨d, r, hpb, fun pre hpre => by simpa using hsp (pre ++ [t]) (by simp [hpre])⟩

section loop
variable {m1 m2 : MacroDef}

theorem applyStep_sugar (h1 : IsSugarDef m1 plus incName 1) (h2 : IsSugarDef m2 minus decName 2)
    (inp : List Token) (p : Nat) :
    (applyStep [[mkDetector m1, mkDetector m2]] inp p).map (·.2.2) = sugarStep inp := by
  have hc : [mkDetector m1, mkDetector m2].filterMap (fun d => (detect d inp).map (fun r => (d, r))) =
      cands m1 m2 inp 0 := rfl
  have hs := step_sim h1 h2 p inp 0
  rw [applyStep, hc]
  cases hx : sugarStep inp with
  | none => rw [hx] at hs; rw [hs]; rfl
  | some inp' =>
    rw [hx] at hs
    obtain ⟨d, r, hpb, hsp⟩ := hs
    rw [hpb]
    exact congrArg some (hsp [] rfl)

theorem passLoop_sugar (h1 : IsSugarDef m1 plus incName 1) (h2 : IsSugarDef m2 minus decName 2) :
    ∀ (left pass : Nat) (inp : List Token) (n : Nat),
      passLoop [[mkDetector m1, mkDetector m2]] left pass inp n =
        (sugarIter left inp, n + min left (sugarCountLA inp), decide (left ≤ sugarCountLA inp))
  | 0, _, _, _ => by rw [Nat.zero_min]; rfl
  | left + 1, pass, inp, n => by
    have hs := applyStep_sugar h1 h2 inp pass
    rw [passLoop_succ, sugarIter]
    cases hx : sugarStep inp with
    | none =>
      rw [hx, Option.map_eq_none_iff] at hs
      rw [hs, (sugarStep_none hx).2]
      rfl
    | some inp' =>
      rw [hx] at hs
      obtain ⟨⟨d, r, _⟩, hst, rfl⟩ := Option.map_eq_some_iff.1 hs
      rw [hst, (sugarStep_some hx).2]
      simp only [passLoop_sugar h1 h2 left, Nat.add_min_add_right, Nat.add_le_add_iff_right,
        Nat.add_assoc, Nat.add_comm 1]

theorem sugar_usable {m : MacroDef} {op name : Bytes} {line : Int} (h : IsSugarDef m op name line) :
    (mkDetector m).usable = true := by
  rw [Detector.usable, h.tables]; rfl

theorem applyMacros_pair (h1 : IsSugarDef m1 plus incName 1) (h2 : IsSugarDef m2 minus decName 2)
    (inp : List Token) (passes : Nat) :
    (sugarCountLA inp < passes →
      applyMacros inp [m1, m2] passes = ⟨desugarLA inp, [], sugarCountLA inp⟩) ∧
    (1 ≤ passes → passes ≤ sugarCountLA inp →
      applyMacros inp [m1, m2] passes = ⟨sugarIter passes inp, [maxPassesErr], passes⟩) := by
  have hb : bins (([m1, m2].map mkDetector).filter (·.usable)) = [[mkDetector m1, mkDetector m2]] := by
    simp only [List.map_cons, List.map_nil, List.filter_cons, sugar_usable h1, sugar_usable h2, if_true,
      List.filter_nil]
    exact bins_pair _ _ (by show m1.priority = m2.priority; rw [h1.prio, h2.prio])
  have he : nonLRErrs [m1, m2] = [] := by simp [nonLRErrs, sugar_usable h1, sugar_usable h2]
  cases passes with
  | zero =>
    exact ⟨fun h => absurd h (Nat.not_lt_zero _), fun h => absurd h (by omega)⟩
  | succ k =>
    have hp := passLoop_sugar h1 h2 (k + 1) 0 inp 0
    rw [applyMacros_eq]
    dsimp only
    rw [hb, he, hp]
    constructor
    · intro h
      simp [sugarIter_eq _ _ (Nat.le_of_lt h), Nat.min_eq_right (Nat.le_of_lt h), Nat.not_le.2 h]
    · intro _ h
      simp [Nat.min_eq_left h, h]

end loop

end Theo.Sugar
