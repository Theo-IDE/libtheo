/-
  C01 for the generator model: values and argument lists — what their dispatch does to
  the register file (`VK`: growth, temporaries in use are kept, the new temporaries of an
  argument list were free before).
-/
import Theo.Proofs.GenShapePrim

namespace Theo
namespace GenShape
open GS Sem Static

/-- a user variable (see Props/C01GenShape.lean): not of the hidden-counter shape, and not the name of the temporaries -/
def varOK (x : Bytes) : Bool := !bLoopVar.isPrefixOf x && x != bTempName

def isNil : Node → Bool
  | .nil => true
  | _ => false

def valNames : Node → Bool
  | .nil => true
  | .mk t tok _ _ l r =>
    if t = NodeT.SPLIT then valNames l && valNames r
    else if t = NodeT.NAME then varOK tok
    else if t = NodeT.CALL then valNames r
    else true

theorem valNames_mk (t : Nat) (tok file : Bytes) (line : Int) (l r : Node) :
    valNames (.mk t tok file line l r) =
      if t = NodeT.SPLIT then valNames l && valNames r
      else if t = NodeT.NAME then varOK tok
      else if t = NodeT.CALL then valNames r
      else true := by rw [valNames]

abbrev PV : Bytes → Prop := fun x => varOK x = true

theorem PV_noPrefix (x : Bytes) (h : PV x) : bLoopVar.isPrefixOf x = false := by
  unfold PV varOK at h
  simp at h
  exact h.1
theorem PV_ne_temp (x : Bytes) (h : PV x) : x ≠ bTempName := by
  unfold PV varOK at h
  simp at h
  exact h.2

structure VK (gs gs' : GS) : Prop where
  vq : VQ PV gs gs'
  keep : KeepUse gs.top.regs gs'.top.regs

theorem VK.refl (gs : GS) : VK gs gs := ⟨VQ.refl _ _, KeepUse.refl _⟩
theorem VK.trans {a b c : GS} (h1 : VK a b) (h2 : VK b c) : VK a c := ⟨h1.vq.trans h2.vq, h1.keep.trans h2.keep⟩

theorem VK.of_syms {gs gs' : GS} (hv : VQ PV gs gs') (hs : gs'.symbols = gs.symbols) : VK gs gs' :=
  ⟨hv, by rw [top_congr hs]; exact KeepUse.refl _⟩

theorem vk_err (gs : GS) (k : Nat) : VK gs (gs.err k) := VK.of_syms (vq_err _ _ _) rfl
theorem vk_emit (gs : GS) (i : Instr) : VK gs (gs.emit i) := VK.of_syms (vq_emit _ _ _) rfl
theorem vk_advanceLine (gs : GS) (line : Int) (file : Bytes) : VK gs (gs.advanceLine line file) :=
  VK.of_syms (vq_advanceLine _ _ _ _) (advanceLine_symbols _ _ _)
theorem vk_genStrToInt (gs : GS) (tok : Bytes) : VK gs (genStrToInt gs tok).1 := by
  unfold genStrToInt
  dsimp only
  split
  · exact vk_err _ _
  · exact VK.refl _
theorem vk_fetchVar (gs : GS) (x : Bytes) (hx : PV x) : VK gs (gs.fetchVar x).1 :=
  ⟨(fetchVar_spec PV gs x hx).vq, (fetchVar_spec PV gs x hx).keep⟩
theorem vk_fetchTemporary (gs : GS) : VK gs gs.fetchTemporary.1 :=
  ⟨(fetchTemporary_spec PV gs).vq, (fetchTemporary_spec PV gs).keep⟩

theorem keep_release {B : List VReg} (g : GS) (t : Int) (hk : KeepUse B g.top.regs) (hf : FreeAt B t) :
    KeepUse B (g.releaseTemporary t).top.regs := by
  intro i r hi hu
  show (g.top.regs.modify t.toNat _)[i]? = some r
  rw [List.getElem?_modify, hk i r hi hu]
  obtain ⟨j, ej, hfree⟩ := hf
  by_cases h : t.toNat = i
  · exfalso
    have : j = i := by omega
    subst this
    rw [hfree r hi] at hu; cases hu
  · simp [h]

theorem argFold_spec (B : List VReg) : ∀ (l : List (Int × Nat)) (g : GS),
    (∀ a ∈ l, FreeAt B a.1) → KeepUse B g.top.regs →
    VQ PV g (l.foldl (fun g a => (g.emit (.arg a.2 a.1)).releaseTemporary a.1) g) ∧
    KeepUse B (l.foldl (fun g a => (g.emit (.arg a.2 a.1)).releaseTemporary a.1) g).top.regs := by
  intro l
  induction l with
  | nil => intro g _ hk; exact ⟨VQ.refl _ _, hk⟩
  | cons a as ih =>
    intro g hf hk
    simp only [List.foldl_cons]
    have h1 : KeepUse B ((g.emit (.arg a.2 a.1)).releaseTemporary a.1).top.regs :=
      keep_release (g.emit (.arg a.2 a.1)) a.1 hk (hf a List.mem_cons_self)
    obtain ⟨v, k⟩ := ih ((g.emit (.arg a.2 a.1)).releaseTemporary a.1) (fun x hx => hf x (List.mem_cons_of_mem _ hx)) h1
    exact ⟨((vq_emit PV g _).trans (vq_releaseTemporary PV _ _)).trans v, k⟩

theorem mem_zipIdx_fst {α} {l : List α} {k : Nat} {a : α × Nat} (h : a ∈ l.zipIdx k) : a.1 ∈ l := by
  induction l generalizing k with
  | nil => simp at h
  | cons x xs ih =>
    rw [List.zipIdx_cons] at h
    rcases List.mem_cons.1 h with h | h
    · rw [h]; exact List.mem_cons_self
    · exact List.mem_cons_of_mem _ (ih h)

theorem callTail_vk (B : List VReg) (gs : GS) (al : List Int) (l r : Node) (tgt : Int)
    (hf : ∀ t ∈ al, FreeAt B t) (hk : KeepUse B gs.top.regs) :
    VQ PV gs (callTail gs al l r tgt) ∧ KeepUse B (callTail gs al l r tgt).top.regs := by
  unfold callTail
  dsimp only
  split
  · split
    · exact ⟨vq_emit _ _ _, hk⟩
    · exact ⟨vq_emit _ _ _, hk⟩
  · split
    · exact ⟨vq_err _ _ _, hk⟩
    · split
      · exact ⟨vq_err _ _ _, hk⟩
      · rename_i p _ _
        obtain ⟨v, k⟩ := argFold_spec B al.zipIdx (gs.emit (.prepare p.stackSize p.mi tgt))
          (fun a ha => hf a.1 (mem_zipIdx_fst ha)) hk
        exact ⟨((vq_emit PV gs _).trans v).trans (vq_emit PV _ _), k⟩

theorem FreeAt.back {a b : List VReg} {t : Int} (h : FreeAt b t) (k : KeepUse a b) : FreeAt a t := by
  obtain ⟨i, e, hf⟩ := h
  refine ⟨i, e, ?_⟩
  intro r hr
  cases hu : r.inUse with
  | false => rfl
  | true =>
    have := hf r (k i r hr hu)
    rw [hu] at this; cases this

structure ArgsRes (gs gs' : GS) (acc acc' : List Int) : Prop where
  vk : VK gs gs'
  new : ∃ nw, acc' = acc ++ nw ∧ LiveOK gs'.top.regs nw ∧ ∀ t ∈ nw, FreeAt gs.top.regs t

theorem vk_values : ∀ n : Node, valNames n = true →
    (∀ gs tgt, VK gs (genV gs n tgt)) ∧ (∀ gs acc, ArgsRes gs (genCA gs n acc).1 acc (genCA gs n acc).2) := by
  intro n
  induction n with
  | nil =>
    exact fun _ => ⟨fun gs tgt => by rw [genV_nil]; exact VK.refl _,
      fun gs acc => by rw [genCA_nil]; exact ⟨VK.refl _, [], by simp, LiveOK.nil _, fun _ h => by cases h⟩⟩
  | mk t tok file line l r ihl ihr =>
    intro hn
    rw [valNames_mk] at hn
    have hv : t ≠ NodeT.SPLIT → ∀ gs tgt, VK gs (genV gs (.mk t tok file line l r) tgt) := by
      intro hs gs tgt
      rw [if_neg hs] at hn
      rw [genV_mk]
      have h0 := vk_advanceLine gs line file
      generalize gs.advanceLine line file = gs0 at h0
      refine h0.trans ?_
      by_cases h1 : t = NodeT.NAME
      · rw [if_pos h1]
        rw [if_pos h1] at hn
        exact (vk_fetchVar gs0 tok hn).trans (vk_emit _ _)
      rw [if_neg h1]
      by_cases h2 : t = NodeT.NUMBER
      · rw [if_pos h2]
        exact (vk_genStrToInt _ _).trans (vk_emit _ _)
      rw [if_neg h2]
      by_cases h3 : t = NodeT.CALL
      · rw [if_pos h3]
        rw [if_neg h1, if_pos h3] at hn
        obtain ⟨va, nw, e1, _, e3⟩ := (ihr hn).2 gs0 []
        have e1' : (genCA gs0 r []).2 = nw := by simpa using e1
        obtain ⟨v, k⟩ := callTail_vk gs0.top.regs (genCA gs0 r []).1 (genCA gs0 r []).2 l r tgt
          (by rw [e1']; exact e3) va.keep
        exact ⟨va.vq.trans v, k⟩
      · rw [if_neg h3]
        exact vk_err _ _
    by_cases h1 : t = NodeT.SPLIT
    · rw [if_pos h1, Bool.and_eq_true] at hn
      refine ⟨fun gs tgt => ?_, fun gs acc => ?_⟩
      · rw [genV_mk, if_neg (by rw [h1]; decide), if_neg (by rw [h1]; decide), if_neg (by rw [h1]; decide)]
        exact (vk_advanceLine gs line file).trans (vk_err _ _)
      · rw [genCA_mk, if_pos h1]
        obtain ⟨v1, n1, a1, b1, c1⟩ := (ihl hn.1).2 gs acc
        obtain ⟨v2, n2, a2, b2, c2⟩ := (ihr hn.2).2 (genCA gs l acc).1 (genCA gs l acc).2
        refine ⟨v1.trans v2, n1 ++ n2, by rw [a2, a1, List.append_assoc], ?_, ?_⟩
        · exact (b1.keep v2.keep).append b2
        · intro t ht
          rcases List.mem_append.1 ht with ht | ht
          · exact c1 t ht
          · exact (c2 t ht).back v1.keep
    · refine ⟨hv h1, fun gs acc => ?_⟩
      rw [genCA_mk, if_neg h1]
      dsimp only
      have ft := fetchTemporary_spec PV gs
      have hv := hv h1 gs.fetchTemporary.1 gs.fetchTemporary.2
      refine ⟨(vk_fetchTemporary gs).trans hv, [gs.fetchTemporary.2], rfl, ?_, ?_⟩
      · intro x hx
        simp at hx
        subst hx
        obtain ⟨i, r', e1, e2, e3, e4⟩ := ft.reg
        exact ⟨i, r', e1, hv.keep i r' e2 e4, e3, e4⟩
      · intro x hx
        simp at hx
        subst hx
        exact ft.free

theorem vk_value (gs : GS) (n : Node) (tgt : Int) (h : valNames n = true) : VK gs (genV gs n tgt) :=
  (vk_values n h).1 gs tgt

theorem vk_args (gs : GS) (n : Node) (acc : List Int) (h : valNames n = true) :
    ArgsRes gs (genCA gs n acc).1 acc (genCA gs n acc).2 := (vk_values n h).2 gs acc

end GenShape
end Theo
