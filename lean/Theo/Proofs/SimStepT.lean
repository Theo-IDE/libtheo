/-
  One step of the reference machine against the VM, with the sites passed (`sim_stepT`).  The
  counterpart of `sim_step` (SimStep.lean) for `MatchT`: the case analysis on `step_rule` is the
  same, and so are the cases up to two differences.  Positions are exact, so instructions are
  executed by the `x_*` lemmas of SimExec.lean (values and calls: the `r_*` lemmas at `S = 0`
  inside a range without sites), not behind sites; and a statement is entered through the site in
  front of it (`after_visit`).  The result records the sites passed instead of counting
  instructions, and the VM may stand still (`StepResT`).
-/
import Theo.Proofs.SimMatchT

namespace Theo
namespace Sim
open Sem WF

section
variable {src : Source} {p : Program} {V : Valid src p} {tend : Nat → Nat} {c : Cert} {R : PcInfo}

def EvOK (p : Program) (cfg : Config) (L : List (BreakPoint × VM)) : Prop :=
  L.map (fun x => posOfBp x.1) = (stepEvent cfg).toList ∧
  ∀ x ∈ L, StacksAgree' p x.2.data cfg.stack x.2.stack

theorem EvOK.nil {cfg : Config} (h : stepEvent cfg = none) : EvOK p cfg [] :=
  ⟨by rw [h]; rfl, fun _ h => nomatch h⟩

variable (V tend c R) in
/-- the outcome of simulating one step of the reference machine: the next matched state `vm'`
    and the sites `L` passed on the way.  Either the VM executes at least one instruction (`EP`),
    or it stands still: such a step passes no site and decreases `cmeasure`, so only finitely many
    of them follow one another (the inner induction of `reachT`, SimEvents.lean).  `halt`: the
    reference machine halts and the VM runs to the matched `HALT`. -/
inductive StepResT (cfg : Config) (vm : VM) (cfg' : Config) : Prop where
  | run (vm' : VM) (L : List (BreakPoint × VM)) : cfg'.status = .running →
      (EP p vm L vm' ∨ (vm' = vm ∧ L = [] ∧ cmeasure cfg' < cmeasure cfg)) → EvOK p cfg L →
      MatchT V tend c R cfg' vm' → StepResT cfg vm cfg'
  | halt (vm' : VM) (L : List (BreakPoint × VM)) : cfg'.status = .halted → ES p vm L vm' →
      EvOK p cfg L → vm'.isDone = .ok true → StacksAgree' p vm'.data cfg'.stack vm'.stack →
      StepResT cfg vm cfg'

theorem StepResT.quiet {cfg cfg' : Config} {vm vm' : VM} (hev : stepEvent cfg = none)
    (hq : QP p vm vm') (hm : MatchT V tend c R cfg' vm') : StepResT V tend c R cfg vm cfg' :=
  .run vm' [] hm.run (Or.inl hq) (EvOK.nil hev) hm

theorem StepResT.stutter {cfg cfg' : Config} {vm : VM} (hev : stepEvent cfg = none)
    (hlt : cmeasure cfg' < cmeasure cfg) (hm : MatchT V tend c R cfg' vm) :
    StepResT V tend c R cfg vm cfg' :=
  .run vm [] hm.run (Or.inr ⟨rfl, rfl, hlt⟩) (EvOK.nil hev) hm

variable (hc : CertOK p c R) (hV : V.OK) (hT : TValid V tend)
variable {vm : VM} {r : Nat} {a : Act} {as' : List Act} {rest : List Frame} {ip : Nat}
  {env : Env} {ctrs : Ctrs} {k : Kont}

theorem TopCtxT.run (T : TopCtxT V tend c R vm r a as' rest) (hip : vm.ip = (ip : Int))
    (hfo : FrameOK vm.data a (V.ri r) env ctrs) {focus : Stmts} {pcE : Nat}
    (hss : TAt p (V.env r) (V.G r) focus ip pcE) (hk : TKAt p (V.env r) (V.G r) k pcE (tend r)) :
    MatchT V tend c R ⟨⟨r, env, ctrs, focus, k, .run⟩ :: rest, .running⟩ vm :=
  T.finish hip rfl hfo (show ∃ _, _ ∧ _ from ⟨pcE, hss, hk⟩) (fun ⟨_, _, h⟩ => nomatch h)

theorem TopCtxT.branch (T : TopCtxT V tend c R vm r a as' rest) {n pB pX : Nat} {ipX : Int}
    (hip : vm.ip = if n = 0 then ipX else (pB : Int)) (hX : ipX = (pX : Int))
    (hfo : FrameOK vm.data a (V.ri r) env ctrs) {body ss : Stmts} {kB kX : Kont} {pcB pcE : Nat}
    (hbody : TAt p (V.env r) (V.G r) body pB pcB) (hkB : TKAt p (V.env r) (V.G r) kB pcB (tend r))
    (hss : TAt p (V.env r) (V.G r) ss pX pcE) (hkX : TKAt p (V.env r) (V.G r) kX pcE (tend r)) :
    MatchT V tend c R
      (if n ≠ 0 then ⟨⟨r, env, ctrs, body, kB, .run⟩ :: rest, .running⟩
       else ⟨⟨r, env, ctrs, ss, kX, .run⟩ :: rest, .running⟩) vm := by
  by_cases hn : n ≠ 0
  · rw [if_pos hn]
    rw [if_neg hn] at hip
    exact T.run hip hfo hbody hkB
  · rw [if_neg hn]
    rw [if_pos (Decidable.of_not_not hn)] at hip
    exact T.run (hip.trans hX) hfo hss hkX

include hc hV

theorem visit (T : TopCtxT V tend c R vm r a as' rest) (hip : vm.ip = (ip : Int))
    {s : Stmt} {ss : Stmts} (hfo : FrameOK vm.data a (V.ri r) env ctrs)
    (hat : FrameAtT p (V.env r) (V.G r) (tend r) (Holds vm.data a)
      ⟨r, env, ctrs, .cons s ss, k, .run⟩ ip 0)
    {st : Status} (hev : stepEvent ⟨⟨r, env, ctrs, .cons s ss, k, .run⟩ :: rest, st⟩ = some s.pos) :
    ∃ bp vm1, EP p vm [(bp, vm1)] vm1 ∧
      EvOK p ⟨⟨r, env, ctrs, .cons s ss, k, .run⟩ :: rest, st⟩ [(bp, vm1)] ∧
      TopCtxT V tend c R vm1 r a as' rest ∧ vm1.ip = ((ip + 1 : Nat) : Int) ∧
      FrameOK vm1.data a (V.ri r) env ctrs := by
  obtain ⟨hins, hline⟩ : SiteAt p ip s.pos := by
    obtain ⟨_, hs, _⟩ := hat
    exact hs.1
  cases hl : p.lineAt (ip : Int) with
  | none => rw [hl] at hline; cases hline
  | some bp =>
    rw [hl] at hline
    obtain ⟨vm1, e1, g1, ip1, st1, d1⟩ := q_site hc T.good hip hins hl
    refine ⟨bp, vm1, e1, ⟨?_, fun x hx => ?_⟩, T.move g1 st1 (by rw [d1]; exact SameBelow.refl _ _),
      ip1, by rw [d1]; exact hfo⟩
    · rw [hev]
      exact congrArg Option.toList hline
    · obtain rfl := List.mem_singleton.1 hx
      show StacksAgree' p vm1.data _ vm1.stack
      rw [d1, st1, T.stk]
      exact StackRelT.agrees hV (stackRelT_cons.2 ⟨⟨T.rle, T.dbg, hfo, hat⟩, T.restrel⟩)
        (fun fr' rest' h => by cases h; rfl)

theorem after_visit (T : TopCtxT V tend c R vm r a as' rest) (hip : vm.ip = (ip : Int))
    {s : Stmt} {ss : Stmts} (hfo : FrameOK vm.data a (V.ri r) env ctrs)
    (hat : FrameAtT p (V.env r) (V.G r) (tend r) (Holds vm.data a)
      ⟨r, env, ctrs, .cons s ss, k, .run⟩ ip 0)
    (hev : stepEvent ⟨⟨r, env, ctrs, .cons s ss, k, .run⟩ :: rest, .running⟩ = some s.pos)
    {cfg' : Config}
    (hpost : ∀ vm1, TopCtxT V tend c R vm1 r a as' rest → vm1.ip = ((ip + 1 : Nat) : Int) →
      FrameOK vm1.data a (V.ri r) env ctrs → ∃ vm', QS p vm1 vm' ∧ MatchT V tend c R cfg' vm') :
    StepResT V tend c R ⟨⟨r, env, ctrs, .cons s ss, k, .run⟩ :: rest, .running⟩ vm cfg' := by
  obtain ⟨bp, vm1, e1, hok, T1, ip1, hfo1⟩ := visit hc hV T hip hfo hat hev
  obtain ⟨vm', q, hm⟩ := hpost vm1 T1 ip1 hfo1
  exact StepResT.run vm' [(bp, vm1)] hm.run (Or.inl (e1.then_q q)) hok hm

variable {x f : Name} {focus : Stmts} {cs : List ECtx}

include hT

theorem t_push_call (T : TopCtxT V tend c R vm r a as' rest) {pc1 : Nat} (hip : vm.ip = (pc1 : Int))
    {live temps : List Int} {tgt : Int} {pc' : Nat}
    (hct : CallTail (V.env r) f live temps pc1 tgt pc') {vals : List Nat}
    (hh : HoldAll (Holds vm.data a) temps vals) {pcS pcE : Nat} (hfo : FrameOK vm.data a (V.ri r) env ctrs)
    (hctx : CtxAt (V.env r) (Holds vm.data a) cs x live tgt pc' pcS)
    (hcl : Clean p.code pc1 pcS)
    (hss : TAt p (V.env r) (V.G r) focus pcS pcE) (hk : TKAt p (V.env r) (V.G r) k pcE (tend r))
    (cfg0 : Config) (hev : stepEvent cfg0 = none) :
    StepResT V tend c R cfg0 vm (doCall src ⟨r, env, ctrs, focus, k, .wait x cs⟩ rest f vals) := by
  have hlt := callTail_lt hct
  obtain ⟨j, pd, hlook, hjr, hpd, hlen, vm', callee, s1, g1, ip1, st1, hra, hrt, hdbg, hsb, hfoc⟩ :=
    do_call_q hc hV T.rle T.good T.stk hip hcl hct (ctxAt_le hctx) hh
  have hjn : j < src.progs.length := Nat.lt_of_lt_of_le hjr T.rle
  have hin := T.good.top_in T.stk
  rw [doCall_eq ⟨r, env, ctrs, focus, k, .wait x cs⟩ rest hlook hlen]
  have hbody := bodyOf_lt hpd ▸ hT.body j (Nat.le_of_lt hjn)
  refine StepResT.quiet hev s1 ⟨g1, rfl, ⟨V.start j, ip1, ?_⟩, ?_⟩
  · rw [st1]
    refine stackRelT_cons.2 ⟨⟨Nat.le_of_lt hjn, hdbg, hfoc, tend j, hbody, rfl⟩,
      hjn, ⟨x, cs, rfl⟩, pc', hra, ?_⟩
    rw [stackRelT_cons, hrt]
    exact ⟨⟨T.rle, T.dbg, hfo.below (Nat.le_of_eq hin) hsb, live, pcS, pcE,
        hctx.mono (fun _ _ h => h.below (Nat.le_of_eq hin) hsb),
        hcl.mono (Nat.le_of_lt hlt) (Nat.le_refl _), hss, hk⟩,
      T.restrel.below T.tiles (hsb.mono (hin ▸ Nat.le_add_right _ _))⟩
  · intro fr rest' h
    cases h
    exact fun ⟨_, _, h⟩ => nomatch h

theorem sim_stepT {cfg : Config} (hm : MatchT V tend c R cfg vm) :
    StepResT V tend c R cfg vm (Sem.step src cfg) := by
  obtain ⟨fr, rest, a, as', ip, rfl, T, hip, hfo, hat, hnw⟩ := hm.inv
  have hr := step_rule src fr rest
  generalize Sem.step src ⟨fr :: rest, .running⟩ = cfg' at hr
  cases hr with
  | assign r env ctrs x v pos ss k rest =>
    refine after_visit hc hV T hip hfo hat rfl (fun vm1 T1 ip1 hfo1 => ?_)
    obtain ⟨pcE, ⟨_, pc1, ⟨rx, hrx, hcv, hcl⟩, hss⟩, hk⟩ := hat
    exact ⟨vm1, ES.refl _ _, T1.finish ip1 rfl hfo1 (show ∃ live tgt pc' pcS pcE, _ from
      ⟨[], rx, pc1, pc1, pcE, hcv, ⟨rfl, hrx, rfl⟩, hcl, hss, hk⟩) (fun ⟨_, _, h⟩ => nomatch h)⟩
  | mark r env ctrs m pos ss k rest =>
    have hev : stepEvent ⟨⟨r, env, ctrs, .cons (.mark m pos) ss, k, .run⟩ :: rest, .running⟩ =
        if ss.headPos = some pos then none else some pos := rfl
    -- `id`: `hat` itself is needed again for `after_visit`
    obtain ⟨pcE, ⟨_, pc1, rfl, hss⟩, hk⟩ := id hat
    by_cases hsh : ss.headPos = some pos
    · rw [if_pos hsh] at hss hev
      refine StepResT.stutter hev ?_ (T.run hip hfo hss hk)
      simp only [cmeasure, fmeasure, fsize, ssize1]
      omega
    · rw [if_neg hsh] at hss hev
      exact after_visit hc hV T hip hfo hat hev
        (fun vm1 T1 ip1 hfo1 => ⟨vm1, ES.refl _ _, T1.run ip1 hfo1 hss hk⟩)
  | loop r env ctrs id x body pos ss k rest =>
    -- `effEnv` of a frame that executes statements is its `env`
    replace hfo : FrameOK vm.data a (V.ri r) env ctrs := hfo
    refine after_visit hc hV T hip hfo hat rfl (fun vm1 T1 ip1 hfo1 => ?_)
    obtain ⟨pcE, ⟨_, pc1, ⟨ctr, rx, offE, offL, pcB, hctr, hrx, h1, h2, hbody, h3, h4, hL, hE, rfl⟩,
      hss⟩, hk⟩ := hat
    obtain ⟨vm3, s3, g3, ip3, p3, hh3⟩ := x_copy_jmpc hc T1.good T1.stk ip1 h1 h2 (hfo1.reg hrx)
    have hfo3 : FrameOK vm3.data a (V.ri r) env (ctrs.set id (env.get x)) :=
      hfo1.write_ctr (hV.nodup r T.rle) hctr hh3
        (fun r' w _ hne hw => p3.other r' w (by simp [hne]) hw)
    exact ⟨vm3, s3.qs, (T1.move g3 p3.stack p3.below).branch ip3 hE hfo3 hbody
      ⟨ctr, offE, offL, ip + 2, pcE, hctr, h2, hbody, h3, h4, hL, hE, hss, hk⟩ hss hk⟩
  | while_ r env ctrs x body pos ss k rest =>
    replace hfo : FrameOK vm.data a (V.ri r) env ctrs := hfo
    refine after_visit hc hV T hip hfo hat rfl (fun vm1 T1 ip1 hfo1 => ?_)
    obtain ⟨pcE, ⟨_, pc1, ⟨rx, tmp, offE, offL, pcB, hrx, htmp, h1, h2, hbody, h3, hL, hE, rfl⟩,
      hss⟩, hk⟩ := hat
    obtain ⟨vm3, s3, g3, ip3, p3, _⟩ := x_copy_jmpc hc T1.good T1.stk ip1 h1 h2 (hfo1.reg hrx)
    have hfo3 := hfo1.pres_temps p3 (fun t ht => by rw [List.mem_singleton.1 ht]; exact htmp)
    exact ⟨vm3, s3.qs, (T1.move g3 p3.stack p3.below).branch ip3 hE hfo3 hbody
      ⟨rx, tmp, offE, offL, ip + 1, pcE, hrx, htmp, h1, h2, hbody, h3, hL, hE, hss, hk⟩ hss hk⟩
  | goto r env ctrs m pos ss k rest =>
    refine after_visit hc hV T hip hfo hat rfl (fun vm1 T1 ip1 hfo1 => ?_)
    obtain ⟨pcE, ⟨_, pc1, ⟨off, h1, hg, rfl⟩, hss⟩, hk⟩ := hat
    obtain ⟨ss', K', pcE', hfl, tg, htg, hs', hk'⟩ := hT.res r T.rle _ _ _ hg
    unfold jumpTo
    rw [hfl]
    obtain ⟨vm2, s2, g2, ip2, st2, d2⟩ := x_jmp hc T1.good ip1 h1
    have T2 := T1.move g2 st2 (by rw [d2]; exact SameBelow.refl _ _)
    exact ⟨vm2, s2.qs, T2.run (ip := tg) (by rw [ip2]; exact htg) (by rw [d2]; exact hfo1) hs' hk'⟩
  | ifGoto r env ctrs x cst m pos ss k rest =>
    refine after_visit hc hV T hip hfo hat rfl (fun vm1 T1 ip1 hfo1 => ?_)
    obtain ⟨pcE, ⟨_, pc1, ⟨rx, t1, t2, t0, off, hrx, h1, hn1, h2, hn2, hne, hlt, h3, hn0, h4, hg,
      rfl⟩, hss⟩, hk⟩ := hat
    obtain ⟨ss', K', pcE', hfl, tg, htg, hs', hk'⟩ := hT.res r T.rle _ _ _ hg
    unfold jumpTo
    rw [hfl]
    have hx := hfo1.reg hrx
    obtain ⟨_, _, vm2, s2, g2, ip2, p2, hh2⟩ :=
      x_add hc T1.good T1.stk ip1 h1 hx (clamp_zero hx.2.2.2) hx.2.2.2
    have st2 := p2.stack.trans T1.stk
    obtain ⟨_, _, vm3, s3, g3, ip3, p3, hh3⟩ := x_const hc g2 st2 ip2 h2
    have hh2' : Holds vm3.data a t1 (env.get x) :=
      p3.other _ _ (fun h => hne (List.mem_singleton.1 h).symm) hh2
    obtain ⟨_, _, vm4, s4, g4, ip4, p4, hh4⟩ :=
      x_test hc g3 (p3.stack.trans st2) ip3 h3 hh2' (hh3 cst rfl (Nat.le_of_lt hlt))
    have pall := (p2.trans p3).trans p4
    obtain ⟨vm5, s5, g5, ip5, st5, d5⟩ := x_jmpc hc g4 (pall.stack.trans T1.stk) ip4 h4 hh4
    have hfo5 : FrameOK vm5.data a (V.ri r) env ctrs := by
      rw [d5]
      refine hfo1.pres_temps pall (fun t ht => ?_)
      simp only [List.mem_append, List.mem_singleton] at ht
      rcases ht with (rfl | rfl) | rfl
      · exact hn1
      · exact hn2
      · exact hn0
    have T5 := T1.move g5 (st5.trans pall.stack) (by rw [d5]; exact pall.below)
    refine ⟨vm5, (((s2.trans s3).trans s4).trans s5).qs, ?_⟩
    by_cases hn : env.get x = cst
    · rw [if_pos hn]
      rw [if_pos hn, if_pos rfl] at ip5
      exact T5.run (ip := tg) (by rw [ip5]; exact htg) hfo5 hs' hk'
    · rw [if_neg hn]
      rw [if_neg hn, if_neg Nat.one_ne_zero] at ip5
      exact T5.run (ip := ip + 5) ip5 hfo5 hss hk
  | stop r env ctrs pos ss k rest =>
    obtain ⟨bp, vm1, e1, hok, T1, ip1, _⟩ := visit hc hV T hip hfo hat (st := .running) rfl
    obtain ⟨_, ⟨_, _, ⟨h1, _⟩, _⟩, _⟩ := hat
    refine StepResT.halt vm1 [(bp, vm1)] rfl e1.es hok ?_ (hok.2 _ (List.mem_singleton.2 rfl))
    rw [isDone_of_fetch (T1.good.fetch ip1 h1)]
    rfl
  | endLoop r env ctrs id body ss k' rest =>
    obtain ⟨_, rfl, ctr, offE, offL, pJ, pcR, hctr, hJ, hbody, h3, h4, hL, hE, hss, hk⟩ := hat
    have hc0 := hfo.2 id ctr hctr
    obtain ⟨_, _, vm1, s1, g1, ip1, p1, hh1⟩ :=
      x_add hc T.good T.stk hip h3 hc0 (clamp_pred hc0.2.2.2)
        (Nat.le_trans (Nat.sub_le _ _) hc0.2.2.2)
    have st1 := p1.stack.trans T.stk
    obtain ⟨vm2, s2, g2, ip2, st2, d2⟩ := x_jmp hc g1 ip1 h4
    obtain ⟨vm3, s3, g3, ip3, st3, d3⟩ :=
      x_jmpc hc g2 (st2.trans st1) (by rw [ip2]; exact hL) hJ (by rw [d2]; exact hh1)
    have hfo3 : FrameOK vm3.data a (V.ri r) env (ctrs.set id (ctrs.get id - 1)) := by
      rw [d3, d2]
      exact hfo.write_ctr (hV.nodup r T.rle) hctr hh1
        (fun r' w _ hne hw => p1.other r' w (by simp [hne]) hw)
    have T3 := T.move g3 ((st3.trans st2).trans p1.stack) (by rw [d3, d2]; exact p1.below)
    exact StepResT.quiet rfl (((s1.trans s2).trans s3).qp (by decide)) (T3.branch ip3 hE hfo3 hbody
      ⟨ctr, offE, offL, pJ, pcR, hctr, hJ, hbody, h3, h4, hL, hE, hss, hk⟩ hss hk)
  | endWhile r env ctrs x body ss k' rest =>
    replace hfo : FrameOK vm.data a (V.ri r) env ctrs := hfo
    obtain ⟨_, rfl, rx, tmp, offE, offL, pL, pcR, hrx, htmp, h1, h2, hbody, h3, hL, hE, hss, hk⟩ :=
      hat
    obtain ⟨vm0, s0, g0, ip0, st0, d0⟩ := x_jmp hc T.good hip h3
    obtain ⟨vm2, s2, g2, ip2, p2, _⟩ :=
      x_copy_jmpc hc g0 (st0.trans T.stk) (by rw [ip0]; exact hL) h1 h2
        (by rw [d0]; exact hfo.reg hrx)
    have p02 : Pres vm vm2 a [tmp] := (Pres.of_eq a [] st0 d0).trans p2
    have hfo2 := hfo.pres_temps p02 (fun t ht => by rw [List.mem_singleton.1 ht]; exact htmp)
    have T2 := T.move g2 p02.stack p02.below
    exact StepResT.quiet rfl ((s0.trans s2).qp (by decide)) (T2.branch ip2 hE hfo2 hbody
      ⟨rx, tmp, offE, offL, pL, pcR, hrx, htmp, h1, h2, hbody, h3, hL, hE, hss, hk⟩ hss hk)
  | endRoot r env ctrs =>
    obtain ⟨_, rfl, hpe⟩ := id hat
    have hr : r = src.progs.length := T.restrel.2
    have hh : p.code[ip]? = some .halt := by rw [hpe, hr]; exact hT.halt
    refine StepResT.halt vm [] rfl (ES.refl _ _) (EvOK.nil rfl) ?_ ?_
    · rw [isDone_of_fetch (T.good.fetch hip hh)]
      rfl
    · rw [T.stk]
      exact StackRelT.agrees hV (stackRelT_cons.2 ⟨⟨T.rle, T.dbg, hfo, hat⟩, T.restrel⟩)
        (fun fr' rest' h => by cases h; rfl)
  | endRet r env ctrs r2 env2 ctrs2 focus2 k2 x cs rest' =>
    obtain ⟨_, rfl, hpe⟩ := hat
    obtain ⟨hrn, _, ip2, hra, hrel2⟩ := T.restrel
    obtain ⟨b, as'', rfl, ⟨hr2, hdbg2, hfo2, hat2⟩, hrest2⟩ := stackRelT_inv hrel2
    obtain ⟨pd, ro, hpd, hret, hro⟩ := hT.ret r hrn
    simp only [hpd]
    rw [hpe] at hip
    obtain ⟨vm2, s2, g2, ipr, st2, hsame, hother, hsb⟩ :=
      x_ret hc T.good T.stk hip hret (hfo.reg hro)
    have htl := T.good.tiles
    rw [T.stk] at htl
    obtain ⟨live, pcS, pcE2, hctx, hcl2, hss2, hk2⟩ := hat2
    obtain ⟨hfo', hctx'⟩ := value_done (ts := []) hV hr2
      (fun r' w hr' => hother r' w (fun e => hr' (e ▸ List.mem_cons_self))) hsame
      (fun _ h => nomatch h) hfo2 hctx focus2 k2
    refine StepResT.quiet rfl (s2.qp Nat.one_pos)
      ⟨g2, rfl, ⟨ip2, by rw [ipr, hra], ?_⟩, fun fr rest'' h => by
        cases h; exact fun ⟨_, _, h⟩ => nomatch h⟩
    rw [st2]
    exact stackRelT_cons.2 ⟨⟨hr2, hdbg2, hfo', live, a.retTarget, pcS, pcE2, hsame, hctx', hcl2, hss2,
      hk2⟩, hrest2.below htl.2.2.2.2 hsb⟩
  | evalSimple r env ctrs focus k v n x cs rest hv =>
    obtain ⟨live, tgt, pc', pcS, pcE, hcv, hctx, hcl, hss, hk⟩ := hat
    have hlt := checkValue_lt hcv
    obtain ⟨vm', ts, s1, g1, ip1, p1, hh, hts⟩ :=
      eval_simple_q hc (e := V.env r) rfl T.good T.stk hip hcl hfo hcv (ctxAt_le hctx) hv
    obtain ⟨hfo', hctx'⟩ := value_done hV T.rle p1.other hh hts hfo hctx focus k
    exact StepResT.quiet rfl s1 ((T.move g1 p1.stack p1.below).finish ip1 rfl hfo'
      (show ∃ live tgt pcS pcE, _ from
        ⟨live, tgt, pcS, pcE, hh, hctx', hcl.mono (Nat.le_of_lt hlt) (Nat.le_refl _), hss, hk⟩)
      (fun ⟨_, _, h⟩ => nomatch h))
  | evalCallNil r env ctrs focus k f x cs rest =>
    obtain ⟨live, tgt, pc', pcS, pcE, hcv, hctx, hcl, hss, hk⟩ := hat
    exact t_push_call hc hV hT T hip (checkValue_call_nil hcv) (HoldAll.nil _) hfo hctx hcl hss hk _ rfl
  | evalCallCons r env ctrs focus k f a0 as0 x cs rest =>
    obtain ⟨live, tgt, pc', pcS, pcE, hcv, hctx, hcl, hss, hk⟩ := hat
    obtain ⟨live2, t, pca, hcv0, hctx'⟩ := hctx.enter hcv
    refine StepResT.stutter rfl ?_ (T.finish hip rfl hfo (show ∃ live tgt pc' pcS pcE, _ from
      ⟨live2, t, pca, pcS, pcE, hcv0, hctx', hcl, hss, hk⟩) (fun ⟨_, _, h⟩ => nomatch h))
    simp only [cmeasure, fmeasure, vsize, vssize, csize]
    omega
  | retNil r env ctrs focus k n x rest =>
    obtain ⟨live, tgt, pcS, pcE, hh, ⟨_, hrx, rfl⟩, _, hss, hk⟩ := hat
    refine StepResT.stutter rfl ?_ (T.run hip hfo hss hk)
    simp only [cmeasure, fmeasure, csize]
    omega
  | retCall r env ctrs focus k n x f done cs' rest =>
    obtain ⟨live, tgt, pcS, pcE, hh, hctx, hcl, hss, hk⟩ := hat
    obtain ⟨live', temps, tgt', pc', htail, hacc, hctx'⟩ := hctx.call hh
    exact t_push_call hc hV hT T hip htail hacc hfo hctx' hcl hss hk _ rfl
  | retMore r env ctrs focus k n x f done a0 as0 cs' rest =>
    obtain ⟨live, tgt, pcS, pcE, hh, hctx, hcl, hss, hk⟩ := hat
    obtain ⟨live2, t, pca, hcv0, hctx'⟩ := hctx.more hh
    refine StepResT.stutter rfl ?_ (T.finish hip rfl hfo (show ∃ live tgt pc' pcS pcE, _ from
      ⟨live2, t, pca, pcS, pcE, hcv0, hctx', hcl, hss, hk⟩) (fun ⟨_, _, h⟩ => nomatch h))
    simp only [cmeasure, fmeasure, vssize, csize]
    omega
  | endStuck _ _ _ _ _ h =>
    obtain ⟨_, ⟨x, cs, hw⟩, _⟩ := T.restrel
    exact absurd hw (h x cs)
  | waitStuck => exact absurd ⟨_, _, rfl⟩ hnw

end

end Sim
end Theo
