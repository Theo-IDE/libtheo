/-
  The LR(1) tables (C13; used by C09 / C12).  A row is one fold of placements — the shifts of the
  state's transitions, then the actions of its complete items; a cell is the fold of the decisions
  placed on its column, and the row adds no conflict iff every column is `quiet` (`fillRow_spec`);
  the tables are the rows of the states (`genTables_spec`).  From this: every entry is justified
  by the state (`fillRow_ok`), conflict-free rows hold every action (`fillRow_complete`), rows of
  states without a clash report no conflict (`fillRow_quiet`).
-/
import Theo.Proofs.LRBase

namespace Theo

namespace LRComplete
open LRSound

def cell (row : List Action) (t : Nat) : Action := (row[t]?).getD .err

theorem cell_set (row : List Action) (t t' : Nat) (a : Action) (h : t' < row.length) :
    cell (row.set t a) t' = if t = t' then a else cell row t' := by
  simp only [cell, List.getElem?_set]
  split
  · next e => rw [if_pos (e ▸ h)]; rfl
  · rfl

def ActsOn (pm : Bool) (eof : Nat) (it : Item) (c : Nat) : Prop :=
  it.follow.index = c ∨ (it.follow.index = eof ∧ pm = true)

theorem mem_itemPl (ga : Grammar) (pm : Bool) (eof width : Nat) (it : Item) (c : Nat)
    (hd : it.dot = (ga.rhs it).length) (hc : c < width) (ha : ActsOn pm eof it c) :
    (c, actOf ga it) ∈ itemPl ga pm eof width it := by
  refine mem_itemPl_iff.2 ⟨hd, rfl, ?_⟩
  split
  · exact hc
  · exact (ha.resolve_right ‹_›).symm

theorem acts_of_mem_itemPl {ga : Grammar} {pm : Bool} {eof width : Nat} {it : Item} {p : Nat × Action}
    (hp : p ∈ itemPl ga pm eof width it) :
    it.dot = (ga.rhs it).length ∧ p.2 = actOf ga it ∧ ActsOn pm eof it p.1 := by
  obtain ⟨hd, ha, hc⟩ := mem_itemPl_iff.1 hp
  refine ⟨hd, ha, ?_⟩
  split at hc
  · exact Or.inr ‹_›
  · exact Or.inl hc.symm

def isShift : Action → Bool
  | .shift _ => true
  | _ => false

theorem isShift_elim {a : Action} (h : isShift a = true) : ∃ j, a = .shift j := by
  cases a <;> first | exact ⟨_, rfl⟩ | cases h

def isNN (o : Option Int) : Prop := ∃ j : Nat, o = some (j : Int)

theorem cell_replicate (w t : Nat) : cell (List.replicate w Action.err) t = .err := by
  simp only [cell, List.getElem?_replicate]
  split <;> rfl

/-- `placeRA` overwrites an `accept` entry without reporting a conflict, so `accept` speaks only of
    an accepting item after which the state has accepting items alone (`cell_complete` gets this
    from `LeftSorted`) -/
structure RowComplete (ga : Grammar) (pm : Bool) (eof width : Nat) (st : LRState)
    (row : List Action) (grow : List Int) : Prop where
  len : row.length = width
  shift : ∀ a j, (Sym.t a, j) ∈ st.trans → a < width → isShift (cell row a) = true
  goto : ∀ (A : Nat) j, (Sym.n A, j) ∈ st.trans → A < ga.numNT → isNN (grow[A]?)
  reduce : ∀ it ∈ st.items, it.dot = (ga.rhs it).length → it.left ≠ ga.numNT - 2 →
    ∀ c, c < width → ActsOn pm eof it c → cell row c = .reduce it.left it.alt (ga.rhs it).length
  accept : ∀ l1 it l2, st.items = l1 ++ it :: l2 → it.dot = (ga.rhs it).length →
    it.left = ga.numNT - 2 → (∀ y ∈ l2, y.left = ga.numNT - 2) →
    ∀ c, c < width → ActsOn pm eof it c → cell row c = .accept

end LRComplete

namespace LRConverse
open LRSound LRComplete

structure NoClash (ga : Grammar) (pm : Bool) (eof : Nat) (st : LRState) : Prop where
  sr : ∀ (c j : Nat) (it : Item), (Sym.t c, j) ∈ st.trans → it ∈ st.items →
    it.dot = (ga.rhs it).length → ActsOn pm eof it c → False
  rr : ∀ (it1 it2 : Item) (c : Nat), it1 ∈ st.items → it2 ∈ st.items → it1 ≠ it2 →
    it1.dot = (ga.rhs it1).length → it2.dot = (ga.rhs it2).length →
    ActsOn pm eof it1 c → ActsOn pm eof it2 c → False

theorem itemPl_nodup (ga : Grammar) (pm : Bool) (eof width : Nat) (it : Item) :
    ((itemPl ga pm eof width it).map (·.1)).Nodup := by
  simp only [itemPl]
  split
  · simp
  · split
    · rw [List.map_map]
      have : ((fun (x : Nat × Action) => x.1) ∘ fun t => (t, actOf ga it)) = id := by
        funext t; rfl
      rw [this, List.map_id]
      exact List.nodup_range
    · simp

end LRConverse

namespace LRTable
open LRSound LRComplete LRConverse

/-- does a cell holding `cur` refuse `a` (and a conflict is reported)?  `place_shift` yields to a
    reduce only, `place_reduce` / `place_accept` to a shift or a reduce -/
def blocks : Action → Action → Bool
  | .reduce _ _ _, _ => true
  | .shift _, .shift _ => false
  | .shift _, _ => true
  | _, _ => false

def put (cur a : Action) : Action := if blocks cur a then cur else a

/-- one placement: `placeShift` for a shift, `placeRA` for the action of a complete item -/
def plG (state : Nat) (acc : List Action × List Conflict) (p : Nat × Action) :
    List Action × List Conflict :=
  match p.2 with
  | .shift j => placeShift state acc.1 acc.2 p.1 j
  | a => placeRA state acc.1 acc.2 p.1 a

/-- what a placement does depends on the cell alone; conflicts are only appended to -/
theorem plG_step (state : Nat) (row : List Action) (p : Nat × Action) :
    (blocks (cell row p.1) p.2 = true ∧
      ∃ x, ∀ confs, plG state (row, confs) p = (row, confs ++ [x])) ∨
    (blocks (cell row p.1) p.2 = false ∧
      ∀ confs, plG state (row, confs) p = (row.set p.1 p.2, confs)) := by
  obtain ⟨t, a⟩ := p
  dsimp only [plG, placeShift, placeRA, cell]
  cases (row[t]?).getD Action.err with
  | reduce => cases a <;> exact Or.inl ⟨rfl, _, fun _ => rfl⟩
  | shift =>
    cases a with
    | shift => exact Or.inr ⟨rfl, fun _ => rfl⟩
    | _ => exact Or.inl ⟨rfl, _, fun _ => rfl⟩
  | _ => cases a <;> exact Or.inr ⟨rfl, fun _ => rfl⟩

def col (pl : List (Nat × Action)) (c : Nat) : List Action :=
  (pl.filter (fun p => p.1 = c)).map (·.2)

/-- no placement of `as` on a cell holding `cur` is refused -/
def quiet : Action → List Action → Bool
  | _, [] => true
  | cur, a :: as => !blocks cur a && quiet a as

theorem col_cons (p : Nat × Action) (ps : List (Nat × Action)) (c : Nat) :
    col (p :: ps) c = if p.1 = c then p.2 :: col ps c else col ps c := by
  simp only [col, List.filter_cons, decide_eq_true_eq]
  split <;> rfl

theorem col_append (a b : List (Nat × Action)) (c : Nat) : col (a ++ b) c = col a c ++ col b c := by
  simp [col]

theorem mem_col {pl : List (Nat × Action)} {c : Nat} {a : Action} : a ∈ col pl c ↔ (c, a) ∈ pl := by
  simp only [col, List.mem_map, List.mem_filter, decide_eq_true_eq]
  exact ⟨fun ⟨p, ⟨hp, hc⟩, ha⟩ => by cases p; cases hc; cases ha; exact hp,
    fun h => ⟨(c, a), ⟨h, rfl⟩, rfl⟩⟩

/-- the placements column by column: each cell becomes the fold of its own column, and a conflict
    is added to those known before exactly when some column is not quiet -/
theorem pl_spec (state : Nat) : ∀ (pl : List (Nat × Action)) (row : List Action), ∃ row' extra,
    (∀ confs, pl.foldl (plG state) (row, confs) = (row', confs ++ extra)) ∧
    row'.length = row.length ∧
    (∀ c, c < row.length → cell row' c = (col pl c).foldl put (cell row c)) ∧
    (extra = [] ↔ ∀ c, c < row.length → quiet (cell row c) (col pl c) = true) := by
  intro pl
  induction pl with
  | nil =>
    exact fun row => ⟨row, [], fun confs => congrArg (Prod.mk row) (List.append_nil confs).symm, rfl,
      fun _ _ => rfl,
      by simp [col, quiet]⟩
  | cons p ps ih =>
    intro row
    rcases plG_step state row p with ⟨h0, x, h1⟩ | ⟨h0, h1⟩
    · -- the cell refuses: nothing changes, a conflict is reported
      obtain ⟨row', extra, i0, i1, i2, _⟩ := ih row
      have hlt : p.1 < row.length := by
        apply Nat.lt_of_not_le
        intro hle
        rw [cell, List.getElem?_eq_none hle] at h0
        cases h0
      refine ⟨row', x :: extra, fun confs => by rw [List.foldl_cons, h1, i0, List.append_assoc]; rfl,
        i1, fun c hc => ?_, fun h => (nomatch h), fun h => ?_⟩
      · rw [i2 c hc, col_cons]
        split
        · next hpc => rw [List.foldl_cons, put, ← hpc, h0, if_pos rfl]
        · rfl
      · have := h p.1 hlt
        rw [col_cons, if_pos rfl, quiet, h0] at this
        cases this
    · obtain ⟨row', extra, i0, i1, i2, i4⟩ := ih (row.set p.1 p.2)
      rw [List.length_set] at i1 i2 i4
      refine ⟨row', extra, fun confs => by rw [List.foldl_cons, h1, i0], i1, fun c hc => ?_,
        i4.trans (forall_congr' fun c => forall_congr' fun hc => ?_)⟩
      · rw [i2 c hc, cell_set _ _ _ _ hc, col_cons]
        split
        · next hpc => rw [List.foldl_cons, put, ← hpc, h0]; rfl
        · rfl
      · rw [cell_set _ _ _ _ hc, col_cons]
        split
        · next hpc => rw [quiet, ← hpc, h0]; rfl
        · rfl

theorem put_mem (as : List Action) : ∀ cur, as.foldl put cur = cur ∨ as.foldl put cur ∈ as := by
  induction as with
  | nil => exact fun _ => Or.inl rfl
  | cons a as ih =>
    intro cur
    rw [List.foldl_cons]
    rcases ih (put cur a) with h | h
    · rw [h, put]
      split
      · exact Or.inl rfl
      · exact Or.inr List.mem_cons_self
    · exact Or.inr (List.mem_cons_of_mem _ h)

/-- on a quiet column, what holds of one decision and is handed on to whatever the cell accepts
    after it holds of the final entry -/
theorem quiet_final (P : Action → Prop) : ∀ (as2 : List Action) (a : Action), P a →
    (∀ x, P x → ∀ y ∈ as2, blocks x y = false → P y) →
    ∀ (as1 : List Action) (cur : Action), quiet cur (as1 ++ a :: as2) = true →
      P ((as1 ++ a :: as2).foldl put cur) := by
  have tail : ∀ (as2 : List Action) (a : Action), P a →
      (∀ x, P x → ∀ y ∈ as2, blocks x y = false → P y) → quiet a as2 = true →
      P (as2.foldl put a) := by
    intro as2
    induction as2 with
    | nil => exact fun _ ha _ _ => ha
    | cons y ys ih =>
      intro a ha hP h
      rw [quiet, Bool.and_eq_true, Bool.not_eq_true'] at h
      rw [List.foldl_cons, put, h.1]
      exact ih y (hP a ha y List.mem_cons_self h.1)
        (fun x hx z hz => hP x hx z (List.mem_cons_of_mem _ hz)) h.2
  intro as2 a ha hP as1
  induction as1 with
  | nil =>
    intro cur h
    rw [List.nil_append, quiet, Bool.and_eq_true, Bool.not_eq_true'] at h
    rw [List.nil_append, List.foldl_cons, put, h.1]
    exact tail as2 a ha hP h.2
  | cons b as1 ih =>
    intro cur h
    rw [List.cons_append, quiet, Bool.and_eq_true, Bool.not_eq_true'] at h
    rw [List.cons_append, List.foldl_cons, put, h.1]
    exact ih b h.2

theorem quiet_shifts : ∀ (as : List Action) (cur : Action), (∀ x ∈ as, isShift x = true) →
    (∀ j, blocks cur (.shift j) = false) → quiet cur as = true := by
  intro as
  induction as with
  | nil => exact fun _ _ _ => rfl
  | cons a as ih =>
    intro cur h hc
    obtain ⟨j, rfl⟩ := isShift_elim (h a List.mem_cons_self)
    rw [quiet, hc j, ih _ (fun x hx => h x (List.mem_cons_of_mem _ hx)) (fun _ => rfl)]
    rfl

/-- pairwise different columns: at most one decision per column -/
theorem col_le_one {pl : List (Nat × Action)} (h : pl.Pairwise (fun p q => p.1 ≠ q.1)) (c : Nat) :
    col pl c = [] ∨ ∃ a, col pl c = [a] := by
  induction pl with
  | nil => exact Or.inl rfl
  | cons p ps ih =>
    obtain ⟨hp, hps⟩ := List.pairwise_cons.1 h
    rw [col_cons]
    split
    · next hpc =>
      refine Or.inr ⟨p.2, ?_⟩
      rw [show col ps c = [] from List.eq_nil_iff_forall_not_mem.2 fun a ha => hp _ (mem_col.1 ha) hpc]
    · exact ih hps

def shiftPl (tr : List (Sym × Nat)) : List (Nat × Action) :=
  tr.filterMap (fun p => match p.1 with | .t i => some (i, .shift p.2) | _ => none)

def gotoF (grow : List Int) (p : Sym × Nat) : List Int :=
  match p.1 with | .n k => grow.set k (p.2 : Int) | _ => grow

theorem mem_shiftPl {tr : List (Sym × Nat)} {t : Nat} {a : Action} :
    (t, a) ∈ shiftPl tr ↔ ∃ j, a = .shift j ∧ (Sym.t t, j) ∈ tr := by
  simp only [shiftPl, List.mem_filterMap]
  constructor
  · rintro ⟨⟨X, j⟩, hm, h⟩
    cases X <;> cases h
    exact ⟨j, rfl, hm⟩
  · rintro ⟨j, rfl, hm⟩
    exact ⟨_, hm, rfl⟩

theorem row1_fold (state : Nat) :
    ∀ (tr : List (Sym × Nat)) (acc : List Action × List Int × List Conflict),
    tr.foldl (row1F state) acc =
      (((shiftPl tr).foldl (plG state) (acc.1, acc.2.2)).1, tr.foldl gotoF acc.2.1,
       ((shiftPl tr).foldl (plG state) (acc.1, acc.2.2)).2) := by
  intro tr
  induction tr with
  | nil => exact fun _ => rfl
  | cons p tr ih =>
    intro acc
    obtain ⟨X, j⟩ := p
    rw [List.foldl_cons, ih]
    cases X <;> rfl

abbrev rowPl (ga : Grammar) (pm : Bool) (eof width : Nat) (st : LRState) : List (Nat × Action) :=
  st.items.flatMap (itemPl ga pm eof width)

theorem items_fold (ga : Grammar) (pm : Bool) (eof width state : Nat) :
    ∀ (items : List Item) (acc : List Action × List Conflict),
    items.foldl (row2F ga pm eof width state) acc =
      (items.flatMap (itemPl ga pm eof width)).foldl (plG state) acc := by
  intro items
  induction items with
  | nil => exact fun _ => rfl
  | cons it its ih =>
    intro acc
    have h : ∀ (a : List Action × List Conflict) t,
        placeRA state a.1 a.2 t (actOf ga it) = plG state a (t, actOf ga it) := by
      intro a t; unfold actOf; split <;> rfl
    rw [List.foldl_cons, List.flatMap_cons, List.foldl_append, ih]
    congr 1
    unfold row2F itemPl
    by_cases hd : it.dot ≠ (ga.rhs it).length
    · simp only [if_pos hd]; rfl
    · simp only [if_neg hd]
      by_cases h2 : it.follow.index = eof ∧ pm = true
      · simp only [if_pos h2, List.foldl_map, h]
      · simp only [if_neg h2, h]; rfl

section Row
variable (ga : Grammar) (pm : Bool) (eof width state : Nat) (st : LRState)

def decisions (c : Nat) : List Action := col (shiftPl st.trans ++ rowPl ga pm eof width st) c

theorem decisions_eq (c : Nat) : decisions ga pm eof width st c =
    col (shiftPl st.trans) c ++ col (rowPl ga pm eof width st) c := col_append _ _ c

theorem mem_decisions {c : Nat} {a : Action} : a ∈ decisions ga pm eof width st c ↔
    (∃ j, a = .shift j ∧ (Sym.t c, j) ∈ st.trans) ∨ (c, a) ∈ rowPl ga pm eof width st := by
  rw [decisions, mem_col, List.mem_append, mem_shiftPl]

theorem fillRow_spec : ∃ row extra,
    (∀ confs, fillRow ga pm eof width state st confs =
      (row, st.trans.foldl gotoF (List.replicate ga.numNT (-1)), confs ++ extra)) ∧
    row.length = width ∧
    (∀ c, c < width → cell row c = (decisions ga pm eof width st c).foldl put .err) ∧
    (extra = [] ↔ ∀ c, c < width → quiet .err (decisions ga pm eof width st c) = true) := by
  obtain ⟨row, extra, p0, p1, p2, p4⟩ := pl_spec state
    (shiftPl st.trans ++ rowPl ga pm eof width st) (List.replicate width .err)
  simp only [List.length_replicate, cell_replicate] at p1 p2 p4
  refine ⟨row, extra, fun confs => ?_, p1, p2, p4⟩
  rw [fillRow_eq]
  simp only []
  rw [row1_fold, items_fold, ← List.foldl_append, p0]

theorem goto_spec (n : Nat) (tr : List (Sym × Nat)) :
    (∀ (A : Nat) (j : Int), (tr.foldl gotoF (List.replicate n (-1)))[A]? = some j → 0 ≤ j →
      (Sym.n A, j.toNat) ∈ tr) ∧
    ∀ (A : Nat) j, (Sym.n A, j) ∈ tr → A < n →
      isNN ((tr.foldl gotoF (List.replicate n (-1)))[A]?) := by
  obtain ⟨⟨_, h1⟩, h2⟩ := foldl_mem
    (fun b : List Int => b.length = n ∧
      ∀ (A : Nat) (j : Int), b[A]? = some j → 0 ≤ j → (Sym.n A, j.toNat) ∈ tr)
    (fun p b => ∀ A : Nat, p.1 = .n A → A < n → isNN (b[A]?)) gotoF tr
    (fun b p hp hb => by
      obtain ⟨X, j⟩ := p
      cases X with
      | eps => exact hb
      | t i => exact hb
      | n k =>
        refine ⟨by rw [gotoF, List.length_set]; exact hb.1, fun A j' hj hpos => ?_⟩
        rw [gotoF, List.getElem?_set] at hj
        split at hj
        · next hkA =>
          split at hj
          · cases hj; exact hkA ▸ hp
          · cases hj
        · exact hb.2 A j' hj hpos)
    (fun b p hb A h hlt => by
      obtain ⟨X, j⟩ := p
      cases h
      rw [gotoF, List.getElem?_set_self (by rw [hb.1]; exact hlt)]
      exact ⟨j, rfl⟩)
    (fun b p p' hb hq A h hlt => by
      obtain ⟨X, j⟩ := p'
      cases X with
      | eps => exact hq A h hlt
      | t i => exact hq A h hlt
      | n k =>
        by_cases hkA : k = A
        · rw [gotoF, hkA, List.getElem?_set_self (by rw [hb.1]; exact hlt)]; exact ⟨j, rfl⟩
        · rw [gotoF, List.getElem?_set_ne hkA]; exact hq A h hlt)
    (List.replicate n (-1)) ⟨List.length_replicate, fun A j hj hpos => by
      rw [List.getElem?_replicate] at hj
      split at hj
      · cases hj; cases hpos
      · cases hj⟩
  exact ⟨h1, fun A j hm => h2 _ hm A rfl⟩

end Row

theorem fillRow_confs (ga : Grammar) (pm : Bool) (eof width state : Nat) (st : LRState)
    (confs : List Conflict) : fillRow ga pm eof width state st confs =
      ((fillRow ga pm eof width state st []).1, (fillRow ga pm eof width state st []).2.1,
       confs ++ (fillRow ga pm eof width state st []).2.2) := by
  obtain ⟨_, _, h, _⟩ := fillRow_spec ga pm eof width state st
  rw [h confs, h []]
  rfl

section Tables
variable (g : Grammar) (start eof : Nat) (pm : Bool) (fuel : Nat)

abbrev rowOf (p : LRState × Nat) : List Action × List Int × List Conflict :=
  fillRow (g.augment start eof) pm eof ((g.augment start eof).maxTerminal + 1) p.2 p.1 []

theorem genTables_spec : (genTables g start eof pm fuel).1 =
    (let S := collection (g.augment start eof) (firstSets (g.augment start eof)) g.numNT eof fuel
     ⟨S.zipIdx.map fun p => (rowOf g start eof pm p).1,
      S.zipIdx.map fun p => (rowOf g start eof pm p).2.1,
      S.zipIdx.flatMap fun p => (rowOf g start eof pm p).2.2⟩) := by
  have rows : ∀ (l : List (LRState × Nat))
      (acc : List (List Action) × List (List Int) × List Conflict),
      l.foldl (rowsF (g.augment start eof) pm eof ((g.augment start eof).maxTerminal + 1)) acc =
        (acc.1 ++ l.map fun p => (rowOf g start eof pm p).1,
         acc.2.1 ++ l.map fun p => (rowOf g start eof pm p).2.1,
         acc.2.2 ++ l.flatMap fun p => (rowOf g start eof pm p).2.2) := by
    intro l
    induction l with
    | nil => intro acc; simp
    | cons p l ih =>
      intro acc
      rw [List.foldl_cons, ih, rowsF, fillRow_confs]
      simp
  rw [genTables_eq]
  simp only []
  rw [rows]
  rfl

theorem getElem?_zipIdx_map {α β : Type} (f : α × Nat → β) (S : List α) (q : Nat) :
    (S.zipIdx.map f)[q]? = (S[q]?).map fun a => f (a, q) := by
  rw [List.getElem?_map, List.getElem?_zipIdx, Option.map_map, Nat.zero_add]
  rfl

end Tables

end LRTable

namespace LRSound
open LRTable LRComplete

theorem fillRow_ok (ga : Grammar) (pm : Bool) (eof width state : Nat) (st : LRState)
    (confs : List Conflict) :
    RowOK ga pm st (fillRow ga pm eof width state st confs).1 ∧
      GrowOK st (fillRow ga pm eof width state st confs).2.1 := by
  obtain ⟨row, _, hf, p1, p2, _⟩ := fillRow_spec ga pm eof width state st
  rw [hf confs]
  refine ⟨fun c => ?_, (goto_spec ga.numNT st.trans).1⟩
  show CellOK ga pm st c (cell row c)
  by_cases hcw : c < width
  · rw [p2 c hcw]
    rcases put_mem (decisions ga pm eof width st c) .err with h | h
    · rw [h]; trivial
    · rcases (mem_decisions ga pm eof width st).1 h with ⟨j, hj, hm⟩ | h
      · rw [hj]; exact hm
      · obtain ⟨it, hit, hp⟩ := List.mem_flatMap.1 h
        obtain ⟨hd, ha, hact⟩ := acts_of_mem_itemPl hp
        simp only at ha
        rw [ha, actOf]
        split
        · exact ⟨it, hit, hd, ‹_›, hact.imp_right And.right⟩
        · exact ⟨it, hit, hd, ‹_›, rfl, rfl, rfl⟩
  · rw [cell, List.getElem?_eq_none (by rw [p1]; exact Nat.le_of_not_lt hcw)]
    trivial

theorem genTables_ok (g : Grammar) (start eof : Nat) (pm : Bool) (fuel : Nat) :
    TabOK (g.augment start eof) pm
      (collection (g.augment start eof) (firstSets (g.augment start eof)) g.numNT eof fuel)
      (genTables g start eof pm fuel).1.action (genTables g start eof pm fuel).1.goto := by
  rw [genTables_spec]
  constructor <;> intro q r hq <;> simp only [getElem?_zipIdx_map, Option.map_eq_some_iff] at hq <;>
    obtain ⟨st, hst, rfl⟩ := hq
  · exact ⟨st, hst, (fillRow_ok _ pm eof _ q st []).1⟩
  · exact ⟨st, hst, (fillRow_ok _ pm eof _ q st []).2⟩

end LRSound

namespace LRComplete
open LRTable LRSound

theorem fillRow_complete (ga : Grammar) (pm : Bool) (eof width state : Nat) (st : LRState)
    (hc : (fillRow ga pm eof width state st []).2.2 = []) :
    RowComplete ga pm eof width st (fillRow ga pm eof width state st []).1
      (fillRow ga pm eof width state st []).2.1 := by
  obtain ⟨row, extra, hf, p1, p2, p4⟩ := fillRow_spec ga pm eof width state st
  rw [hf []] at hc ⊢
  have hq := p4.1 hc
  refine ⟨p1, fun a j hm ha => ?_, (goto_spec ga.numNT st.trans).2,
    fun it hit hd hl c hcw ha => ?_, fun l1 it l2 hitems hd hl hl2 c hcw ha => ?_⟩
  · -- after a shift the cell accepts shifts only
    obtain ⟨as1, as2, hs⟩ := List.append_of_mem
      ((mem_decisions ga pm eof width st).2 (Or.inl ⟨j, rfl, hm⟩))
    rw [p2 a ha, hs]
    exact quiet_final (isShift · = true) as2 _ rfl
      (fun x hx y _ hb => by obtain ⟨_, rfl⟩ := isShift_elim hx; cases y <;> first | rfl | cases hb)
      as1 _ (hs ▸ hq a ha)
  · -- after a reduce the cell accepts nothing
    have hact : actOf ga it = .reduce it.left it.alt (ga.rhs it).length := if_neg hl
    obtain ⟨as1, as2, hs⟩ := List.append_of_mem ((mem_decisions ga pm eof width st).2
      (Or.inr (List.mem_flatMap.2 ⟨it, hit, mem_itemPl ga pm eof width it c hd hcw ha⟩)))
    rw [p2 c hcw, hs, ← hact]
    exact quiet_final (· = actOf ga it) as2 _ rfl
      (fun x hx y _ hb => by rw [hx, hact] at hb; cases hb) as1 _ (hs ▸ hq c hcw)
  · -- after the accept of `it` come accepts only
    have hact : actOf ga it = .accept := if_pos hl
    obtain ⟨u, v, hs⟩ := List.append_of_mem (mem_col.2 (mem_itemPl ga pm eof width it c hd hcw ha))
    have hcol : decisions ga pm eof width st c =
        (col (shiftPl st.trans ++ l1.flatMap (itemPl ga pm eof width)) c ++ u) ++
          .accept :: (v ++ col (l2.flatMap (itemPl ga pm eof width)) c) := by
      rw [decisions_eq, rowPl, hitems, List.flatMap_append, List.flatMap_cons, col_append, col_append,
        col_append, hs, hact]
      simp
    rw [p2 c hcw, hcol]
    refine quiet_final (· = .accept) _ _ rfl (fun _ _ y hy _ => ?_) _ _ (hcol ▸ hq c hcw)
    rcases List.mem_append.1 hy with hy | hy
    · have : y ∈ col (itemPl ga pm eof width it) c := by rw [hs]; simp [hy]
      exact (acts_of_mem_itemPl (mem_col.1 this)).2.1.trans hact
    · obtain ⟨z, hz, hpz⟩ := List.mem_flatMap.1 (mem_col.1 hy)
      exact (acts_of_mem_itemPl hpz).2.1.trans (if_pos (hl2 z hz))

theorem genTables_complete (g : Grammar) (start eof : Nat) (pm : Bool) (fuel : Nat)
    (hc : (genTables g start eof pm fuel).1.conflicts = []) (q : Nat) (st : LRState)
    (hq : (collection (g.augment start eof) (firstSets (g.augment start eof)) g.numNT eof fuel)[q]? = some st) :
    ∃ row grow, (genTables g start eof pm fuel).1.action[q]? = some row ∧
      (genTables g start eof pm fuel).1.goto[q]? = some grow ∧
      RowComplete (g.augment start eof) pm eof ((g.augment start eof).maxTerminal + 1) st row grow := by
  rw [genTables_spec] at hc ⊢
  simp only [getElem?_zipIdx_map, hq]
  exact ⟨_, _, rfl, rfl, fillRow_complete _ pm eof _ q st
    (List.flatMap_eq_nil_iff.1 hc (st, q) (List.mem_zipIdx_iff_getElem?.2 hq))⟩

end LRComplete

namespace LRConverse
open LRTable LRSound LRComplete

theorem fillRow_quiet (ga : Grammar) (pm : Bool) (eof width state : Nat) (st : LRState)
    (hnc : NoClash ga pm eof st) (hnd : st.items.Nodup) (confs : List Conflict) :
    (fillRow ga pm eof width state st confs).2.2 = confs := by
  obtain ⟨_, extra, hf, _, _, p4⟩ := fillRow_spec ga pm eof width state st
  rw [hf confs]
  show confs ++ extra = confs
  rw [p4.2, List.append_nil]
  intro c hcw
  -- two actions of complete items on one column would be two different items acting on it
  have hpw : (rowPl ga pm eof width st).Pairwise (fun p q => p.1 ≠ q.1) := by
    refine List.pairwise_flatMap.2 ⟨fun it _ => List.pairwise_map.1 (itemPl_nodup ga pm eof width it),
      hnd.imp_of_mem fun {it1 it2} m1 m2 hne p hp q hq hpq => ?_⟩
    obtain ⟨d1, _, a1⟩ := acts_of_mem_itemPl hp
    obtain ⟨d2, _, a2⟩ := acts_of_mem_itemPl hq
    exact hnc.rr it1 it2 q.1 m1 m2 hne d1 d2 (hpq ▸ a1) a2
  rw [decisions_eq]
  rcases col_le_one hpw c with h | ⟨a, h⟩
  · rw [h, List.append_nil]
    exact quiet_shifts _ _ (fun x hx => by obtain ⟨j, rfl, _⟩ := mem_shiftPl.1 (mem_col.1 hx); rfl)
      (fun _ => rfl)
  · -- a complete item acts on `c`: no shift there
    obtain ⟨it, hit, hp⟩ := List.mem_flatMap.1 (mem_col.1 (h ▸ List.mem_singleton_self a))
    obtain ⟨hd, _, hact⟩ := acts_of_mem_itemPl hp
    rw [show col (shiftPl st.trans) c = [] from List.eq_nil_iff_forall_not_mem.2 fun x hx => by
      obtain ⟨j, _, hj⟩ := mem_shiftPl.1 (mem_col.1 hx)
      exact hnc.sr c j it hj hit hd hact, h]
    rfl

theorem genTables_quiet (g : Grammar) (start eof : Nat) (pm : Bool) (fuel : Nat)
    (h : ∀ (q : Nat) (st : LRState),
      (collection (g.augment start eof) (firstSets (g.augment start eof)) g.numNT eof fuel)[q]? = some st →
      NoClash (g.augment start eof) pm eof st ∧ st.items.Nodup) :
    (genTables g start eof pm fuel).1.conflicts = [] := by
  rw [genTables_spec]
  refine List.flatMap_eq_nil_iff.2 fun p hp => ?_
  obtain ⟨hnc, hnd⟩ := h p.2 p.1 (List.mem_zipIdx_iff_getElem?.1 hp)
  exact fillRow_quiet _ pm eof _ p.2 p.1 hnc hnd []

end LRConverse

end Theo
