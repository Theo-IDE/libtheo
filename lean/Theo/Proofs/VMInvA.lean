/-
  Invariants of the reachable VM states behind C17, C19, C20: the live code stays within the
  loaded instructions and break opcodes and every `BREAK` belongs to an enabled line, both by
  `reach_code` (VMStep.lean); frames tile the data and stored words stay in range, here as
  preservation by one instruction (`Eff.tiles`, `Eff.range`), which Props/C19 and C20 hand to
  `reach_core`.
-/
import Theo.Proofs.VMInvB

namespace Theo
open InvB

def CodeSub (p : Program) (code : List Instr) : Prop :=
  ∀ ins ∈ code, ins ∈ p.code ∨ ins = Instr.brk ∨ ins = Instr.potBreak

theorem CodeSub.ops {p : Program} {code c : List Instr} {sites : List Int} {x : Instr}
    (hx : x = .brk ∨ x = .potBreak) (ih : CodeSub p code) (h : setOps code sites x = .ok c) :
    CodeSub p c :=
  fun ins hi => (setOps_mem h ins hi).elim (fun e => .inr (e ▸ hx)) (ih ins)

theorem reach_codeSub {p : Program} {vm : VM} (hr : Reach p vm) : CodeSub p vm.code :=
  reach_code (Q := fun code _ => CodeSub p code) (fun _ => .inl)
    (fun ih _ h => ih.ops (.inl rfl) h) (fun ih _ h => ih.ops (.inr rfl) h)
    (fun ih h => restoreAll_induct (fun _ ih h => ih.ops (.inr rfl) h) ih h) hr

theorem reach_fetch {p : Program} {vm : VM} (hr : Reach p vm) {i : Instr}
    (hf : fetch vm.code vm.ip = .ok i) (h1 : i ≠ .brk) (h2 : i ≠ .potBreak) : i ∈ p.code :=
  (reach_codeSub hr i (fetch_mem hf)).resolve_right (not_or.2 ⟨h1, h2⟩)

theorem InvB.Eff.tiles {c c' : Core} {i : Instr} (h : Eff c i c')
    (hp : ∀ cnt idx tgt, i = .prepare cnt idx tgt → 0 ≤ cnt)
    (ht : Tiles c.stack c.data.length) : Tiles c'.stack c'.data.length := by
  cases h with
  | potBreak | brk | halt | jmp | jmpc => exact ht
  | add _ _ hd | test _ _ _ hd | const _ hd | arg _ _ hd =>
    show Tiles c.stack (List.length _)
    rw [wr_length hd]; exact ht
  | prepare =>
    show Tiles (_ :: c.stack) (List.length _)
    rw [List.length_append, List.length_replicate]
    exact ⟨hp _ _ _ rfl, rfl, ht⟩
  | exec hs => rw [hs] at ht; exact ht
  | ret hs _ hd =>
    rw [hs] at ht
    obtain ⟨_, h1, h2, h3, h4⟩ := ht
    refine ⟨h2, ?_, h4⟩
    show _ = List.length (List.take _ _)
    rw [List.length_take, wr_length hd, Nat.min_eq_left (Nat.le.intro h1)]
    exact h3

theorem tiles_sum : ∀ (st : List Act) (n : Nat), Tiles st n →
    n = (st.map (fun a => a.segSize.toNat)).sum
  | [], _, h => h
  | a :: rest, n, h => by
    rw [List.map_cons, List.sum_cons, ← tiles_sum rest _ h.2.2, ← h.2.1, Nat.add_comm]

theorem tiles_bound : ∀ (st : List Act) (n : Nat), Tiles st n →
    ∀ a ∈ st, a.dataStart + a.segSize.toNat ≤ n := by
  intro st
  induction st with
  | nil => exact fun _ _ _ ha => nomatch ha
  | cons b rest ih =>
    intro n h a ha
    obtain ⟨_, h2, h3⟩ := h
    rcases List.mem_cons.1 ha with rfl | ha
    · exact Nat.le_of_eq h2
    · exact Nat.le_trans (ih _ h3 a ha) (h2 ▸ Nat.le_add_right _ _)

theorem addClamp_inRange (v c : Int) : InRange (addClamp v c) :=
  ⟨Int.le_min.2 ⟨Int.le_max_right _ _, by decide⟩, Int.min_le_right _ _⟩

theorem wr_range {d : List Int} {i v : Int} {d' : List Int} (h : wr d i v = .ok d')
    (hv : InRange v) (hd : ∀ w ∈ d, InRange w) : ∀ w ∈ d', InRange w :=
  fun w hw => (wr_mem h w hw).elim (· ▸ hv) (hd w)

theorem InvB.Eff.range {c c' : Core} {i : Instr} (h : Eff c i c')
    (hc : ∀ t k, i = .const t k → InRange k)
    (hd : ∀ w ∈ c.data, InRange w) : ∀ w ∈ c'.data, InRange w := by
  cases h with
  | potBreak | brk | halt | jmp | jmpc | exec => exact hd
  | add _ _ hw => exact wr_range hw (addClamp_inRange _ _) hd
  | test _ _ _ hw => exact wr_range hw (by split <;> exact ⟨by decide, by decide⟩) hd
  | const _ hw => exact wr_range hw (hc _ _ rfl) hd
  | prepare =>
    intro w hw
    rcases List.mem_append.1 hw with h1 | h1
    · exact hd w h1
    · rw [(List.mem_replicate.1 h1).2]; exact ⟨by decide, by decide⟩
  | arg _ hr hw => exact wr_range hw (hd _ (rd_mem hr)) hd
  | ret _ hr hw =>
    exact fun w hw' => wr_range hw (hd _ (rd_mem hr)) hd w (List.mem_of_mem_take hw')

/-- every `BREAK` of the live code sits at a site of an enabled line: one direction of
    `BreakInv.brk` (VMInvB.lean), in terms of `sitesOf` so that it needs no `TablesInverse` -/
def BrkOwned (p : Program) (code : List Instr) (en : List BreakPoint) : Prop :=
  ∀ k : Nat, code[k]? = some Instr.brk → ∃ bp ∈ en, (k : Int) ∈ (p.sitesOf bp).getD []

theorem reach_brkOwned {p : Program} (hs : SitesOK p) {vm : VM} (hr : Reach p vm) :
    BrkOwned p vm.code vm.enabled := by
  refine reach_code (Q := BrkOwned p) ?_ ?_ ?_ ?_ hr
  · exact fun k h => absurd (List.mem_of_getElem? h) hs.2
  · intro code en c b sites ih hb h k hk
    rcases (setOps_brk_iff h k).1 hk with ⟨hm, _⟩ | ⟨_, hk'⟩
    · exact ⟨b, mem_insert.2 (.inl rfl), by rw [hb]; exact hm⟩
    · obtain ⟨bp, hbp, hm⟩ := ih k hk'
      exact ⟨bp, mem_insert.2 (.inr hbp), hm⟩
  · intro code en c b sites ih hb h k hk
    rcases (setOps_brk_iff h k).1 hk with ⟨_, hx⟩ | ⟨hn, hk'⟩
    · cases hx
    · obtain ⟨bp, hbp, hm⟩ := ih k hk'
      refine ⟨bp, mem_erase_of_ne ?_ hbp, hm⟩
      rintro rfl
      rw [hb] at hm
      exact hn hm
  · intro code en c ih h k hk
    obtain ⟨hk', hn⟩ := restoreAll_brk h k hk
    obtain ⟨bp, hbp, hm⟩ := ih k hk'
    exact absurd hm (hn bp hbp)

theorem restoreAll_exists {p : Program} (hs : SitesOK p) {bps : List BreakPoint} :
    ∀ {code : List Instr}, CodeInv p code → ∃ c, restoreAll p code bps = .ok c := by
  induction bps with
  | nil => exact fun _ => ⟨_, rfl⟩
  | cons bp bps ih =>
    intro code hc
    have hok := sitesOK_sitesD hs bp
    obtain ⟨c1, h1⟩ := setOps_exists (code := code) Instr.potBreak fun i hi =>
      ⟨(hok i hi).1, hc.length ▸ (List.getElem?_eq_some_iff.1 (hok i hi).2).1⟩
    rw [restoreAll_cons, h1]
    exact ih (hc.ops rfl (fun i hi => (hok i hi).2) h1)

theorem restoreAll_fresh {p : Program} (hs : SitesOK p) {vm : VM} (hr : Reach p vm) :
    restoreAll p vm.code vm.enabled = .ok p.code := by
  have hc := CodeInv.reach hs hr
  obtain ⟨c, h⟩ := restoreAll_exists (bps := vm.enabled) hs hc
  have hno : Instr.brk ∉ c := fun hm => by
    obtain ⟨k, hk⟩ := List.getElem?_of_mem hm
    obtain ⟨hk', hn⟩ := restoreAll_brk h k hk
    obtain ⟨bp, hbp, hm⟩ := reach_brkOwned hs hr k hk'
    exact hn bp hbp hm
  rw [h, ← hc.restore hs h, map_erase_of_no_brk hno]

theorem reset_fresh {p : Program} (hs : SitesOK p) {vm : VM} (hr : Reach p vm) :
    VM.reset p vm = .ok (VM.mk' p) := by
  have h : restoreAll p vm.code vm.enabled = .ok p.code := restoreAll_fresh hs hr
  unfold VM.reset VM.clearBreakpoints
  simp only [bind, Except.bind, pure, Except.pure, h]
  rfl

end Theo
