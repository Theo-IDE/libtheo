/-
  C03 for the generator, interface between the generator-side proof and the checker-side proof:
  a *local* description of well-formed code.  Every program counter `pc ≥ 1` is given a frame
  size `fr pc` and a routine id `rd pc` by two arbitrary functions; the pending-call part of the
  certificate is computed from the code (`pendOf`: the PREPARE that starts the ARG run ending at
  `pc`).  `LocalWF` lists, instruction by instruction, what has to hold; nothing here mentions
  the generator.  Proofs/GenWFCert.lean shows `LocalWF p fr rd R → checkCert p (certOf …)`.
-/
import Theo.Spec.WellFormed

namespace Theo
namespace GenWF

/-- not an `ARG` / `EXEC` (the instructions that live inside a call sequence) -/
def notAE : Instr → Bool
  | .arg _ _ => false
  | .exec _ => false
  | _ => true

/-- operands `(count, idx)` of the PREPARE that starts the ARG run ending just before `pc` -/
def prepBefore (code : List Instr) : Nat → Option (Int × Int)
  | 0 => none
  | pc + 1 =>
    match code[pc]? with
    | some (.prepare c i _) => some (c, i)
    | some (.arg _ _) => prepBefore code pc
    | _ => none

def pendOf (code : List Instr) (pc : Nat) : Option (Nat × Nat) :=
  match code[pc]? with
  | some (.arg _ _) => (prepBefore code pc).map (fun x => (x.1.toNat, x.2.toNat))
  | some (.exec _) => (prepBefore code pc).map (fun x => (x.1.toNat, x.2.toNat))
  | _ => none

def certOf (code : List Instr) (fr rd : Nat → Nat) : Cert :=
  (List.range code.length).map (fun pc => if pc = 0 then none else some ⟨fr pc, rd pc, pendOf code pc⟩)

/-- `pc + 1` exists and belongs to the same activation -/
def Next (code : List Instr) (fr rd : Nat → Nat) (pc : Nat) : Prop :=
  pc + 1 < code.length ∧ fr (pc + 1) = fr pc ∧ rd (pc + 1) = rd pc

/-- the instruction at `x` (if any) is not inside a call sequence -/
def Plain (code : List Instr) (x : Nat) : Prop := ∀ i, code[x]? = some i → notAE i = true

def Inside (code : List Instr) (x : Nat) : Prop := ∃ i, code[x]? = some i ∧ notAE i = false

/-- a jump from `pc` by `off` lands on a plain instruction of the same activation, not on 0 -/
def JumpOK (code : List Instr) (fr rd : Nat → Nat) (pc : Nat) (off : Int) : Prop :=
  ∃ tgt : Nat, (pc : Int) + off = (tgt : Int) ∧ 1 ≤ tgt ∧ tgt < code.length ∧
    fr tgt = fr pc ∧ rd tgt = rd pc ∧ Plain code tgt

def PcWF (p : Program) (fr rd : Nat → Nat) (R : Nat) (pc : Nat) : Instr → Prop
  | .potBreak => Next p.code fr rd pc ∧ Plain p.code (pc + 1)
  | .brk => False
  | .halt => True
  | .add t s _ => regOK t (fr pc) = true ∧ regOK s (fr pc) = true ∧ Next p.code fr rd pc ∧ Plain p.code (pc + 1)
  | .test t a b => regOK t (fr pc) = true ∧ regOK a (fr pc) = true ∧ regOK b (fr pc) = true ∧
      Next p.code fr rd pc ∧ Plain p.code (pc + 1)
  | .const t _ => regOK t (fr pc) = true ∧ Next p.code fr rd pc ∧ Plain p.code (pc + 1)
  | .jmp off => JumpOK p.code fr rd pc off
  | .jmpc off s => regOK s (fr pc) = true ∧ JumpOK p.code fr rd pc off ∧
      Next p.code fr rd pc ∧ Plain p.code (pc + 1)
  | .prepare cnt idx tgt => 0 ≤ cnt ∧ 0 ≤ idx ∧ regOK tgt (fr pc) = true ∧ mapOK p idx cnt.toNat = true ∧
      idx.toNat < rd pc ∧ Next p.code fr rd pc ∧ Inside p.code (pc + 1)
  | .arg t s => ∃ cnt idx, prepBefore p.code pc = some (cnt, idx) ∧ regOK t cnt.toNat = true ∧
      regOK s (fr pc) = true ∧ Next p.code fr rd pc ∧ Inside p.code (pc + 1)
  | .exec en => ∃ cnt idx, prepBefore p.code pc = some (cnt, idx) ∧ idx.toNat < rd pc ∧
      (∃ e : Nat, en = (e : Int) ∧ 1 ≤ e ∧ e < p.code.length ∧ fr e = cnt.toNat ∧ rd e = idx.toNat ∧
        Plain p.code e ∧ retsBefore p.code en = idx.toNat) ∧
      Next p.code fr rd pc ∧ Plain p.code (pc + 1)
  | .ret s => regOK s (fr pc) = true ∧ rd pc < R

structure LocalWF (p : Program) (fr rd : Nat → Nat) (R : Nat) : Prop where
  head : ∃ c0 m0 t0 rest, p.code = Instr.prepare c0 m0 t0 :: rest ∧ 0 ≤ c0 ∧
    mapOK p m0 c0.toNat = true ∧ fr 1 = c0.toNat
  last : p.code.getLast? = some Instr.halt
  root : rd 1 = R ∧ R = retsBefore p.code p.code.length
  plain1 : Plain p.code 1
  pcs : ∀ pc ins, 1 ≤ pc → p.code[pc]? = some ins → PcWF p fr rd R pc ins
  sites : sitesOKb p = true

end GenWF
end Theo
