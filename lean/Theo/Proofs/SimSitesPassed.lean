/-
  The sites passed along VM runs (`ES`, `EP`); runs that pass none (`QS`, `QP`; `Run 0 k`; ranges
  without sites: `Clean`).
-/
import Theo.Spec.Events
import Theo.Proofs.SimExec

namespace Theo
namespace Sim
open Sem WF

theorem sitesPassed_add (p : Program) {vm vm1 : VM} {a : Nat} (h : Steps vm a vm1) (b : Nat) :
    sitesPassed p (a + b) vm = sitesPassed p a vm ++ sitesPassed p b vm1 := by
  induction h with
  | refl vm => rw [Nat.zero_add]; rfl
  | @cons vm vm1 vm' r k hd hs _ ih =>
    rw [Nat.add_right_comm]
    simp only [sitesPassed, hs]
    rw [ih, List.append_assoc]

theorem sitesPassed_prefix (p : Program) : ∀ (m : Nat) (vm : VM),
    sitesPassed p m vm <+: sitesPassed p (m + 1) vm := by
  intro m
  induction m with
  | zero => intro vm; exact List.nil_prefix
  | succ m ih =>
    intro vm
    rw [sitesPassed.eq_def p (m + 1) vm, sitesPassed.eq_def p (m + 1 + 1) vm]
    simp only
    cases hs : Theo.step vm with
    | error e => exact List.prefix_refl _
    | ok r =>
      obtain ⟨vm', b⟩ := r
      simp only
      exact (List.prefix_append_right_inj _).2 (ih vm')

theorem sitesPassed_mono (p : Program) (vm : VM) {m M : Nat} (h : m ≤ M) :
    sitesPassed p m vm <+: sitesPassed p M vm := by
  induction h with
  | refl => exact List.prefix_refl _
  | step _ ih => exact ih.trans (sitesPassed_prefix p _ vm)

theorem sitesPassed_halt (p : Program) {vm : VM} (h : vm.isDone = .ok true) :
    ∀ j, sitesPassed p j vm = [] := by
  have hf := InvB.isDone_halt h
  have hs : Theo.step vm = .ok (vm, true) := InvB.Eff.halt.step hf
  intro j
  induction j with
  | zero => rfl
  | succ j ih =>
    rw [sitesPassed.eq_def]
    simp only [hs, hf, ih]
    rfl

def ES (p : Program) (vm : VM) (L : List (BreakPoint × VM)) (vm' : VM) : Prop :=
  ∃ k, Steps vm k vm' ∧ sitesPassed p k vm = L
def EP (p : Program) (vm : VM) (L : List (BreakPoint × VM)) (vm' : VM) : Prop :=
  ∃ k, Steps vm (k + 1) vm' ∧ sitesPassed p (k + 1) vm = L

theorem ES.refl (p : Program) (vm : VM) : ES p vm [] vm := ⟨0, Steps.refl _, rfl⟩
theorem EP.es {p : Program} {a b : VM} {L : List (BreakPoint × VM)} (h : EP p a L b) : ES p a L b := by
  obtain ⟨k, h⟩ := h; exact ⟨k + 1, h⟩
theorem ES.trans {p : Program} {a b c : VM} {L1 L2 : List (BreakPoint × VM)} (h1 : ES p a L1 b)
    (h2 : ES p b L2 c) : ES p a (L1 ++ L2) c := by
  obtain ⟨k, s1, e1⟩ := h1; obtain ⟨l, s2, e2⟩ := h2
  exact ⟨k + l, s1.trans s2, by rw [sitesPassed_add p s1, e1, e2]⟩
theorem EP.trans_es {p : Program} {a b c : VM} {L1 L2 : List (BreakPoint × VM)} (h1 : EP p a L1 b)
    (h2 : ES p b L2 c) : EP p a (L1 ++ L2) c := by
  obtain ⟨k, s1, e1⟩ := h1; obtain ⟨l, s2, e2⟩ := h2
  refine ⟨k + l, by rw [Nat.add_right_comm]; exact s1.trans s2, ?_⟩
  rw [Nat.add_right_comm, sitesPassed_add p s1, e1, e2]
theorem ES.trans_ep {p : Program} {a b c : VM} {L1 L2 : List (BreakPoint × VM)} (h1 : ES p a L1 b)
    (h2 : EP p b L2 c) : EP p a (L1 ++ L2) c := by
  obtain ⟨k, s1, e1⟩ := h1; obtain ⟨l, s2, e2⟩ := h2
  exact ⟨k + l, s1.trans s2, by rw [Nat.add_assoc, sitesPassed_add p s1, e1, e2]⟩
theorem EP.trans {p : Program} {a b c : VM} {L1 L2 : List (BreakPoint × VM)} (h1 : EP p a L1 b)
    (h2 : EP p b L2 c) : EP p a (L1 ++ L2) c := h1.trans_es h2.es

abbrev QS (p : Program) (a b : VM) : Prop := ES p a [] b
abbrev QP (p : Program) (a b : VM) : Prop := EP p a [] b

theorem EP.then_q {p : Program} {a b d : VM} {L : List (BreakPoint × VM)} (h1 : EP p a L b)
    (h2 : QS p b d) : EP p a L d := by
  have := h1.trans_es h2
  rwa [List.append_nil] at this

theorem QP.trans {p : Program} {a b c : VM} (h1 : QP p a b) (h2 : QP p b c) : QP p a c := by
  have := EP.trans h1 h2; simpa using this
theorem QS.trans {p : Program} {a b c : VM} (h1 : QS p a b) (h2 : QS p b c) : QS p a c := by
  have := ES.trans h1 h2; simpa using this
theorem QP.trans_qs {p : Program} {a b c : VM} (h1 : QP p a b) (h2 : QS p b c) : QP p a c := by
  have := EP.trans_es h1 h2; simpa using this
theorem QS.trans_qp {p : Program} {a b c : VM} (h1 : QS p a b) (h2 : QP p b c) : QP p a c := by
  have := ES.trans_ep h1 h2; simpa using this

theorem steps_one {vm vm' : VM} (h : Steps vm 1 vm') : ∃ r, Theo.step vm = .ok (vm', r) := by
  cases h with
  | cons hd hs hrest =>
    cases hrest
    exact ⟨_, hs⟩

theorem Run.es {p : Program} {k : Nat} {a b : VM} (h : Run 0 k a b) :
    ∃ j, k ≤ j ∧ Steps a j b ∧ sitesPassed p j a = [] := by
  induction h with
  | refl a => exact ⟨0, Nat.le_refl _, .refl a, rfl⟩
  | @cons a b c d i k hs hf hp h1 _ ih =>
    obtain ⟨j0, hj0, hs⟩ := hs
    obtain rfl : j0 = 0 := Nat.le_zero.1 hj0
    cases hs
    obtain ⟨j, hj, h2, he⟩ := ih
    obtain ⟨r, hst⟩ := steps_one h1
    refine ⟨1 + j, by omega, h1.trans h2, ?_⟩
    rw [sitesPassed_add p h1, he]
    simp only [sitesPassed, hst, hf]
    cases i <;> first | rfl | cases hp

theorem Run.qs {p : Program} {k : Nat} {a b : VM} (h : Run 0 k a b) : QS p a b := by
  obtain ⟨j, _, h⟩ := h.es
  exact ⟨j, h⟩

theorem Run.qp {p : Program} {k : Nat} {a b : VM} (h : Run 0 k a b) (hk : 0 < k) : QP p a b := by
  obtain ⟨j, hj, h⟩ := h.es
  cases j with
  | zero => omega
  | succ j => exact ⟨j, h⟩

section
variable {p : Program} {c : Cert} {R : PcInfo}

theorem site1 {vm vm' : VM} (hg : Good p c R.rid vm) {pc : Nat} {bp : BreakPoint}
    (hip : vm.ip = (pc : Int)) (hins : p.code[pc]? = some .potBreak)
    (hl : p.lineAt (pc : Int) = some bp) (hs : Steps vm 1 vm') : EP p vm [(bp, vm')] vm' := by
  obtain ⟨r, hst⟩ := steps_one hs
  refine ⟨0, hs, ?_⟩
  have hf := hg.fetch hip hins
  rw [hip] at hf
  simp only [sitesPassed, hst, hip, hf, hl]
  rfl

section
variable (hc : CertOK p c R) {vm : VM} (hg : Good p c R.rid vm) {pc : Nat} (hip : vm.ip = (pc : Int))
include hc hg hip

theorem q_site (hins : p.code[pc]? = some .potBreak) {bp : BreakPoint}
    (hl : p.lineAt (pc : Int) = some bp) :
    ∃ vm', EP p vm [(bp, vm')] vm' ∧ Good p c R.rid vm' ∧ vm'.ip = ((pc + 1 : Nat) : Int) ∧
      vm'.stack = vm.stack ∧ vm'.data = vm.data := by
  obtain ⟨vm2, s2, g2, ip2, st2, d2⟩ := x_pb hc hg hip hins
  exact ⟨vm2, site1 hg hip hins hl s2, g2, by rw [ip2]; rfl, st2, d2⟩

end

theorem quiet1 {vm vm' : VM} (hg : Good p c R.rid vm) {pc : Nat} {ins : Instr}
    (hip : vm.ip = (pc : Int)) (hins : p.code[pc]? = some ins) (h1 : ins ≠ .potBreak)
    (h2 : ins ≠ .brk) (hs : Steps vm 1 vm') : QP p vm vm' := by
  have hf := hg.fetch hip hins
  have hp : plain ins = true := by
    cases hs with
    | cons hd _ _ =>
      rw [isDone_of_fetch hf] at hd
      cases ins <;> first | rfl | contradiction | exact absurd (Except.ok.inj hd) (by decide)
  exact Run.qp (.cons (SA.refl 0 vm) hf hp hs (.refl _)) Nat.one_pos

theorem q_add (hc : CertOK p c R) {vm : VM} (hg : Good p c R.rid vm) {a : Act} {rest : List Act}
    (hst : vm.stack = a :: rest) {pc : Nat} (hip : vm.ip = (pc : Int)) {t s k : Int}
    (hins : p.code[pc]? = some (.add t s k)) {n m : Nat} (hs : Holds vm.data a s n)
    (hm : addClamp (n : Int) k = (m : Int)) (hle : m ≤ WORD_MAX) :
    0 ≤ t ∧ t < a.segSize ∧
    ∃ vm', QP p vm vm' ∧ Good p c R.rid vm' ∧ vm'.ip = ((pc + 1 : Nat) : Int) ∧
      Pres vm vm' a [t] ∧ Holds vm'.data a t m := by
  obtain ⟨h0, h1, vm', s1, r⟩ := x_add hc hg hst hip hins hs hm hle
  exact ⟨h0, h1, vm', s1.qp Nat.one_pos, r⟩

theorem q_const (hc : CertOK p c R) {vm : VM} (hg : Good p c R.rid vm) {a : Act} {rest : List Act}
    (hst : vm.stack = a :: rest) {pc : Nat} (hip : vm.ip = (pc : Int)) {t k : Int}
    (hins : p.code[pc]? = some (.const t k)) :
    0 ≤ t ∧ t < a.segSize ∧
    ∃ vm', QP p vm vm' ∧ Good p c R.rid vm' ∧ vm'.ip = ((pc + 1 : Nat) : Int) ∧
      Pres vm vm' a [t] ∧ ∀ m : Nat, k = (m : Int) → m ≤ WORD_MAX → Holds vm'.data a t m := by
  obtain ⟨h0, h1, vm', s1, r⟩ := x_const hc hg hst hip hins
  exact ⟨h0, h1, vm', s1.qp Nat.one_pos, r⟩

theorem q_test (hc : CertOK p c R) {vm : VM} (hg : Good p c R.rid vm) {a : Act} {rest : List Act}
    (hst : vm.stack = a :: rest) {pc : Nat} (hip : vm.ip = (pc : Int)) {t x y : Int}
    (hins : p.code[pc]? = some (.test t x y)) {n1 n2 : Nat}
    (hx : Holds vm.data a x n1) (hy : Holds vm.data a y n2) :
    0 ≤ t ∧ t < a.segSize ∧
    ∃ vm', QP p vm vm' ∧ Good p c R.rid vm' ∧ vm'.ip = ((pc + 1 : Nat) : Int) ∧
      Pres vm vm' a [t] ∧ Holds vm'.data a t (if n1 = n2 then 0 else 1) := by
  obtain ⟨h0, h1, vm', s1, r⟩ := x_test hc hg hst hip hins hx hy
  exact ⟨h0, h1, vm', s1.qp Nat.one_pos, r⟩

theorem q_jmp (hc : CertOK p c R) {vm : VM} (hg : Good p c R.rid vm) {pc : Nat}
    (hip : vm.ip = (pc : Int)) {off : Int} (hins : p.code[pc]? = some (.jmp off)) :
    ∃ vm', QP p vm vm' ∧ Good p c R.rid vm' ∧ vm'.ip = (pc : Int) + off ∧
      vm'.stack = vm.stack ∧ vm'.data = vm.data := by
  obtain ⟨vm', s1, r⟩ := x_jmp hc hg hip hins
  exact ⟨vm', s1.qp Nat.one_pos, r⟩

theorem q_jmpc (hc : CertOK p c R) {vm : VM} (hg : Good p c R.rid vm) {a : Act} {rest : List Act}
    (hst : vm.stack = a :: rest) {pc : Nat} (hip : vm.ip = (pc : Int)) {off s : Int}
    (hins : p.code[pc]? = some (.jmpc off s)) {n : Nat} (hs : Holds vm.data a s n) :
    ∃ vm', QP p vm vm' ∧ Good p c R.rid vm' ∧
      vm'.ip = (if n = 0 then (pc : Int) + off else ((pc + 1 : Nat) : Int)) ∧
      vm'.stack = vm.stack ∧ vm'.data = vm.data := by
  obtain ⟨vm', s1, r⟩ := x_jmpc hc hg hst hip hins hs
  exact ⟨vm', s1.qp Nat.one_pos, r⟩

def Clean (code : List Instr) (lo hi : Nat) : Prop :=
  ∀ x, lo ≤ x → x < hi → code[x]? ≠ some Instr.potBreak

theorem Clean.skipc {code : List Instr} {lo hi x : Nat} (h : Clean code lo hi) (h1 : lo ≤ x)
    (h2 : x < hi) : skipc code x = x := skipc_of_not_pb (h x h1 h2)

theorem Clean.mono {code : List Instr} {lo hi lo' hi' : Nat} (h : Clean code lo hi) (h1 : lo ≤ lo')
    (h2 : hi' ≤ hi) : Clean code lo' hi' := fun x g1 g2 => h x (by omega) (by omega)

theorem Clean.bound {code : List Instr} {lo hi : Nat} (h : Clean code lo hi) {ip : Int}
    (hip : ip = (lo : Int)) {hi' : Nat} (hle : hi' ≤ hi) : SiteBoundIn code 0 ip.toNat hi' := by
  subst hip
  exact fun x h1 h2 => Nat.le_of_eq (h.skipc h1 (Nat.lt_of_lt_of_le h2 hle))

theorem at_exact {e : VEnv} (he : e.code = p.code) {lo hi x : Nat} (hcl : Clean p.code lo hi)
    (h1 : lo ≤ x) (h2 : x < hi) {ins : Instr} (h : e.at x = some ins) : p.code[x]? = some ins := by
  have := at_code he h
  rwa [hcl.skipc h1 h2] at this

theorem next_exact {e : VEnv} (he : e.code = p.code) {lo hi x : Nat} (hcl : Clean p.code lo hi)
    (h1 : lo ≤ x) (h2 : x < hi) : e.next x = x + 1 := by
  rw [next_code he, hcl.skipc h1 h2]

theorem eval_simple_q (hc : CertOK p c R) {e : VEnv} (he : e.code = p.code) {vm : VM}
    (hg : Good p c R.rid vm) {a : Act} {rest : List Act} (hst : vm.stack = a :: rest) {pc hi : Nat}
    (hip : vm.ip = (pc : Int)) (hcl : Clean p.code pc hi) {env : Env} {ctrs : Ctrs}
    (hfo : FrameOK vm.data a e.me env ctrs) {v : Value} {live : List Int} {tgt : Int} {pc' : Nat}
    (hcv : checkValue e v live pc = some (tgt, pc')) (hhi : pc' ≤ hi) {n : Nat}
    (hv : SimpleVal env v n) :
    ∃ vm' ts, QP p vm vm' ∧ Good p c R.rid vm' ∧ vm'.ip = (pc' : Int) ∧ Pres vm vm' a (tgt :: ts) ∧
      Holds vm'.data a tgt n ∧ ∀ t ∈ ts, tempOK e live t = true := by
  obtain ⟨vm', ts, s1, r⟩ :=
    eval_simple hc he hg hst (.of_eq hip) hfo hcv (hcl.bound hip hhi) hv
  exact ⟨vm', ts, s1.qp hv.scost_pos, r⟩

theorem do_call_q {src : Source} {V : Valid src p} (hc : CertOK p c R) (hV : V.OK) {r : Nat}
    (hr : r ≤ src.progs.length) {vm : VM} (hg : Good p c R.rid vm) {a : Act} {rest : List Act}
    (hst : vm.stack = a :: rest) {pc1 hi : Nat} (hip : vm.ip = (pc1 : Int))
    (hcl : Clean p.code pc1 hi) {f : Name}
    {live temps : List Int} {tgt : Int} {pc' : Nat}
    (hct : CallTail (V.env r) f live temps pc1 tgt pc') (hhi : pc' ≤ hi) {vals : List Nat}
    (hh : HoldAll (Holds vm.data a) temps vals) :
    ∃ j pd, lookupProg src f r = some (j, pd) ∧ j < r ∧ src.progs[j]? = some pd ∧
      pd.params.length = vals.length ∧
      ∃ vm' callee, QP p vm vm' ∧ Good p c R.rid vm' ∧ vm'.ip = ((V.start j : Nat) : Int) ∧
        vm'.stack = callee :: a :: rest ∧ callee.retAddr = (pc' : Int) ∧ callee.retTarget = tgt ∧
        callee.dbg = (j : Int) ∧ SameBelow vm.data.length vm.data vm'.data ∧
        FrameOK vm'.data callee (V.ri j) (bindParams pd.params vals []) [] := by
  obtain ⟨j, pd, h1, h2, h3, h4, vm', callee, s1, r⟩ :=
    do_call hc hV hr hg hst (.of_eq hip) hct (hcl.bound hip hhi) hh
  exact ⟨j, pd, h1, h2, h3, h4, vm', callee, s1.qp (Nat.succ_pos _), r⟩

end

end Sim
end Theo
