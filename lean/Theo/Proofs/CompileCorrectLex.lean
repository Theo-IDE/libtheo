/-
  C01 (end to end): the texts of the tokens the scanner produces.
  A token of a buffer is a lexeme matched by the rule whose action gave it its kind
  (`lexBuffer_token_rule`); hence (closed facts about the regenerated rule table, re-checked by
  kernel evaluation) a token of kind `ID` is identifier-shaped and a token of kind `TEMP_VAL`
  starts with `#`.  The include splice and the final EOF token keep that (`scan_tokOK`).
-/
import Theo.Proofs.LexIdent

namespace Theo
namespace CompileCorrect

/-- the text invariant of the front end: an `ID` token is identifier-shaped or starts with `#`
    (a renamed macro temporary); a `TEMP_VAL` token (a macro temporary before renaming) starts
    with `#` -/
def TokOK (t : Token) : Prop :=
  (t.kind = Tok.ID → identShape t.text = true ∨ t.text.head? = some 35) ∧
  (t.kind = Tok.TEMP_VAL → t.text.head? = some 35)

def ToksOK (ts : List Token) : Prop := ∀ t ∈ ts, TokOK t

theorem TokOK.of_other {t : Token} (h1 : t.kind ≠ Tok.ID) (h2 : t.kind ≠ Tok.TEMP_VAL) : TokOK t :=
  ⟨fun h => absurd h h1, fun h => absurd h h2⟩

def hashRx : Rx → Bool
  | .seq (.cls rs) _ => allBytes.all (fun c => !inRanges rs c || c == 35)
  | _ => false

theorem hashRx_matches {r : Rx} (h : hashRx r = true) {w : Bytes} (hm : r.Matches w) :
    w.head? = some 35 := by
  match r, h, hm with
  | .seq (.cls rs) b, h, hm =>
    obtain ⟨s, t, rfl, hs, _⟩ := Rx.matches_seq_iff.1 hm
    obtain ⟨c, rfl, hc⟩ := Rx.matches_cls_iff.1 hs
    have := List.all_eq_true.1 h c (mem_allBytes c)
    simp only [hc, Bool.not_true, Bool.false_or, beq_iff_eq] at this
    simp [this]

/-- closed fact about the regenerated table: every rule with action `TEMP_VAL` is `[#] …` -/
theorem tempRules_hash :
    LexGen.rules.all (fun r => r.2 != some Tok.TEMP_VAL || hashRx r.1) = true := by
  decide +kernel

theorem lexBuffer_id (content : Bytes) (t : RawTok) (ht : t ∈ lexBuffer content)
    (hk : t.kind = Tok.ID) : identShape t.text = true := by
  obtain ⟨i, ⟨r, a⟩, hr, rfl, hm⟩ := lexBuffer_token_rule ht
  rw [hk] at hr
  exact idRules_matches hr hm

theorem lexBuffer_temp (content : Bytes) (t : RawTok) (ht : t ∈ lexBuffer content)
    (hk : t.kind = Tok.TEMP_VAL) : t.text.head? = some 35 := by
  obtain ⟨i, ⟨r, a⟩, hr, rfl, hm⟩ := lexBuffer_token_rule ht
  rw [hk] at hr
  have := List.all_eq_true.1 tempRules_hash _ (List.mem_of_getElem? hr)
  simp only [bne_self_eq_false, Bool.false_or] at this
  exact hashRx_matches this hm

theorem scanFile_tokOK (fs : Files) (d : Nat) (active : List Bytes) (fname content : Bytes) :
    ToksOK (scanFile d fs active fname content).toks := by
  intro t ht
  obtain ⟨r, ⟨c, hr⟩, hk, hx, _⟩ := (scanFile_raw fs (fun _ r => ∃ c, r ∈ lexBuffer c)
    (fun _ c _ r hr => ⟨c, hr⟩) d active fname content (fun r hr => ⟨content, hr⟩)).1 t ht
  rw [TokOK, hk, hx]
  exact ⟨fun h => Or.inl (lexBuffer_id c r hr h), lexBuffer_temp c r hr⟩

theorem scan_tokOK (fs : Files) (main : Bytes) : ToksOK (scan fs main).toks :=
  scan_toks_ind fs main _ (fun c _ => scanFile_tokOK fs _ _ _ c)
    (TokOK.of_other (by rw [scanEof_kind]; decide) (by rw [scanEof_kind]; decide))

end CompileCorrect
end Theo
