/-
  C01 budget, the factor by width: a bound on `cmeasure` (SemRules.lean) for every configuration
  the reference machine can reach.  `cmeasure` is the size of what is left of the statement list
  in focus (plus the value under evaluation); the focus is always a suffix of a statement list of
  the source (a routine body, the body of a loop), so `cmeasure` never exceeds the *width* of the
  source: the largest `fsize` of a statement list occurring in it.  Pure reference semantics: no
  VM, no validator.
-/
import Theo.Proofs.SemRules
import Theo.Proofs.LoopHalts

namespace Theo
namespace Sim
open Sem
open LoopHalts (stepN stepN_succ)

mutual
def okStmt (W : Nat) : Stmt → Prop
  | .loop _ _ body _ => okStmts W body
  | .while_ _ body _ => okStmts W body
  | .assign _ _ _ => True
  | .mark _ _ => True
  | .goto _ _ => True
  | .ifGoto _ _ _ _ => True
  | .stop _ => True
def okStmts (W : Nat) : Stmts → Prop
  | .nil => True
  | .cons s ss => fsize (.cons s ss) ≤ W ∧ okStmt W s ∧ okStmts W ss
end

def okKont (W : Nat) : Kont → Prop
  | .done => True
  | .loop _ body rest k => okStmts W body ∧ okStmts W rest ∧ okKont W k
  | .while_ _ body rest k => okStmts W body ∧ okStmts W rest ∧ okKont W k

theorem okStmts_fsize {W : Nat} {ss : Stmts} (h : okStmts W ss) : fsize ss ≤ W := by
  cases ss with
  | nil => exact Nat.zero_le _
  | cons s ss => exact h.1

mutual
theorem okStmt_mono {W W' : Nat} (hw : W ≤ W') : ∀ s : Stmt, okStmt W s → okStmt W' s
  | .loop _ _ body _, h | .while_ _ body _, h => okStmts_mono hw body h
  | .assign .., _ | .mark .., _ | .goto .., _ | .ifGoto .., _ | .stop .., _ => trivial
theorem okStmts_mono {W W' : Nat} (hw : W ≤ W') : ∀ ss : Stmts, okStmts W ss → okStmts W' ss
  | .nil, _ => trivial
  | .cons s ss, h => ⟨Nat.le_trans h.1 hw, okStmt_mono hw s h.2.1, okStmts_mono hw ss h.2.2⟩
end

mutual
def stmtWidth : Stmt → Nat
  | .loop _ _ body _ => stmtsWidth body
  | .while_ _ body _ => stmtsWidth body
  | .assign _ _ _ => 0
  | .mark _ _ => 0
  | .goto _ _ => 0
  | .ifGoto _ _ _ _ => 0
  | .stop _ => 0
def stmtsWidth : Stmts → Nat
  | .nil => 0
  | .cons s ss => max (fsize (.cons s ss)) (max (stmtWidth s) (stmtsWidth ss))
end

def progsWidth : List ProgDef → Nat
  | [] => 0
  | pd :: pds => max (stmtsWidth pd.body) (progsWidth pds)

/-- the width of a source: the largest `fsize` of a statement list occurring in it, where
    `fsize ss` = Σ over the statements `s` of `ss` (not of nested bodies) of
    `2` (`+ 1 +` the number of nodes and argument positions of `v` for `x := v`) -/
def srcWidth (src : Source) : Nat := max (stmtsWidth src.main) (progsWidth src.progs)

mutual
theorem okStmt_width : ∀ s : Stmt, okStmt (stmtWidth s) s
  | .loop _ _ body _ | .while_ _ body _ => okStmts_width body
  | .assign .. | .mark .. | .goto .. | .ifGoto .. | .stop .. => trivial
theorem okStmts_width : ∀ ss : Stmts, okStmts (stmtsWidth ss) ss
  | .nil => trivial
  | .cons s ss => by
    have h1 := okStmt_width s
    have h2 := okStmts_width ss
    refine ⟨?_, okStmt_mono ?_ s h1, okStmts_mono ?_ ss h2⟩
    · show _ ≤ max _ _
      exact Nat.le_max_left _ _
    · show _ ≤ max _ (max _ _)
      exact Nat.le_trans (Nat.le_max_left _ _) (Nat.le_max_right _ _)
    · show _ ≤ max _ (max _ _)
      exact Nat.le_trans (Nat.le_max_right _ _) (Nat.le_max_right _ _)
end

structure OkSrc (W : Nat) (src : Source) : Prop where
  main : okStmts W src.main
  progs : ∀ pd ∈ src.progs, okStmts W pd.body

theorem progsWidth_ok : ∀ (pds : List ProgDef) (pd : ProgDef), pd ∈ pds →
    okStmts (progsWidth pds) pd.body
  | [], _, h => nomatch h
  | pd0 :: pds, pd, h => by
    rcases List.mem_cons.1 h with rfl | h
    · exact okStmts_mono (Nat.le_max_left _ _) _ (okStmts_width _)
    · exact okStmts_mono (Nat.le_max_right _ _) _ (progsWidth_ok pds pd h)

theorem okSrc_width (src : Source) : OkSrc (srcWidth src) src :=
  ⟨okStmts_mono (Nat.le_max_left _ _) _ (okStmts_width _),
   fun pd h => okStmts_mono (Nat.le_max_right _ _) _ (progsWidth_ok _ pd h)⟩

theorem OkSrc.body {W : Nat} {src : Source} (h : OkSrc W src) (r : Nat) : okStmts W (bodyOf src r) := by
  unfold bodyOf
  split
  · rename_i pd hpd
    exact h.progs pd (List.mem_of_getElem? hpd)
  · exact h.main

theorem findLabel_ok {W : Nat} (m : Name) : ∀ (ss : Stmts) (K : Kont),
    okStmts W ss → okKont W K → ∀ f k, findLabel m ss K = some (f, k) →
    okStmts W f ∧ okKont W k :=
  findLabel_pres (fun _ _ h => h.2.2) (fun _ _ _ _ _ _ h hk => ⟨h.2.1, h.2.1, h.2.2, hk⟩)
    (fun _ _ _ _ _ h hk => ⟨h.2.1, h.2.1, h.2.2, hk⟩) m

theorem findLabelStmt_ok {W : Nat} (m : Name) : ∀ (s : Stmt) (rest : Stmts) (K : Kont),
    okStmts W (.cons s rest) → okKont W K → ∀ f k, findLabelStmt m s rest K = some (f, k) →
    okStmts W f ∧ okKont W k :=
  fun s rest K h hk f k he => findLabel_ok m (.cons s rest) K h hk f k (by rw [findLabel, he])

/-- the `fmeasure` a frame has or will have when it is (again) the top of the stack -/
def fbound (fr : Frame) : Nat :=
  match fr.ctrl with
  | .run => fsize fr.focus
  | .eval v _ cs => vsize v + csize cs + fsize fr.focus + 1
  | .ret _ _ cs => csize cs + fsize fr.focus + 1
  | .wait _ cs => csize cs + fsize fr.focus + 1

structure OkFrame (W : Nat) (fr : Frame) : Prop where
  bound : fbound fr ≤ W
  focus : okStmts W fr.focus
  kont : okKont W fr.k

def OkStack (W : Nat) : List Frame → Prop
  | [] => True
  | fr :: rest => OkFrame W fr ∧ OkStack W rest

theorem fmeasure_le_fbound (fr : Frame) : fmeasure fr ≤ fbound fr := by
  obtain ⟨r, env, ctrs, focus, k, ctrl⟩ := fr
  cases ctrl <;> simp only [fmeasure, fbound] <;> omega

theorem OkStack.cmeasure {W : Nat} {cfg : Config} (h : OkStack W cfg.stack) : cmeasure cfg ≤ W := by
  unfold Sim.cmeasure
  split
  · rename_i fr rest he
    rw [he] at h
    exact Nat.le_trans (fmeasure_le_fbound fr) h.1.bound
  · exact Nat.zero_le _

section
variable {W : Nat} {src : Source} (hsrc : OkSrc W src)
include hsrc

theorem ok_doCall {fr : Frame} {rest : List Frame} (f : Name) (args : List Nat)
    (hfr : OkFrame W fr) (hrest : OkStack W rest) : OkStack W (doCall src fr rest f args).stack := by
  unfold doCall
  split
  · rename_i i pd hl
    split
    · obtain ⟨_, hpd⟩ := LoopHalts.lookupProg_lt hl
      have hb := hsrc.progs pd (List.mem_of_getElem? hpd)
      exact ⟨⟨okStmts_fsize hb, hb, trivial⟩, hfr, hrest⟩
    · exact ⟨hfr, hrest⟩
  · exact ⟨hfr, hrest⟩

theorem ok_jumpTo {fr : Frame} {rest : List Frame} (m : Name) (hfr : OkFrame W fr)
    (hrun : fr.ctrl = .run) (hrest : OkStack W rest) : OkStack W (jumpTo src fr rest m).stack := by
  unfold jumpTo
  split
  · rename_i f k2 he
    obtain ⟨h1, h2⟩ := findLabel_ok m _ .done (hsrc.body fr.routine) trivial f k2 he
    refine ⟨⟨?_, h1, h2⟩, hrest⟩
    simp only [fbound, hrun]
    exact okStmts_fsize h1
  · exact ⟨hfr, hrest⟩

theorem ok_step {cfg : Config} (h : OkStack W cfg.stack) : OkStack W (Sem.step src cfg).stack := by
  obtain ⟨stack, status⟩ := cfg
  cases status with
  | halted => exact h
  | stuck => exact h
  | running =>
  cases stack with
  | nil => exact h
  | cons fr rest =>
  obtain ⟨hfr, hrest⟩ := h
  obtain ⟨hb, hf, hk⟩ := hfr
  have hr := step_rule src fr rest
  generalize Sem.step src ⟨fr :: rest, .running⟩ = cfg' at hr
  cases hr with
  | assign =>
    refine ⟨⟨?_, hf.2.2, hk⟩, hrest⟩
    have hf1 := hf.1
    simp only [fbound, fsize, ssize1, csize] at hf1 ⊢
    omega
  | mark => exact ⟨⟨okStmts_fsize hf.2.2, hf.2.2, hk⟩, hrest⟩
  | loop | while_ =>
    split
    · exact ⟨⟨okStmts_fsize hf.2.1, hf.2.1, hf.2.1, hf.2.2, hk⟩, hrest⟩
    · exact ⟨⟨okStmts_fsize hf.2.2, hf.2.2, hk⟩, hrest⟩
  | goto => exact ok_jumpTo hsrc _ ⟨hb, hf, hk⟩ rfl hrest
  | ifGoto =>
    split
    · exact ok_jumpTo hsrc _ ⟨hb, hf, hk⟩ rfl hrest
    · exact ⟨⟨okStmts_fsize hf.2.2, hf.2.2, hk⟩, hrest⟩
  | endLoop | endWhile =>
    split
    · exact ⟨⟨okStmts_fsize hk.1, hk.1, hk⟩, hrest⟩
    · exact ⟨⟨okStmts_fsize hk.2.1, hk.2.1, hk.2.2⟩, hrest⟩
  | endRet => exact ⟨⟨hrest.1.bound, hrest.1.focus, hrest.1.kont⟩, hrest.2⟩
  | evalSimple _ _ _ _ _ _ _ _ _ _ hv =>
    refine ⟨⟨?_, hf, hk⟩, hrest⟩
    cases hv <;> simp only [fbound, vsize] at hb ⊢ <;> omega
  | evalCallNil | retCall =>
    refine ok_doCall hsrc _ _ ⟨?_, hf, hk⟩ hrest
    simp only [fbound, vsize, vssize, csize] at hb ⊢
    omega
  | evalCallCons | retNil | retMore =>
    refine ⟨⟨?_, hf, hk⟩, hrest⟩
    simp only [fbound, vsize, vssize, csize] at hb ⊢
    omega
  | _ => exact ⟨⟨hb, hf, hk⟩, hrest⟩

theorem ok_initial : OkStack W (initial src).stack :=
  ⟨⟨okStmts_fsize hsrc.main, hsrc.main, trivial⟩, trivial⟩

theorem ok_iter (n : Nat) : OkStack W (stepN src n (initial src)).stack := by
  induction n with
  | zero => exact ok_initial hsrc
  | succ n ih => rw [stepN_succ]; exact ok_step hsrc ih

end

theorem cmeasure_le_width (src : Source) (n : Nat) :
    cmeasure (stepN src n (initial src)) ≤ srcWidth src :=
  (ok_iter (okSrc_width src) n).cmeasure

end Sim
end Theo
