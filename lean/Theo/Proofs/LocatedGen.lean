/-
  C02 (located errors): the generator.
  Every generator error is reported at the current file context `(fsName, fsLine)`, which starts
  at the placeholder and is only changed by `advanceLine` to the position of a visited node.
  So for a predicate `P` on positions that holds for the placeholder, for all parse errors (they
  are copied when the parse failed) and for all nodes of the tree: every error of `gen` is at a
  position satisfying `P`.
-/
import Theo.Proofs.GenWalk

namespace Theo
namespace Loc

def LInv (P : Bytes → Int → Prop) (gs : GS) : Prop :=
  P gs.fsName gs.fsLine ∧ ∀ e ∈ gs.errors, P e.file e.line

def SameL (a b : GS) : Prop :=
  b.fsName = a.fsName ∧ b.fsLine = a.fsLine ∧ b.errors = a.errors

theorem SameL.refl (a : GS) : SameL a a := ⟨rfl, rfl, rfl⟩

theorem SameL.trans {a b c : GS} (h1 : SameL a b) (h2 : SameL b c) : SameL a c :=
  ⟨h2.1.trans h1.1, h2.2.1.trans h1.2.1, h2.2.2.trans h1.2.2⟩

section
variable {P : Bytes → Int → Prop} {gs : GS}

theorem LInv.err (h : LInv P gs) (k : Nat) : LInv P (gs.err k) := by
  refine ⟨h.1, fun e he => ?_⟩
  rcases List.mem_append.1 he with h1 | h1
  · exact h.2 e h1
  · rw [List.mem_singleton.1 h1]; exact h.1

theorem LInv.breakpoint (h : LInv P gs) : LInv P gs.breakpoint := h

theorem LInv.advanceLine (h : LInv P gs) {line : Int} {file : Bytes} (hP : P file line) :
    LInv P (gs.advanceLine line file) := by
  rcases gs.advanceLine_cases line file with e | ⟨_, e⟩ <;> rw [e]
  · exact h
  · exact ⟨hP, h.2⟩

theorem LInv.removeTopPotBreak (h : LInv P gs) : LInv P gs.removeTopPotBreak := by
  unfold GS.removeTopPotBreak
  split
  · dsimp only
    split <;> exact h
  · exact h

theorem LInv.genInv (P : Bytes → Int → Prop) : GenInv P (LInv P) where
  aux _ _ _ _ _ h := h
  err k h := h.err k
  emit _ h := h
  emitBackpatched _ _ h := h
  advanceLine hP h := h.advanceLine hP
  removeTopPotBreak h := h.removeTopPotBreak

theorem LInv.setTop (h : LInv P gs) (f : FGS) : LInv P (gs.setTop f) := h
theorem LInv.popSymbols (h : LInv P gs) (addr : Int) : LInv P (gs.popSymbols addr) :=
  (LInv.genInv P).popSymbols h addr

theorem LInv.dispatchValue (h : LInv P gs) (f : Nat) {n : Node} (hn : NodeP P n) (tgt : Int) :
    LInv P (dispatchValue f gs n tgt) :=
  (LInv.genInv P).dispatchValue h f hn tgt

theorem LInv.backpatch (h : LInv P gs) : LInv P (backpatch gs) :=
  (LInv.genInv P).backpatch (fun _ _ _ _ h => h) (fun h => h) h

theorem gen_errors_P (a : AST) (hd : P ConstGen.rootFsName ConstGen.rootFsLine)
    (he : ∀ e ∈ a.errs, P e.file e.line) (hn : a.ok = true → NodeP P a.root) :
    ∀ e ∈ (gen a).errors, P e.file e.line :=
  ((LInv.genInv P).genState (fun _ _ _ _ h => h) (fun h => h) a
    (fun _ => ⟨hd, fun _ h => nomatch h⟩)
    (fun _ => ⟨hd, fun e hx => by
      obtain ⟨s, hs, rfl⟩ := List.mem_map.1 hx
      exact he s hs⟩) hn).2

end
end Loc
end Theo
