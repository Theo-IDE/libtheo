/-
  Lists kept sorted by `sortedInsert` (Model/Basic.lean): the `std::set`s and `std::map`s of the
  implementation.  First insertion into a set (`replace = false`, any list), then lists of pairs
  sorted by their first component (maps): a key has one value, `find?` reads it, and
  insertion with `replace = true` overwrites it.
-/
import Theo.Model.Basic
import Theo.Proofs.Invariant

namespace Theo

section Set
variable {α : Type} (lt : α → α → Bool)

theorem sortedInsert_cons (r : Bool) (x y : α) (ys : List α) :
    sortedInsert lt r x (y :: ys) =
      if lt x y then x :: y :: ys else if lt y x then y :: sortedInsert lt r x ys
      else if r then x :: ys else y :: ys := rfl

theorem mem_sortedInsert (r : Bool) (x y : α) (l : List α) :
    x ∈ sortedInsert lt r y l → x = y ∨ x ∈ l := by
  induction l with
  | nil => exact fun h => Or.inl (List.mem_singleton.1 h)
  | cons z zs ih =>
    rw [sortedInsert_cons]
    by_cases h1 : lt y z = true
    · rw [if_pos h1]; exact List.mem_cons.1
    · rw [if_neg h1]
      by_cases h2 : lt z y = true
      · rw [if_pos h2]
        intro h
        rcases List.mem_cons.1 h with h | h
        · exact Or.inr (h ▸ List.mem_cons_self)
        · exact (ih h).imp_right (List.mem_cons_of_mem _)
      · rw [if_neg h2]
        cases r
        · exact Or.inr
        · exact fun h => (List.mem_cons.1 h).imp_right (List.mem_cons_of_mem _)

theorem mem_sortedInsert_iff (htri : ∀ a b, lt a b = false → lt b a = false → a = b) (x y : α)
    (l : List α) : y ∈ sortedInsert lt false x l ↔ y = x ∨ y ∈ l := by
  induction l with
  | nil => simp [sortedInsert]
  | cons z zs ih =>
    rw [sortedInsert_cons]
    by_cases h1 : lt x z = true
    · rw [if_pos h1]; exact List.mem_cons
    · rw [if_neg h1]
      by_cases h2 : lt z x = true
      · rw [if_pos h2, List.mem_cons, ih, List.mem_cons, or_left_comm]
      · rw [if_neg h2, htri x z (Bool.eq_false_iff.2 h1) (Bool.eq_false_iff.2 h2)]
        exact (or_iff_right_of_imp (fun h => h ▸ List.mem_cons_self)).symm

theorem length_sortedInsert (htri : ∀ a b, lt a b = false → lt b a = false → a = b) (x : α) :
    ∀ l : List α, x ∉ l → (sortedInsert lt false x l).length = l.length + 1
  | [], _ => rfl
  | z :: zs, hx => by
    rw [sortedInsert_cons]
    by_cases h1 : lt x z = true
    · rw [if_pos h1]; rfl
    · rw [if_neg h1]
      by_cases h2 : lt z x = true
      · rw [if_pos h2]
        exact congrArg (· + 1) (length_sortedInsert htri x zs fun h => hx (List.mem_cons_of_mem _ h))
      · exact absurd (htri x z (Bool.eq_false_iff.2 h1) (Bool.eq_false_iff.2 h2) ▸ List.mem_cons_self)
          hx

theorem length_foldl_sortedInsert (htri : ∀ a b, lt a b = false → lt b a = false → a = b) :
    ∀ (l acc : List α), l.Nodup → (∀ x ∈ l, x ∉ acc) →
      (l.foldl (fun acc x => sortedInsert lt false x acc) acc).length = acc.length + l.length
  | [], _, _, _ => rfl
  | x :: xs, acc, hnd, hx => by
    obtain ⟨hxs, hnd⟩ := List.nodup_cons.1 hnd
    have hnew : ∀ y ∈ xs, y ∉ sortedInsert lt false x acc := fun y hy hm =>
      (mem_sortedInsert lt _ _ _ _ hm).elim (fun e => hxs (e ▸ hy)) (hx y (List.mem_cons_of_mem _ hy))
    rw [List.foldl_cons, length_foldl_sortedInsert htri xs _ hnd hnew,
      length_sortedInsert lt htri x acc (hx x List.mem_cons_self), List.length_cons,
      Nat.add_right_comm, Nat.add_assoc]

/-- insertion keeps the list sorted, for every relation `R` that `lt` implies; with
    `replace = true` the new element takes the place of one that is neither less nor greater, so
    `R` must not tell those two apart (`hrep`; nothing to show for a total order) -/
theorem pairwise_sortedInsert (R : α → α → Prop) (hR : ∀ a b, lt a b = true → R a b)
    (htr : ∀ a b c, R a b → R b c → R a c) (r : Bool)
    (hrep : r = true → ∀ a b c, lt a b = false → lt b a = false → R b c → R a c) (x : α)
    (l : List α) (h : l.Pairwise R) : (sortedInsert lt r x l).Pairwise R := by
  induction l with
  | nil => exact List.pairwise_singleton _ _
  | cons z zs ih =>
    obtain ⟨hz, hzs⟩ := List.pairwise_cons.1 h
    rw [sortedInsert_cons]
    by_cases h1 : lt x z = true
    · rw [if_pos h1]
      exact List.pairwise_cons.2 ⟨fun a ha => (List.mem_cons.1 ha).elim (fun e => e ▸ hR x z h1)
        (fun ha => htr _ _ _ (hR x z h1) (hz a ha)), h⟩
    · rw [if_neg h1]
      by_cases h2 : lt z x = true
      · rw [if_pos h2]
        exact List.pairwise_cons.2 ⟨fun a ha => (mem_sortedInsert _ _ _ _ _ ha).elim
          (fun e => e ▸ hR z x h2) (hz a), ih hzs⟩
      · rw [if_neg h2]
        cases r with
        | false => exact h
        | true =>
          exact List.pairwise_cons.2 ⟨fun a ha => hrep rfl x z a (Bool.eq_false_iff.2 h1)
            (Bool.eq_false_iff.2 h2) (hz a ha), hzs⟩

theorem sortedInsert_perm (r : Bool) (x : α) : ∀ l : List α, (∀ e ∈ l, lt x e = true ∨ lt e x = true) →
    (sortedInsert lt r x l).Perm (x :: l)
  | [], _ => .refl _
  | y :: ys, h => by
    rw [sortedInsert_cons]
    by_cases h1 : lt x y = true
    · rw [if_pos h1]
    · rw [if_neg h1, if_pos ((h y List.mem_cons_self).resolve_left h1)]
      exact ((sortedInsert_perm r x ys fun e he => h e (List.mem_cons_of_mem _ he)).cons y).trans (.swap x y ys)

theorem sortedInsert_append (r : Bool) (x : α) :
    ∀ l : List α, (∀ e ∈ l, lt x e = false ∧ lt e x = true) → sortedInsert lt r x l = l ++ [x]
  | [], _ => rfl
  | y :: ys, h => by
    rw [sortedInsert_cons, (h y List.mem_cons_self).1, (h y List.mem_cons_self).2,
      sortedInsert_append r x ys fun e he => h e (List.mem_cons_of_mem _ he)]
    rfl

theorem mem_foldl_sortedInsert (htri : ∀ a b, lt a b = false → lt b a = false → a = b)
    (l : List α) : ∀ (acc : List α) (y : α),
      y ∈ l.foldl (fun acc x => sortedInsert lt false x acc) acc ↔ y ∈ acc ∨ y ∈ l := by
  induction l with
  | nil => intro acc y; simp
  | cons x xs ih =>
    intro acc y
    rw [List.foldl_cons, ih, mem_sortedInsert_iff lt htri, List.mem_cons, or_comm (a := y = x),
      or_assoc]

theorem mem_insertionSort (htri : ∀ a b, lt a b = false → lt b a = false → a = b) (l : List α)
    (a : α) : a ∈ insertionSort lt l ↔ a ∈ l :=
  (mem_foldl_sortedInsert lt htri l [] a).trans (by simp)

theorem pairwise_insertionSort (R : α → α → Prop) (hR : ∀ a b, lt a b = true → R a b)
    (htr : ∀ a b c, R a b → R b c → R a c) (l : List α) : (insertionSort lt l).Pairwise R :=
  foldl_preserves (I := (·.Pairwise R)) _
    (fun b a hb => pairwise_sortedInsert lt R hR htr false nofun a b hb) l [] List.Pairwise.nil

end Set

section Map
variable {κ β : Type}

theorem inj_of_nodup_map {α : Type} {f : α → κ} {l : List α} (hn : (l.map f).Nodup) {x y : α}
    (hx : x ∈ l) (hy : y ∈ l) (e : f x = f y) : x = y :=
  have hp : l.Pairwise (fun a b => f a ≠ f b) := List.pairwise_map.1 hn
  List.Pairwise.forall_of_forall_of_flip (R := fun a b => f a = f b → a = b) (fun _ _ _ => rfl)
    (hp.imp fun hne he => absurd he hne) (hp.imp fun hne he => absurd he.symm hne) hx hy e

theorem pairwise_key_unique {r : κ → κ → Prop} (irr : ∀ a, ¬ r a a) {l : List (κ × β)}
    (h : l.Pairwise (fun a b => r a.1 b.1)) {k : κ} {v w : β} (hv : (k, v) ∈ l) (hw : (k, w) ∈ l) :
    v = w :=
  congrArg Prod.snd (inj_of_nodup_map (f := Prod.fst)
    (List.pairwise_map.2 (h.imp fun {a b} hab (e : a.1 = b.1) => irr _ (e ▸ hab))) hv hw rfl)

section
variable [DecidableEq κ]

theorem find_key_some {l : List (κ × β)} {k : κ} {e : κ × β}
    (h : l.find? (fun e => e.1 = k) = some e) : e ∈ l ∧ e.1 = k :=
  ⟨List.mem_of_find?_eq_some h, of_decide_eq_true (List.find?_some (p := fun e : κ × β => e.1 = k) h)⟩

theorem find_key_none {l : List (κ × β)} {k : κ} (h : l.find? (fun e => e.1 = k) = none) :
    ∀ e ∈ l, e.1 ≠ k :=
  fun e he => of_decide_eq_false (Bool.eq_false_iff.2 (List.find?_eq_none.1 h e he))

theorem find?_of_nodup_map {α : Type} {f : α → κ} : ∀ {l : List α}, (l.map f).Nodup →
    ∀ {e : α}, e ∈ l → l.find? (fun x => f x = f e) = some e
  | [], _, _, h => by cases h
  | x :: xs, hn, e, h => by
    rw [List.map_cons, List.nodup_cons] at hn
    rcases List.mem_cons.1 h with rfl | h
    · simp
    · have hne : f x ≠ f e := fun heq => hn.1 (heq ▸ List.mem_map_of_mem (f := f) h)
      rw [List.find?_cons_of_neg (by simpa using hne)]
      exact find?_of_nodup_map hn.2 h

theorem find_key_iff {l : List (κ × β)}
    (huniq : ∀ {k : κ} {v w : β}, (k, v) ∈ l → (k, w) ∈ l → v = w) (k : κ) (v : β) :
    (l.find? (fun e => e.1 = k)).map (·.2) = some v ↔ (k, v) ∈ l := by
  cases hf : l.find? (fun e => e.1 = k) with
  | none => exact ⟨nofun, fun hm => absurd rfl (find_key_none hf _ hm)⟩
  | some e =>
    obtain ⟨he, rfl⟩ := find_key_some hf
    exact ⟨fun hv => Option.some.inj hv ▸ he, fun hm => congrArg some (huniq he hm)⟩

end

variable (ltk : κ → κ → Bool) (irr : ∀ a, ltk a a = false)
  (tr : ∀ a b c, ltk a b = true → ltk b c = true → ltk a c = true)
  (tri : ∀ a b, ltk a b = false → ltk b a = false → a = b)
include irr tr tri

theorem mem_insertKey (k : κ) (v : β) : ∀ l : List (κ × β),
    l.Pairwise (fun a b => ltk a.1 b.1 = true) → ∀ e,
      e ∈ sortedInsert (fun a b => ltk a.1 b.1) true (k, v) l ↔ e = (k, v) ∨ (e ∈ l ∧ e.1 ≠ k)
  | [], _, e => by simp [sortedInsert]
  | y :: ys, hp, e => by
    obtain ⟨hy, hys⟩ := List.pairwise_cons.1 hp
    have hne : ∀ {a b : κ}, ltk a b = true → b ≠ a := fun h e => by
      rw [e, irr] at h; cases h
    rw [sortedInsert_cons, List.mem_cons]
    by_cases h1 : ltk k y.1 = true
    · -- all keys are greater than `k`
      rw [if_pos h1, List.mem_cons]
      have hall : ∀ z ∈ y :: ys, z.1 ≠ k := fun z hz =>
        hne ((List.mem_cons.1 hz).elim (· ▸ h1) fun hz => tr _ _ _ h1 (hy z hz))
      exact or_congr_right ⟨fun h => ⟨List.mem_cons.1 h, hall e h⟩, fun h => List.mem_cons.2 h.1⟩
    · rw [if_neg h1]
      by_cases h2 : ltk y.1 k = true
      · rw [if_pos h2, List.mem_cons, mem_insertKey k v ys hys e]
        have := hne h2
        constructor
        · rintro (rfl | h | ⟨h, hk⟩)
          · exact .inr ⟨.inl rfl, fun e => this e.symm⟩
          · exact .inl h
          · exact .inr ⟨.inr h, hk⟩
        · rintro (h | ⟨rfl | h, hk⟩)
          · exact .inr (.inl h)
          · exact .inl rfl
          · exact .inr (.inr ⟨h, hk⟩)
      · -- `y` has the key `k` and is replaced; the keys after it are greater
        rw [if_neg h2, if_pos rfl, List.mem_cons]
        have hyk : k = y.1 := tri _ _ (Bool.eq_false_iff.2 h1) (Bool.eq_false_iff.2 h2)
        refine or_congr_right ⟨fun h => ⟨.inr h, hyk ▸ hne (hy e h)⟩, ?_⟩
        rintro ⟨rfl | h, hk⟩
        · exact absurd hyk.symm hk
        · exact h

omit irr in
theorem sorted_insertKey (k : κ) (v : β) (l : List (κ × β))
    (h : l.Pairwise (fun a b => ltk a.1 b.1 = true)) :
    (sortedInsert (fun a b => ltk a.1 b.1) true (k, v) l).Pairwise
      (fun a b => ltk a.1 b.1 = true) :=
  pairwise_sortedInsert (fun a b : κ × β => ltk a.1 b.1) _ (fun _ _ h => h) (fun _ _ _ => tr _ _ _)
    true (fun _ a b c h1 h2 (hbc : ltk b.1 c.1 = true) => tri a.1 b.1 h1 h2 ▸ hbc) _ l h

end Map

end Theo
