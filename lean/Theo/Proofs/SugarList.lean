/-
  C04 (sugar) — list-level facts about the specification `Spec/Sugar.lean`: the one-pass
  `desugarLA` is the iteration of the leftmost step `sugarStep`; on scanner output the lookahead
  condition is vacuous (`desugarLA = desugar`).  No model definitions are used here.
-/
import Theo.Spec.Sugar

namespace Theo
namespace Sugar

def hitOp (op : Bytes) : List Token → Bool
  | a :: b :: c :: e :: _ =>
    decide (a.kind = Tok.ID) && decide (b.kind = Tok.NV_ID) && decide (c.kind = Tok.INT) &&
      decide (e.kind ≤ Tok.WITH) && decide (b.text = op)
  | _ => false

theorem hitOp_iff {op : Bytes} {ts : List Token} :
    hitOp op ts = true ↔ ∃ a b c e rest, ts = a :: b :: c :: e :: rest ∧ a.kind = Tok.ID ∧
      b.kind = Tok.NV_ID ∧ c.kind = Tok.INT ∧ e.kind ≤ Tok.WITH ∧ b.text = op := by
  constructor
  · intro h
    rcases ts with _ | ⟨a, _ | ⟨b, _ | ⟨c, _ | ⟨e, rest⟩⟩⟩⟩ <;> simp [hitOp] at h
    exact ⟨a, b, c, e, rest, rfl, h.1.1.1.1, h.1.1.1.2, h.1.1.2, h.1.2, h.2⟩
  · rintro ⟨a, b, c, e, rest, rfl, h1, h2, h3, h4, h5⟩
    simp [hitOp, h1, h2, h3, h4, h5]

theorem hitOp_ne {op op' : Bytes} {ts : List Token} (hne : op ≠ op') (h : hitOp op ts = true) :
    hitOp op' ts = false := by
  obtain ⟨a, b, c, e, rest, rfl, _, _, _, _, h5⟩ := hitOp_iff.1 h
  simp [hitOp, h5, hne]

/-- the two operators, each with the routine it calls and the line of the standards file that
    says so -/
inductive SugarOp : Bytes → Bytes → Int → Prop
  | inc : SugarOp plus incName 1
  | dec : SugarOp minus decName 2

theorem plus_ne_minus : plus ≠ minus := by decide

theorem hit_cases (ts : List Token) :
    (∃ op name line, SugarOp op name line ∧ hitOp op ts = true) ∨
      (hitOp plus ts = false ∧ hitOp minus ts = false) := by
  cases hp : hitOp plus ts
  · cases hm : hitOp minus ts
    · exact Or.inr ⟨rfl, rfl⟩
    · exact Or.inl ⟨_, _, _, .dec, hm⟩
  · exact Or.inl ⟨_, _, _, .inc, hp⟩

theorem spec_hit {op name : Bytes} {line : Int} (ho : SugarOp op name line) {a b c : Token}
    {rest : List Token} (h : hitOp op (a :: b :: c :: rest) = true) :
    sugarCall a b c = some (call name line a c) ∧ followed rest = true := by
  obtain ⟨a', b', c', e, rest', heq, h1, h2, h3, h4, h5⟩ := hitOp_iff.1 h
  injection heq with e1 heq; injection heq with e2 heq; injection heq with e3 heq
  subst e1 e2 e3 heq
  cases ho <;> simp [sugarCall, h1, h2, h3, h5, followed, h4, plus_ne_minus.symm]

theorem spec_miss {a b c : Token} {rest : List Token}
    (hp : hitOp plus (a :: b :: c :: rest) = false) (hm : hitOp minus (a :: b :: c :: rest) = false) :
    sugarCall a b c = none ∨ followed rest = false := by
  cases hf : followed rest with
  | false => exact Or.inr rfl
  | true =>
    left
    rcases rest with _ | ⟨e, rest⟩
    · simp [followed] at hf
    · simp only [followed, decide_eq_true_eq] at hf
      simp only [hitOp, hf, decide_true, Bool.and_true] at hp hm
      unfold sugarCall
      by_cases hk : a.kind = Tok.ID ∧ b.kind = Tok.NV_ID ∧ c.kind = Tok.INT
      · simp only [hk.1, hk.2.1, hk.2.2, decide_true, Bool.true_and, decide_eq_false_iff_not] at hp hm
        simp [hk, hp, hm]
      · simp [hk]

theorem sugar_hit {op name : Bytes} {line : Int} (ho : SugarOp op name line) {a b c : Token}
    {rest : List Token} (h : hitOp op (a :: b :: c :: rest) = true) :
    desugarLA (a :: b :: c :: rest) = call name line a c ++ desugarLA rest ∧
    sugarCountLA (a :: b :: c :: rest) = sugarCountLA rest + 1 ∧
    sugarStep (a :: b :: c :: rest) = some (call name line a c ++ rest) := by
  obtain ⟨h1, h2⟩ := spec_hit ho h
  exact ⟨by rw [desugarLA, h1, h2], by rw [sugarCountLA, h1, h2], by rw [sugarStep, h1, h2]⟩

theorem sugar_miss {t : Token} {tl : List Token}
    (hp : hitOp plus (t :: tl) = false) (hm : hitOp minus (t :: tl) = false) :
    desugarLA (t :: tl) = t :: desugarLA tl ∧ sugarCountLA (t :: tl) = sugarCountLA tl ∧
    sugarStep (t :: tl) = (sugarStep tl).map (t :: ·) := by
  rcases tl with _ | ⟨b, _ | ⟨c, rest⟩⟩
  · simp [desugarLA, sugarCountLA, sugarStep]
  · simp [desugarLA, sugarCountLA, sugarStep]
  · rw [desugarLA, sugarCountLA, sugarStep]
    rcases spec_miss hp hm with h | h <;> rw [h]
    · exact ⟨rfl, rfl, rfl⟩
    · cases sugarCall t b c <;> exact ⟨rfl, rfl, rfl⟩

theorem hitOp_first_ne {op : Bytes} {t : Token} {tl : List Token} (h : t.kind ≠ Tok.ID) :
    hitOp op (t :: tl) = false := by
  rcases tl with _ | ⟨b, _ | ⟨c, _ | ⟨e, rest⟩⟩⟩ <;> simp [hitOp, h]

theorem hitOp_second_ne {op : Bytes} {t b : Token} {tl : List Token} (h : b.kind ≠ Tok.NV_ID) :
    hitOp op (t :: b :: tl) = false := by
  rcases tl with _ | ⟨c, _ | ⟨e, rest⟩⟩ <;> simp [hitOp, h]

theorem hitOp_third_ne {op : Bytes} {t b c : Token} {tl : List Token} (h : c.kind ≠ Tok.INT) :
    hitOp op (t :: b :: c :: tl) = false := by
  rcases tl with _ | ⟨e, rest⟩ <;> simp [hitOp, h]

theorem hitOp_fourth {op : Bytes} {t b c e e' : Token} {tl tl' : List Token}
    (h : decide (e.kind ≤ Tok.WITH) = decide (e'.kind ≤ Tok.WITH)) :
    hitOp op (t :: b :: c :: e :: tl) = hitOp op (t :: b :: c :: e' :: tl') := by
  simp only [hitOp, h]

theorem stdTok_kind_ne {k k' : Nat} (h : k ≠ k') (text : Bytes) (line : Int) :
    (stdTok k text line).kind ≠ k' := h

/-- a recursion over the stream that passes over a token where no occurrence starts passes over a
    call: none of its seven tokens starts one, whatever `id`, `int` and the stream behind are -/
theorem skip_call {β : Type} (f : List Token → β) (g : Token → β → β)
    (hmiss : ∀ t tl, hitOp plus (t :: tl) = false → hitOp minus (t :: tl) = false →
      f (t :: tl) = g t (f tl))
    (name : Bytes) (line : Int) (a c : Token) (rest : List Token) :
    f (call name line a c ++ rest) = (call name line a c).foldr g (f rest) := by
  have s1 : ∀ {t : Token} {tl : List Token}, t.kind ≠ Tok.ID → f (t :: tl) = g t (f tl) :=
    fun h => hmiss _ _ (hitOp_first_ne h) (hitOp_first_ne h)
  have s2 : ∀ {t b : Token} {tl : List Token}, b.kind ≠ Tok.NV_ID →
      f (t :: b :: tl) = g t (f (b :: tl)) :=
    fun h => hmiss _ _ (hitOp_second_ne h) (hitOp_second_ne h)
  simp only [call, List.cons_append, List.nil_append, List.foldr_cons, List.foldr_nil]
  rw [s1 (stdTok_kind_ne (by decide) _ _), s2 (stdTok_kind_ne (by decide) _ _),
    s1 (stdTok_kind_ne (by decide) _ _), s2 (stdTok_kind_ne (by decide) _ _),
    s1 (stdTok_kind_ne (by decide) _ _), s2 (stdTok_kind_ne (by decide) _ _),
    s1 (stdTok_kind_ne (by decide) _ _)]

theorem desugarLA_call (name : Bytes) (line : Int) (a c : Token) (rest : List Token) :
    desugarLA (call name line a c ++ rest) = call name line a c ++ desugarLA rest :=
  skip_call desugarLA List.cons (fun _ _ hp hm => (sugar_miss hp hm).1) name line a c rest

theorem sugarCountLA_call (name : Bytes) (line : Int) (a c : Token) (rest : List Token) :
    sugarCountLA (call name line a c ++ rest) = sugarCountLA rest :=
  skip_call sugarCountLA (fun _ n => n) (fun _ _ hp hm => (sugar_miss hp hm).2.1) name line a c rest

theorem sugarStep_cases {ts ts' : List Token} (h : sugarStep ts = some ts') :
    (∃ name line a b c e rest, ts = a :: b :: c :: e :: rest ∧ ts' = call name line a c ++ e :: rest ∧
        a.kind = Tok.ID ∧ e.kind ≤ Tok.WITH ∧
        desugarLA ts = call name line a c ++ desugarLA (e :: rest) ∧
        sugarCountLA ts = sugarCountLA (e :: rest) + 1) ∨
    (∃ t tl tl', ts = t :: tl ∧ ts' = t :: tl' ∧ sugarStep tl = some tl' ∧
        hitOp plus ts = false ∧ hitOp minus ts = false) := by
  rcases hit_cases ts with ⟨op, name, line, ho, hh⟩ | ⟨hp, hm⟩
  · left
    obtain ⟨a, b, c, e, rest, rfl, h1, _, _, h4, _⟩ := hitOp_iff.1 hh
    obtain ⟨hd, hc, hs⟩ := sugar_hit ho hh
    rw [hs] at h
    exact ⟨name, line, a, b, c, e, rest, rfl, (Option.some.inj h).symm, h1, h4, hd, hc⟩
  · right
    rcases ts with _ | ⟨t, tl⟩
    · cases h
    · rw [(sugar_miss hp hm).2.2] at h
      obtain ⟨tl', hs, rfl⟩ := Option.map_eq_some_iff.1 h
      exact ⟨t, tl, tl', rfl, rfl, hs, hp, hm⟩

/-- the window argument: a step further right does not create an occurrence at the head -/
theorem hitOp_step {op : Bytes} {t : Token} {tl tl' : List Token} (hs : sugarStep tl = some tl')
    (h : hitOp op (t :: tl) = false) : hitOp op (t :: tl') = false := by
  rcases sugarStep_cases hs with ⟨name, line, a, b, c, e, rest, rfl, rfl, _⟩ | ⟨q, tl2, tl2', rfl, rfl, hs2, _⟩
  · exact hitOp_second_ne (stdTok_kind_ne (by decide) _ _)
  rcases sugarStep_cases hs2 with ⟨name, line, a, b, c, e, rest, rfl, rfl, _⟩ | ⟨r, tl3, tl3', rfl, rfl, hs3, _⟩
  · exact hitOp_third_ne (stdTok_kind_ne (by decide) _ _)
  rcases sugarStep_cases hs3 with ⟨name, line, a, b, c, e, rest, rfl, rfl, ha, _⟩ | ⟨s, tl4, tl4', rfl, rfl, _, _⟩
  · rw [← h]
    exact hitOp_fourth (by rw [ha]; rfl)
  · rw [← h]
    exact hitOp_fourth rfl

theorem sugarStep_none {ts : List Token} (h : sugarStep ts = none) :
    desugarLA ts = ts ∧ sugarCountLA ts = 0 := by
  induction ts with
  | nil => simp [desugarLA, sugarCountLA]
  | cons t tl ih =>
    rcases hit_cases (t :: tl) with ⟨op, name, line, ho, hh⟩ | ⟨hp, hm⟩
    · obtain ⟨a, b, c, e, rest, heq, _⟩ := hitOp_iff.1 hh
      rw [heq] at hh h
      rw [(sugar_hit ho hh).2.2] at h
      cases h
    · obtain ⟨hd, hc, hs⟩ := sugar_miss hp hm
      rw [hs, Option.map_eq_none_iff] at h
      rw [hd, hc, (ih h).1, (ih h).2]
      exact ⟨rfl, rfl⟩

theorem sugarStep_some {ts ts' : List Token} (h : sugarStep ts = some ts') :
    desugarLA ts' = desugarLA ts ∧ sugarCountLA ts = sugarCountLA ts' + 1 := by
  induction ts generalizing ts' with
  | nil => simp [sugarStep] at h
  | cons t0 tl0 ih =>
    rcases sugarStep_cases h with ⟨name, line, a, b, c, e, rest, heq, rfl, _, _, hd, hc⟩ |
      ⟨t, tl, tl', heq, rfl, hs, hp, hm⟩
    · rw [hd, hc, desugarLA_call, sugarCountLA_call]
      exact ⟨rfl, rfl⟩
    · injection heq with e1 e2
      subst e1 e2
      obtain ⟨hd, hc, _⟩ := sugar_miss hp hm
      obtain ⟨hd', hc', _⟩ := sugar_miss (hitOp_step hs hp) (hitOp_step hs hm)
      rw [hd, hc, hd', hc', (ih hs).1, (ih hs).2]
      exact ⟨rfl, rfl⟩

theorem sugarIter_spec (k : Nat) (ts : List Token) :
    desugarLA (sugarIter k ts) = desugarLA ts ∧
      sugarCountLA (sugarIter k ts) = sugarCountLA ts - k := by
  induction k generalizing ts with
  | zero => exact ⟨rfl, rfl⟩
  | succ k ih =>
    rw [sugarIter]
    cases hs : sugarStep ts with
    | none => exact ⟨rfl, by rw [(sugarStep_none hs).2, Nat.zero_sub]⟩
    | some ts' =>
      obtain ⟨h1, h2⟩ := sugarStep_some hs
      obtain ⟨i1, i2⟩ := ih ts'
      exact ⟨i1.trans h1, by rw [i2, h2]; omega⟩

theorem sugarIter_eq (k : Nat) (ts : List Token) (h : sugarCountLA ts ≤ k) :
    sugarIter k ts = desugarLA ts := by
  obtain ⟨h1, h2⟩ := sugarIter_spec k ts
  -- no occurrence is left, so no step is possible, and such a stream is its own desugaring
  cases hs : sugarStep (sugarIter k ts) with
  | none => rw [← h1, (sugarStep_none hs).1]
  | some x => have := (sugarStep_some hs).2; omega

theorem sugarIter_count (k : Nat) (ts : List Token) (h : k ≤ sugarCountLA ts) :
    sugarCountLA (sugarIter k ts) + k = sugarCountLA ts ∧ desugarLA (sugarIter k ts) = desugarLA ts :=
  ⟨by have := (sugarIter_spec k ts).2; omega, (sugarIter_spec k ts).1⟩

/-- suffix-closed form of `Scanned`: scanner kinds only, and the last token is no integer -/
def Tame (ts : List Token) : Prop :=
  (∀ t ∈ ts, t.kind ≤ Tok.WITH) ∧ ∀ t, ts.getLast? = some t → t.kind ≠ Tok.INT

theorem Tame.tail {t : Token} {tl : List Token} (h : Tame (t :: tl)) : Tame tl := by
  refine ⟨fun x hx => h.1 x (List.mem_cons_of_mem _ hx), fun x hx => h.2 x ?_⟩
  cases tl with
  | nil => cases hx
  | cons b tl => rw [List.getLast?_cons_cons]; exact hx

theorem Scanned.tame {ts : List Token} (h : Scanned ts) : Tame ts := by
  obtain ⟨hk, body, eof, rfl, he⟩ := h
  refine ⟨hk, fun t ht => ?_⟩
  rw [List.getLast?_concat] at ht
  cases ht
  rw [he]; decide

theorem tame_followed {a b c : Token} {rest cl : List Token} (h : Tame (a :: b :: c :: rest))
    (hc : sugarCall a b c = some cl) : followed rest = true := by
  have hk : c.kind = Tok.INT := by
    unfold sugarCall at hc
    by_cases hk : a.kind = Tok.ID ∧ b.kind = Tok.NV_ID ∧ c.kind = Tok.INT
    · exact hk.2.2
    · rw [if_neg hk] at hc; cases hc
  cases rest with
  | nil => exact absurd hk (h.2 c rfl)
  | cons e rest =>
    have := h.1 e (by simp)
    simp [followed, this]

theorem desugarLA_eq_of_tame (ts : List Token) (ht : Tame ts) :
    desugarLA ts = desugar ts ∧ sugarCountLA ts = sugarCount ts := by
  induction ts using desugar.induct with
  | case1 a b c rest cl hc ih =>
    rw [desugarLA, desugar, sugarCountLA, sugarCount, hc, tame_followed ht hc,
      (ih ht.tail.tail.tail).1, (ih ht.tail.tail.tail).2]
    exact ⟨rfl, rfl⟩
  | case2 a b c rest hc ih =>
    rw [desugarLA, desugar, sugarCountLA, sugarCount, hc, (ih ht.tail).1, (ih ht.tail).2]
    exact ⟨rfl, rfl⟩
  | case3 a tl hs ih =>
    -- the four equations for a stream of fewer than three tokens ask for `hs`
    rw [desugarLA, desugar, sugarCountLA, sugarCount, (ih ht.tail).1, (ih ht.tail).2]
    · exact ⟨rfl, rfl⟩
    all_goals exact hs
  | case4 => exact ⟨rfl, rfl⟩

theorem desugarLA_eq {ts : List Token} (h : Scanned ts) :
    desugarLA ts = desugar ts ∧ sugarCountLA ts = sugarCount ts :=
  desugarLA_eq_of_tame ts h.tame

end Sugar
end Theo
