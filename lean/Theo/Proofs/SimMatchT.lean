/-
  Site-aware position relations (exact positions: where the breakpoint sites are and where they
  are not) and the simulation relation built on them: the relations of SimShape.lean,
  SimMatch.lean and SimStep.lean with a `T` in their names (`SAt`/`TAt`, `Match`/`MatchT`, …),
  in which every position is the `ip` itself and not a position up to sites.
-/
import Theo.Proofs.SimSitesPassed
import Theo.Proofs.SimStep

namespace Theo
namespace Sim
open Sem WF

def SiteAt (p : Program) (σ : Nat) (pos : Pos) : Prop :=
  p.code[σ]? = some Instr.potBreak ∧ (p.lineAt (σ : Int)).map posOfBp = some pos

mutual
/-- statement `s` visited through the site at `σ`, its code right behind it; `pc'` is the cursor
    of what follows (`nxt` = the line of the following statement: a mark shares its site with a
    statement on its own line) -/
def TAt1 (p : Program) (e : VEnv) (G : Walk) : Stmt → Option Pos → Nat → Nat → Prop
  | .assign x v _, _, σ, pc' => ∃ rx, e.me.regOf x = some rx ∧
      checkValue e v [] (σ + 1) = some (rx, pc') ∧ Clean p.code (σ + 1) pc'
  | .mark _ q, nxt, σ, pc' => pc' = if nxt = some q then σ else σ + 1
  | .loop id x body _, _, σ, pc' => ∃ ctr rx offE offL pcB,
      e.me.ctrOf id = some ctr ∧ e.me.regOf x = some rx ∧
      p.code[σ + 1]? = some (.add ctr rx 0) ∧ p.code[σ + 2]? = some (.jmpc offE ctr) ∧
      TAt p e G body (σ + 3) pcB ∧
      p.code[pcB]? = some (.add ctr ctr (-1)) ∧ p.code[pcB + 1]? = some (.jmp offL) ∧
      ((pcB + 1 : Nat) : Int) + offL = ((σ + 2 : Nat) : Int) ∧
      ((σ + 2 : Nat) : Int) + offE = ((pcB + 2 : Nat) : Int) ∧ pc' = pcB + 2
  | .while_ x body _, _, σ, pc' => ∃ rx tmp offE offL pcB,
      e.me.regOf x = some rx ∧ e.me.isNamed tmp = false ∧
      p.code[σ + 1]? = some (.add tmp rx 0) ∧ p.code[σ + 2]? = some (.jmpc offE tmp) ∧
      TAt p e G body (σ + 3) pcB ∧
      p.code[pcB]? = some (.jmp offL) ∧
      ((pcB : Nat) : Int) + offL = ((σ + 1 : Nat) : Int) ∧
      ((σ + 2 : Nat) : Int) + offE = ((pcB + 1 : Nat) : Int) ∧ pc' = pcB + 1
  | .goto m _, _, σ, pc' => ∃ off, p.code[σ + 1]? = some (.jmp off) ∧
      (σ + 1, off, m) ∈ G.gotos ∧ pc' = σ + 2
  | .ifGoto x cst m _, _, σ, pc' => ∃ rx t1 t2 t0 off, e.me.regOf x = some rx ∧
      p.code[σ + 1]? = some (.add t1 rx 0) ∧ e.me.isNamed t1 = false ∧
      p.code[σ + 2]? = some (.const t2 (cst : Int)) ∧ e.me.isNamed t2 = false ∧ t2 ≠ t1 ∧
      cst < WORD_MAX ∧
      p.code[σ + 3]? = some (.test t0 t1 t2) ∧ e.me.isNamed t0 = false ∧
      p.code[σ + 4]? = some (.jmpc off t0) ∧
      (σ + 4, off, m) ∈ G.gotos ∧ pc' = σ + 5
  | .stop _, _, σ, pc' => p.code[σ + 1]? = some .halt ∧ pc' = σ + 2
def TAt (p : Program) (e : VEnv) (G : Walk) : Stmts → Nat → Nat → Prop
  | .nil, σ, pcEnd => σ = pcEnd
  | .cons s ss, σ, pcEnd => SiteAt p σ s.pos ∧
      ∃ pc', TAt1 p e G s ss.headPos σ pc' ∧ TAt p e G ss pc' pcEnd
end

def TKAt (p : Program) (e : VEnv) (G : Walk) : Kont → Nat → Nat → Prop
  | .done, σ, pcEnd => σ = pcEnd
  | .loop id body rest k, σ, pcEnd => ∃ ctr offE offL pJ pcR,
      e.me.ctrOf id = some ctr ∧ p.code[pJ]? = some (.jmpc offE ctr) ∧
      TAt p e G body (pJ + 1) σ ∧
      p.code[σ]? = some (.add ctr ctr (-1)) ∧ p.code[σ + 1]? = some (.jmp offL) ∧
      ((σ + 1 : Nat) : Int) + offL = (pJ : Int) ∧ (pJ : Int) + offE = ((σ + 2 : Nat) : Int) ∧
      TAt p e G rest (σ + 2) pcR ∧ TKAt p e G k pcR pcEnd
  | .while_ x body rest k, σ, pcEnd => ∃ rx tmp offE offL pL pcR,
      e.me.regOf x = some rx ∧ e.me.isNamed tmp = false ∧
      p.code[pL]? = some (.add tmp rx 0) ∧ p.code[pL + 1]? = some (.jmpc offE tmp) ∧
      TAt p e G body (pL + 2) σ ∧
      p.code[σ]? = some (.jmp offL) ∧
      (σ : Int) + offL = (pL : Int) ∧ ((pL + 1 : Nat) : Int) + offE = ((σ + 1 : Nat) : Int) ∧
      TAt p e G rest (σ + 1) pcR ∧ TKAt p e G k pcR pcEnd

def TRes (p : Program) (e : VEnv) (G : Walk) (body : Stmts) (pcEnd : Nat) : Prop :=
  ∀ pos off m, (pos, off, m) ∈ G.gotos → ∃ ss' K' pcE, findLabel m body .done = some (ss', K') ∧
    ∃ tgt : Nat, (pos : Int) + off = (tgt : Int) ∧ TAt p e G ss' tgt pcE ∧ TKAt p e G K' pcE pcEnd

/-- what `siteCheck` adds to `shapeCheck`: `tend r` is the position of routine `r`'s `RET`
    (the final `HALT` for the root) -/
structure TValid {src : Source} {p : Program} (V : Valid src p) (tend : Nat → Nat) : Prop where
  body : ∀ r, r ≤ src.progs.length →
    TAt p (V.env r) (V.G r) (bodyOf src r) (V.start r) (tend r)
  res : ∀ r, r ≤ src.progs.length → TRes p (V.env r) (V.G r) (bodyOf src r) (tend r)
  ret : ∀ r, r < src.progs.length → ∃ pd ro, src.progs[r]? = some pd ∧
    p.code[tend r]? = some (.ret ro) ∧ (V.ri r).regOf pd.out = some ro
  halt : p.code[tend src.progs.length]? = some .halt
  skips : SkipsS p.code 0 src.progs.length 1 (V.start src.progs.length)

def FrameAtT (p : Program) (e : VEnv) (G : Walk) (tend : Nat) (H : Int → Nat → Prop) (fr : Frame)
    (ip : Nat) (rt : Int) : Prop :=
  match fr.ctrl with
  | .run => ∃ pcE, TAt p e G fr.focus ip pcE ∧ TKAt p e G fr.k pcE tend
  | .eval v x cs => ∃ live tgt pc' pcS pcE, checkValue e v live ip = some (tgt, pc') ∧
      CtxAt e H cs x live tgt pc' pcS ∧ Clean p.code ip pcS ∧
      TAt p e G fr.focus pcS pcE ∧ TKAt p e G fr.k pcE tend
  | .ret n x cs => ∃ live tgt pcS pcE, H tgt n ∧ CtxAt e H cs x live tgt ip pcS ∧
      Clean p.code ip pcS ∧ TAt p e G fr.focus pcS pcE ∧ TKAt p e G fr.k pcE tend
  | .wait x cs => ∃ live pcS pcE, CtxAt e H cs x live rt ip pcS ∧ Clean p.code ip pcS ∧
      TAt p e G fr.focus pcS pcE ∧ TKAt p e G fr.k pcE tend

theorem FrameAtT.mono {p : Program} {e : VEnv} {G : Walk} {tend : Nat} {H H' : Int → Nat → Prop}
    {fr : Frame} {ip : Nat} {rt : Int} (h : FrameAtT p e G tend H fr ip rt)
    (hm : ∀ t n, H t n → H' t n) : FrameAtT p e G tend H' fr ip rt := by
  obtain ⟨r, env, ctrs, focus, k, ctrl⟩ := fr
  cases ctrl with
  | run => exact h
  | eval v x cs =>
    obtain ⟨live, tgt, pc', pcS, pcE, h1, h2, h3, h4, h5⟩ := h
    exact ⟨live, tgt, pc', pcS, pcE, h1, h2.mono hm, h3, h4, h5⟩
  | ret n x cs =>
    obtain ⟨live, tgt, pcS, pcE, h1, h2, h3, h4, h5⟩ := h
    exact ⟨live, tgt, pcS, pcE, hm _ _ h1, h2.mono hm, h3, h4, h5⟩
  | wait x cs =>
    obtain ⟨live, pcS, pcE, h2, h3, h4, h5⟩ := h
    exact ⟨live, pcS, pcE, h2.mono hm, h3, h4, h5⟩

section
variable {src : Source} {p : Program}

def FrameRelT (V : Valid src p) (tend : Nat → Nat) (d : List Int) (fr : Frame) (a : Act) (ip : Nat)
    (rt : Int) : Prop :=
  fr.routine ≤ src.progs.length ∧ a.dbg = (fr.routine : Int) ∧
  FrameOK d a (V.ri fr.routine) (effEnv fr) fr.ctrs ∧
  FrameAtT p (V.env fr.routine) (V.G fr.routine) (tend fr.routine) (Holds d a) fr ip rt

theorem FrameRelT.below {V : Valid src p} {tend : Nat → Nat} {d d' : List Int} {fr : Frame} {a : Act}
    {ip : Nat} {rt : Int} {N : Nat} (h : FrameRelT V tend d fr a ip rt)
    (hN : a.dataStart + a.segSize.toNat ≤ N) (hs : SameBelow N d d') :
    FrameRelT V tend d' fr a ip rt := by
  obtain ⟨h1, h2, h3, h4⟩ := h
  exact ⟨h1, h2, h3.below hN hs, h4.mono (fun _ _ hh => hh.below hN hs)⟩

def StackRelT (V : Valid src p) (tend : Nat → Nat) (d : List Int) :
    List Frame → List Act → Nat → Int → Prop
  | [], _, _, _ => False
  | fr :: frs, as, ip, rt =>
    match as with
    | [] => False
    | a :: as' => FrameRelT V tend d fr a ip rt ∧
      match frs with
      | [] => as' = [] ∧ fr.routine = src.progs.length
      | fr2 :: _ => fr.routine < src.progs.length ∧ isWait fr2 ∧
          ∃ ip2 : Nat, a.retAddr = (ip2 : Int) ∧ StackRelT V tend d frs as' ip2 a.retTarget

def RestRelT (V : Valid src p) (tend : Nat → Nat) (d : List Int) (r : Nat) (a : Act)
    (frs : List Frame) (as' : List Act) : Prop :=
  match frs with
  | [] => as' = [] ∧ r = src.progs.length
  | fr2 :: _ => r < src.progs.length ∧ isWait fr2 ∧
      ∃ ip2 : Nat, a.retAddr = (ip2 : Int) ∧ StackRelT V tend d frs as' ip2 a.retTarget

theorem stackRelT_cons {V : Valid src p} {tend : Nat → Nat} {d : List Int} {fr : Frame}
    {frs : List Frame} {a : Act} {as' : List Act} {ip : Nat} {rt : Int} :
    StackRelT V tend d (fr :: frs) (a :: as') ip rt ↔
      FrameRelT V tend d fr a ip rt ∧ RestRelT V tend d fr.routine a frs as' := by
  cases frs with
  | nil => simp only [StackRelT, RestRelT]
  | cons _ _ => simp only [StackRelT, RestRelT]

theorem stackRelT_inv {V : Valid src p} {tend : Nat → Nat} {d : List Int} {fr : Frame}
    {frs : List Frame} {as : List Act} {ip : Nat} {rt : Int}
    (h : StackRelT V tend d (fr :: frs) as ip rt) :
    ∃ a as', as = a :: as' ∧ FrameRelT V tend d fr a ip rt ∧
      RestRelT V tend d fr.routine a frs as' := by
  cases as with
  | nil => simp only [StackRelT] at h
  | cons a as' => exact ⟨a, as', rfl, stackRelT_cons.1 h⟩

theorem StackRelT.below {V : Valid src p} {tend : Nat → Nat} {d d' : List Int} :
    ∀ {frs : List Frame} {as : List Act} {ip : Nat} {rt : Int} {N : Nat},
    StackRelT V tend d frs as ip rt → Tiles as N → SameBelow N d d' →
    StackRelT V tend d' frs as ip rt := by
  intro frs
  induction frs with
  | nil => intro as ip rt N h _ _; simp only [StackRelT] at h
  | cons fr frs ih =>
    intro as ip rt N h ht hs
    cases as with
    | nil => simp only [StackRelT] at h
    | cons a as' =>
      simp only [StackRelT] at h ⊢
      obtain ⟨_, hsum, ht'⟩ := ht
      refine ⟨h.1.below (by omega) hs, ?_⟩
      cases frs with
      | nil => exact h.2
      | cons fr2 frs' =>
        obtain ⟨g1, g2, ip2, g3, g4⟩ := h.2
        exact ⟨g1, g2, ip2, g3, ih g4 ht' (hs.mono (by omega))⟩

theorem RestRelT.below {V : Valid src p} {tend : Nat → Nat} {d d' : List Int} {r : Nat} {a : Act}
    {frs : List Frame} {as' : List Act} (h : RestRelT V tend d r a frs as')
    (ht : Tiles as' a.dataStart) (hs : SameBelow a.dataStart d d') :
    RestRelT V tend d' r a frs as' := by
  unfold RestRelT at h ⊢
  cases frs with
  | nil => exact h
  | cons fr2 frs' =>
    obtain ⟨g1, g2, ip2, g3, g4⟩ := h
    exact ⟨g1, g2, ip2, g3, g4.below ht hs⟩

theorem StackRelT.agrees {V : Valid src p} (hV : V.OK) {tend : Nat → Nat} {d : List Int} :
    ∀ {frs : List Frame} {as : List Act} {ip : Nat} {rt : Int}, StackRelT V tend d frs as ip rt →
    (∀ fr rest, frs = fr :: rest → effEnv fr = fr.env) → StacksAgree' p d frs as := by
  intro frs
  induction frs with
  | nil => intro as ip rt h _; simp only [StackRelT] at h
  | cons fr frs ih =>
    intro as ip rt h he
    obtain ⟨a, as', rfl, h1, h2⟩ := stackRelT_inv h
    simp only [StacksAgree']
    refine ⟨frameAgrees hV h1.1 h1.2.1 (he fr frs rfl ▸ h1.2.2.1), ?_⟩
    unfold RestRelT at h2
    cases frs with
    | nil => rw [h2.1]; simp only [StacksAgree']
    | cons fr2 frs' =>
      obtain ⟨_, g2, ip2, _, g4⟩ := h2
      exact ih g4 (fun fr' rest' hh => by cases hh; exact effEnv_wait g2)

variable (V : Valid src p) (tend : Nat → Nat) (c : Cert) (R : PcInfo)

structure MatchT (cfg : Config) (vm : VM) : Prop where
  good : Good p c R.rid vm
  run : cfg.status = .running
  rel : ∃ ip : Nat, vm.ip = (ip : Int) ∧ StackRelT V tend vm.data cfg.stack vm.stack ip 0
  top : ∀ fr rest, cfg.stack = fr :: rest → ¬ isWait fr

structure TopCtxT (vm : VM) (r : Nat) (a : Act) (as' : List Act) (rest : List Frame) : Prop where
  good : Good p c R.rid vm
  stk : vm.stack = a :: as'
  rle : r ≤ src.progs.length
  dbg : a.dbg = (r : Int)
  restrel : RestRelT V tend vm.data r a rest as'

variable {V tend c R}

theorem TopCtxT.tiles {vm : VM} {r : Nat} {a : Act} {as' : List Act} {rest : List Frame}
    (T : TopCtxT V tend c R vm r a as' rest) : Tiles as' a.dataStart := by
  have := T.good.tiles
  rw [T.stk] at this
  exact this.2.2

theorem TopCtxT.move {vm : VM} {r : Nat} {a : Act} {as' : List Act} {rest : List Frame}
    (T : TopCtxT V tend c R vm r a as' rest) {vm' : VM} (hg : Good p c R.rid vm')
    (hst : vm'.stack = vm.stack) (hsb : SameBelow a.dataStart vm.data vm'.data) :
    TopCtxT V tend c R vm' r a as' rest :=
  ⟨hg, hst.trans T.stk, T.rle, T.dbg, T.restrel.below T.tiles hsb⟩

theorem TopCtxT.finish {vm : VM} {r : Nat} {a : Act} {as' : List Act} {rest : List Frame}
    (T : TopCtxT V tend c R vm r a as' rest) {ip' : Nat} (hip : vm.ip = (ip' : Int)) {fr' : Frame}
    (hr : fr'.routine = r) (hfo : FrameOK vm.data a (V.ri r) (effEnv fr') fr'.ctrs)
    (hat : FrameAtT p (V.env r) (V.G r) (tend r) (Holds vm.data a) fr' ip' 0)
    (hnw : ¬ isWait fr') : MatchT V tend c R ⟨fr' :: rest, .running⟩ vm := by
  refine ⟨T.good, rfl, ⟨ip', hip, ?_⟩, ?_⟩
  · rw [T.stk]
    show StackRelT V tend vm.data (fr' :: rest) (a :: as') ip' 0
    rw [stackRelT_cons]
    subst hr
    exact ⟨⟨T.rle, T.dbg, hfo, hat⟩, T.restrel⟩
  · intro fr rest' h
    cases h
    exact hnw

theorem MatchT.inv {cfg : Config} {vm : VM} (hm : MatchT V tend c R cfg vm) :
    ∃ fr rest a as', ∃ ip : Nat, cfg = ⟨fr :: rest, .running⟩ ∧
      TopCtxT V tend c R vm fr.routine a as' rest ∧
      vm.ip = (ip : Int) ∧ FrameOK vm.data a (V.ri fr.routine) (effEnv fr) fr.ctrs ∧
      FrameAtT p (V.env fr.routine) (V.G fr.routine) (tend fr.routine) (Holds vm.data a) fr ip 0 ∧
      ¬ isWait fr := by
  obtain ⟨hg, hrun, ⟨ip, ha, hrel⟩, htop⟩ := hm
  obtain ⟨stack, status⟩ := cfg
  simp only at hrun hrel htop
  subst hrun
  cases stack with
  | nil => simp only [StackRelT] at hrel
  | cons fr rest =>
    obtain ⟨a, as', hst, ⟨h1, h2, h3, h4⟩, hr⟩ := stackRelT_inv hrel
    exact ⟨fr, rest, a, as', ip, rfl, ⟨hg, hst, h1, h2, hr⟩, ha, h3, h4, htop fr rest rfl⟩

theorem MatchT.agree (hV : V.OK) {cfg : Config} {vm : VM} (hm : MatchT V tend c R cfg vm)
    (he : ∀ fr rest, cfg.stack = fr :: rest → effEnv fr = fr.env) :
    StacksAgree' p vm.data cfg.stack vm.stack := by
  obtain ⟨ip, _, hrel⟩ := hm.rel
  exact hrel.agrees hV he

end

end Sim
end Theo
