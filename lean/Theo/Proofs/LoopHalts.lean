/-
  Three things.  First what every proof about runs of the reference machine uses, also the
  simulation (Simulation.lean, SimEvents.lean, the SimCount files): `stepN`, the iteration of
  `Sem.step`, with `Sem.run` as its first component (`run_fst`), and reading back a variable or
  counter that was just set; and the equations of `lookupProg` by its bound (`lookupProg_zero`,
  `lookupProg_succ`, `lookupProg_lt`), which SimRegs.lean, StaticSrc.lean and the GenShape files
  use as well.

  Then C16 at source level: LOOP programs — sources that use neither WHILE nor GOTO / IF-GOTO —
  always leave the `running` status of the reference machine, and a LOOP iterates exactly as often
  as its bound says at entry.  The proof is a big-step reading of the small-step machine:
  `RunsTo src r foc foc' s out` says that an activation of routine `r` with state `s = (env, ctrs)`
  and focus `foc` reaches, in EVERY context (continuation and stack beneath), the focus `foc'` with
  state `s'` (`out = some s'`) or leaves `running` (`out = none`).  Totality of `RunsTo` for
  loop-only statement lists is shown by strong induction on the routine index (a callee has a
  smaller index: `lookupProg_lt`), structural induction on statements / values, and induction on
  the hidden loop counter.  Loop ids need NOT be distinct for termination: every statement list
  leaves every counter unchanged or at 0 (`CInv`).

  Last, that the exact iteration count (`loop_iterations`) applies to parsed sources: `stmtsOf`
  never reuses a LOOP's id inside that LOOP's body (`toSource_distinctLoopIds`).
-/
import Theo.Proofs.SemRules
import Theo.Proofs.Invariant

namespace Theo
namespace LoopHalts
open Sem

def stepN (src : Source) : Nat → Config → Config
  | 0, c => c
  | n + 1, c => stepN src n (Sem.step src c)

theorem stepN_add (src : Source) : ∀ (a b : Nat) (c : Config),
    stepN src (a + b) c = stepN src b (stepN src a c)
  | 0, b, c => by rw [Nat.zero_add]; rfl
  | a + 1, b, c => by
    rw [show a + 1 + b = (a + b) + 1 by omega]
    exact stepN_add src a b (Sem.step src c)

theorem stepN_succ (src : Source) (n : Nat) (c : Config) :
    stepN src (n + 1) c = Sem.step src (stepN src n c) := by
  rw [stepN_add src n 1 c]; rfl

theorem step_fixed (src : Source) (c : Config) (h : c.status ≠ .running) : Sem.step src c = c := by
  obtain ⟨stack, status⟩ := c
  cases status with
  | running => exact absurd rfl h
  | halted => rfl
  | stuck => rfl

theorem stepN_fixed (src : Source) {c : Config} (h : c.status ≠ .running) :
    ∀ n, stepN src n c = c
  | 0 => rfl
  | n + 1 => by
    show stepN src n (Sem.step src c) = c
    rw [step_fixed src c h]; exact stepN_fixed src h n

theorem run_fst (src : Source) : ∀ (n : Nat) (c : Config) (a : Nat),
    (Sem.run src n c a).1 = stepN src n c
  | 0, _, _ => rfl
  | n + 1, c, a => by
    unfold Sem.run
    split
    · exact run_fst src n _ _
    · rename_i hne
      exact (stepN_fixed src (fun h => hne h) (n + 1)).symm

/-- `Goes src c (some c')`: `c` reaches `c'`;  `Goes src c none`: `c` leaves `running` -/
def Goes (src : Source) (c : Config) : Option Config → Prop
  | some c' => ∃ n, stepN src n c = c'
  | none => ∃ n, (stepN src n c).status ≠ .running

theorem Goes.refl (src : Source) (c : Config) : Goes src c (some c) := ⟨0, rfl⟩

theorem Goes.stop {src : Source} {c : Config} (h : c.status ≠ .running) : Goes src c none := ⟨0, h⟩

theorem Goes.step {src : Source} {c : Config} {t : Option Config} (h : Goes src (Sem.step src c) t) :
    Goes src c t := by
  cases t <;> (obtain ⟨n, hn⟩ := h; exact ⟨n + 1, hn⟩)

theorem Goes.step_eq {src : Source} {c c1 : Config} {t : Option Config} (e : Sem.step src c = c1)
    (h : Goes src c1 t) : Goes src c t := Goes.step (e ▸ h)

theorem Goes.trans {src : Source} {c c' : Config} {t : Option Config}
    (h1 : Goes src c (some c')) (h2 : Goes src c' t) : Goes src c t := by
  obtain ⟨n, hn⟩ := h1
  cases t <;> (obtain ⟨m, hm⟩ := h2; exact ⟨n + m, by rw [stepN_add, hn]; exact hm⟩)

/-- the machine is deterministic: of two configurations reached from `c`, one reaches the other -/
theorem Goes.total {src : Source} {c A B : Config} (h1 : Goes src c (some A))
    (h2 : Goes src c (some B)) : Goes src A (some B) ∨ Goes src B (some A) := by
  obtain ⟨n1, rfl⟩ := h1
  obtain ⟨n2, rfl⟩ := h2
  rcases Nat.le_total n1 n2 with h | h <;> obtain ⟨k, rfl⟩ := Nat.exists_eq_add_of_le h
  · exact .inl ⟨k, (stepN_add src n1 k c).symm⟩
  · exact .inr ⟨k, (stepN_add src n2 k c).symm⟩

theorem Goes.none_of_some {src : Source} {c c' : Config} (h1 : Goes src c none)
    (h2 : Goes src c (some c')) : Goes src c' none := by
  obtain ⟨n1, h1⟩ := h1
  obtain ⟨n2, rfl⟩ := h2
  rcases Nat.le_total n2 n1 with h | h <;> obtain ⟨k, rfl⟩ := Nat.exists_eq_add_of_le h
  · exact ⟨k, stepN_add src n2 k c ▸ h1⟩
  · exact ⟨0, by rw [stepN_add, stepN_fixed src h1]; exact h1⟩

theorem env_get_set_same (ρ : Env) (x : Name) (v : Nat) : (Env.set ρ x v).get x = v := by
  rw [Env.set, Env.get, assoc_find_same]; rfl

theorem ctrs_get_set_same (κ : Ctrs) (i : Nat) (v : Nat) : (Ctrs.set κ i v).get i = v := by
  rw [Ctrs.set, Ctrs.get, assoc_find_same]; rfl

theorem ctrs_get_set_other (κ : Ctrs) {i j : Nat} (v : Nat) (h : j ≠ i) :
    (Ctrs.set κ i v).get j = κ.get j := by
  rw [Ctrs.set, Ctrs.get, assoc_find_other κ v h]; rfl

theorem go_stop (g : Name) (upto : Nat) (ps : List ProgDef) (i : Nat) (acc : Option (Nat × ProgDef))
    (h : upto ≤ i) : lookupProg.go g upto ps i acc = acc := by
  cases ps with
  | nil => rw [lookupProg.go]
  | cons p ps => rw [lookupProg.go, if_neg (Nat.not_lt.2 h)]

theorem go_succ (g : Name) (k : Nat) : ∀ (ps : List ProgDef) (i : Nat) (acc : Option (Nat × ProgDef)),
    i ≤ k → lookupProg.go g (k + 1) ps i acc =
      match ps[k - i]? with
      | some p => if p.name = g then some (k, p) else lookupProg.go g k ps i acc
      | none => lookupProg.go g k ps i acc
  | [], _, _, _ => by rw [lookupProg.go, lookupProg.go]; rfl
  | q :: ps, i, acc, hi => by
    rcases Nat.eq_or_lt_of_le hi with rfl | hlt
    · rw [Nat.sub_self, lookupProg.go, if_pos (Nat.lt_succ_self _), go_stop _ _ _ _ _ (Nat.le_refl _),
        go_stop g i (q :: ps) i acc (Nat.le_refl _)]
      rfl
    · rw [lookupProg.go, if_pos (Nat.lt_succ_of_lt hlt), lookupProg.go, if_pos hlt,
        show k - i = (k - (i + 1)) + 1 by omega, List.getElem?_cons_succ]
      exact go_succ g k ps (i + 1) _ hlt

theorem lookupProg_zero (src : Source) (f : Name) : lookupProg src f 0 = none :=
  go_stop _ _ _ _ _ (Nat.le_refl _)

theorem lookupProg_succ' (src : Source) (f : Name) (k : Nat) : lookupProg src f (k + 1) =
    match src.progs[k]? with
    | some p => if p.name = f then some (k, p) else lookupProg src f k
    | none => lookupProg src f k :=
  go_succ f k src.progs 0 none (Nat.zero_le _)

theorem lookupProg_succ (src : Source) (k : Nat) (p : ProgDef) (h : src.progs[k]? = some p) (f : Name) :
    lookupProg src f (k + 1) = if p.name = f then some (k, p) else lookupProg src f k := by
  rw [lookupProg_succ', h]

theorem lookupProg_lt {src : Source} {f : Name} {j : Nat} {pd : ProgDef} : ∀ {upto : Nat},
    lookupProg src f upto = some (j, pd) → j < upto ∧ src.progs[j]? = some pd
  | 0, h => by rw [lookupProg_zero] at h; cases h
  | k + 1, h => by
    rw [lookupProg_succ'] at h
    have ih : lookupProg src f k = some (j, pd) → j < k + 1 ∧ src.progs[j]? = some pd :=
      fun h => (lookupProg_lt h).imp_left Nat.lt_succ_of_lt
    split at h
    · rename_i p hp
      split at h
      · cases h; exact ⟨Nat.lt_succ_self _, hp⟩
      · exact ih h
    · exact ih h

mutual
def loStmt : Stmt → Bool
  | .assign _ _ _ => true
  | .mark _ _ => true
  | .loop _ _ body _ => loStmts body
  | .while_ _ _ _ => false
  | .goto _ _ => false
  | .ifGoto _ _ _ _ => false
  | .stop _ => true
def loStmts : Stmts → Bool
  | .nil => true
  | .cons s ss => loStmt s && loStmts ss
end

mutual
def usesIdStmt (i : Nat) : Stmt → Bool
  | .loop id _ body _ => decide (id = i) || usesId i body
  | .while_ _ body _ => usesId i body
  | _ => false
def usesId (i : Nat) : Stmts → Bool
  | .nil => false
  | .cons s ss => usesIdStmt i s || usesId i ss
end

abbrev St := Env × Ctrs

def CInv (u : Nat → Bool) (κ κ' : Ctrs) : Prop :=
  ∀ i, κ'.get i = κ.get i ∨ (u i = true ∧ κ'.get i = 0)

theorem CInv.refl (u : Nat → Bool) (κ : Ctrs) : CInv u κ κ := fun _ => Or.inl rfl

theorem CInv.trans {u1 u2 u : Nat → Bool} {κ κ1 κ2 : Ctrs} (h1 : CInv u1 κ κ1) (h2 : CInv u2 κ1 κ2)
    (hu1 : ∀ i, u1 i = true → u i = true) (hu2 : ∀ i, u2 i = true → u i = true) : CInv u κ κ2 := by
  intro i
  rcases h2 i with e2 | ⟨hu, e2⟩
  · rcases h1 i with e1 | ⟨hu, e1⟩
    · exact Or.inl (e2.trans e1)
    · exact Or.inr ⟨hu1 i hu, e2.trans e1⟩
  · exact Or.inr ⟨hu2 i hu, e2⟩

theorem CInv.of_set {u : Nat → Bool} {κ κ' : Ctrs} {id v : Nat} (h : CInv u (κ.set id v) κ')
    (hu : u id = true) (h0 : κ'.get id = 0) : CInv u κ κ' := by
  intro i
  by_cases hi : i = id
  · exact Or.inr (hi ▸ ⟨hu, h0⟩)
  · rw [← ctrs_get_set_other κ v hi]; exact h i

def OInv (u : Nat → Bool) (s : St) : Option St → Prop
  | none => True
  | some s' => CInv u s.2 s'.2

def RunsTo (src : Source) (r : Nat) (foc foc' : Stmts) (s : St) (out : Option St) : Prop :=
  ∀ (k : Kont) (rest : List Frame),
    Goes src ⟨⟨r, s.1, s.2, foc, k, .run⟩ :: rest, .running⟩
      (out.map fun s' => ⟨⟨r, s'.1, s'.2, foc', k, .run⟩ :: rest, .running⟩)

def EvalsTo (src : Source) (r : Nat) (ρ : Env) (v : Value) (o : Option Nat) : Prop :=
  ∀ (κ : Ctrs) (foc : Stmts) (k : Kont) (x : Name) (cs : List ECtx) (rest : List Frame),
    Goes src ⟨⟨r, ρ, κ, foc, k, .eval v x cs⟩ :: rest, .running⟩
      (o.map fun a => ⟨⟨r, ρ, κ, foc, k, .ret a x cs⟩ :: rest, .running⟩)

def ArgsTo (src : Source) (r : Nat) (ρ : Env) (as : Values) (o : Option (List Nat)) : Prop :=
  ∀ (κ : Ctrs) (foc : Stmts) (k : Kont) (x : Name) (cs : List ECtx) (rest : List Frame)
    (f : Name) (done : List Nat) (n : Nat),
    Goes src ⟨⟨r, ρ, κ, foc, k, .ret n x (⟨f, done, as⟩ :: cs)⟩ :: rest, .running⟩
      (o.map fun vals => doCall src ⟨r, ρ, κ, foc, k, .wait x cs⟩ rest f (done ++ n :: vals))

def CallTo (src : Source) (r : Nat) (f : Name) (args : List Nat) (o : Option Nat) : Prop :=
  ∀ (ρ : Env) (κ : Ctrs) (foc : Stmts) (k : Kont) (x : Name) (cs : List ECtx) (rest : List Frame),
    Goes src (doCall src ⟨r, ρ, κ, foc, k, .wait x cs⟩ rest f args)
      (o.map fun a => ⟨⟨r, ρ, κ, foc, k, .ret a x cs⟩ :: rest, .running⟩)

def Total (src : Source) (r : Nat) : Prop :=
  ∀ ss, loStmts ss = true → ∀ s : St, ∃ out, RunsTo src r ss .nil s out ∧ OInv (fun i => usesId i ss) s out

theorem step_return {src : Source} {i : Nat} {p : ProgDef} (hget : src.progs[i]? = some p)
    (ρ' : Env) (κ' : Ctrs) (r : Nat) (ρ : Env) (κ : Ctrs) (foc : Stmts) (k : Kont) (x : Name)
    (cs : List ECtx) (rest : List Frame) :
    Sem.step src ⟨⟨i, ρ', κ', .nil, .done, .run⟩ :: ⟨r, ρ, κ, foc, k, .wait x cs⟩ :: rest, .running⟩ =
      ⟨⟨r, ρ, κ, foc, k, .ret (ρ'.get p.out) x cs⟩ :: rest, .running⟩ := by
  show (⟨⟨r, ρ, κ, foc, k, .ret (ρ'.get (match src.progs[i]? with | some p => p.out | none => [])) x cs⟩
    :: rest, .running⟩ : Config) = _
  rw [hget]

/-- where a LOOP goes once its counter is set to `n` (at entry: the bound; at the end of the body:
    the counter less one): into the body if `n ≠ 0`, else past the loop -/
def loopCfg (r id : Nat) (body ss : Stmts) (k : Kont) (rest : List Frame) (n : Nat) (s : St) :
    Config :=
  if n ≠ 0 then ⟨⟨r, s.1, s.2.set id n, body, .loop id body ss k, .run⟩ :: rest, .running⟩
  else ⟨⟨r, s.1, s.2.set id n, ss, k, .run⟩ :: rest, .running⟩

theorem step_loop (src : Source) (r id : Nat) (x : Name) (body : Stmts) (pos : Pos) (ss : Stmts)
    (k : Kont) (rest : List Frame) (s : St) :
    Sem.step src ⟨⟨r, s.1, s.2, .cons (.loop id x body pos) ss, k, .run⟩ :: rest, .running⟩ =
      loopCfg r id body ss k rest (s.1.get x) s := rfl

theorem call_total {src : Source} {r : Nat} (hp : ∀ pd ∈ src.progs, loStmts pd.body = true)
    (ih : ∀ i, i < r → Total src i) (f : Name) (args : List Nat) : ∃ o, CallTo src r f args o := by
  cases hl : lookupProg src f r with
  | none =>
    refine ⟨none, fun ρ κ foc k x cs rest => Goes.stop ?_⟩
    show (doCall src _ rest f args).status ≠ .running
    simp only [doCall, hl]
    exact fun h => nomatch h
  | some ip =>
    obtain ⟨i, p⟩ := ip
    obtain ⟨hlt, hget⟩ := lookupProg_lt hl
    by_cases hlen : p.params.length = args.length
    · have hmem : p ∈ src.progs := List.mem_of_getElem? hget
      obtain ⟨out, hrun, _⟩ := ih i hlt p.body (hp p hmem) (bindParams p.params args [], [])
      have hdo : ∀ (fr : Frame) (rest : List Frame), fr.routine = r → doCall src fr rest f args =
          ⟨⟨i, bindParams p.params args [], [], p.body, .done, .run⟩ :: fr :: rest, .running⟩ := by
        intro fr rest hr
        simp only [doCall, hr, hl, hlen, if_true]
      cases out with
      | none =>
        refine ⟨none, fun ρ κ foc k x cs rest => ?_⟩
        rw [hdo _ _ rfl]
        exact hrun .done _
      | some s' =>
        refine ⟨some (s'.1.get p.out), fun ρ κ foc k x cs rest => ?_⟩
        rw [hdo _ _ rfl]
        refine Goes.trans (hrun .done _) ?_
        exact Goes.step_eq (step_return hget _ _ _ _ _ _ _ _ _ _) (Goes.refl _ _)
    · refine ⟨none, fun ρ κ foc k x cs rest => Goes.stop ?_⟩
      show (doCall src _ rest f args).status ≠ .running
      simp only [doCall, hl, hlen, if_false]
      exact fun h => nomatch h

theorem values_induct {P : Value → Prop} {Q : Values → Prop} (var : ∀ y, P (.var y))
    (num : ∀ n, P (.num n)) (inc : ∀ y c, P (.inc y c)) (dec : ∀ y c, P (.dec y c))
    (call : ∀ f as, Q as → P (.call f as)) (nil : Q .nil)
    (cons : ∀ a as, P a → Q as → Q (.cons a as)) : (∀ v, P v) ∧ ∀ as, Q as :=
  ⟨fun v => Value.rec (motive_2 := Q) var num inc dec call nil cons v,
   fun as => Values.rec (motive_1 := P) var num inc dec call nil cons as⟩

section
variable {src : Source} {r : Nat} (hc : ∀ f args, ∃ o, CallTo src r f args o)
include hc

theorem value_total (ρ : Env) : (∀ v : Value, ∃ o, EvalsTo src r ρ v o) ∧
    ∀ as : Values, (∃ o, ArgsTo src r ρ as o) ∧ ∀ f, ∃ o, EvalsTo src r ρ (.call f as) o := by
  apply values_induct
  case var => exact fun y => ⟨some (ρ.get y), fun _ _ _ _ _ _ => Goes.step (Goes.refl _ _)⟩
  case num => exact fun n => ⟨some n, fun _ _ _ _ _ _ => Goes.step (Goes.refl _ _)⟩
  case inc =>
    exact fun y c => ⟨some (addSat (ρ.get y) c), fun _ _ _ _ _ _ => Goes.step (Goes.refl _ _)⟩
  case dec => exact fun y c => ⟨some (ρ.get y - c), fun _ _ _ _ _ _ => Goes.step (Goes.refl _ _)⟩
  case call => exact fun f as ih => ih.2 f
  case nil =>
    refine ⟨⟨some [], fun _ _ _ _ _ _ _ _ _ => Goes.step (Goes.refl _ _)⟩, fun f => ?_⟩
    obtain ⟨o, h⟩ := hc f []
    exact ⟨o, fun κ foc k x cs rest => Goes.step (h ρ κ foc k x cs rest)⟩
  case cons =>
    rintro a as ⟨oa, ha⟩ ⟨⟨oas, has⟩, _⟩
    cases oa with
    | none =>
      exact ⟨⟨none, fun κ foc k x cs rest f done n => Goes.step (ha κ foc k x _ rest)⟩,
        fun f => ⟨none, fun κ foc k x cs rest => Goes.step (ha κ foc k x _ rest)⟩⟩
    | some n' =>
      cases oas with
      | none =>
        exact ⟨⟨none, fun κ foc k x cs rest f done n =>
            Goes.step (Goes.trans (ha κ foc k x _ rest) (has κ foc k x cs rest f (done ++ [n]) n'))⟩,
          fun f => ⟨none, fun κ foc k x cs rest =>
            Goes.step (Goes.trans (ha κ foc k x _ rest) (has κ foc k x cs rest f [] n'))⟩⟩
      | some vals =>
        refine ⟨⟨some (n' :: vals), fun κ foc k x cs rest f done n => ?_⟩, fun f => ?_⟩
        · have h := has κ foc k x cs rest f (done ++ [n]) n'
          have e : (done ++ [n]) ++ n' :: vals = done ++ n :: (n' :: vals) := by simp
          change Goes src _ (some (doCall src _ rest f ((done ++ [n]) ++ n' :: vals))) at h
          rw [e] at h
          exact Goes.step (Goes.trans (ha κ foc k x _ rest) h)
        · obtain ⟨o, hcall⟩ := hc f ([] ++ n' :: vals)
          exact ⟨o, fun κ foc k x cs rest =>
            Goes.step (Goes.trans (ha κ foc k x _ rest)
              (Goes.trans (has κ foc k x cs rest f [] n') (hcall ρ κ foc k x cs rest)))⟩

theorem args_total (ρ : Env) : ∀ as : Values, ∃ o, ArgsTo src r ρ as o :=
  fun as => ((value_total hc ρ).2 as).1

end

/-- one iteration: from a LOOP whose counter was set to `n ≠ 0`, through the body, to the LOOP
    with the counter the body left, less one -/
theorem loopCfg_iter {src : Source} {r id : Nat} {body : Stmts} {n : Nat} {s : St} {o : Option St}
    (h0 : n ≠ 0) (hrun : RunsTo src r body .nil (s.1, s.2.set id n) o) (ss : Stmts) (k : Kont)
    (rest : List Frame) : Goes src (loopCfg r id body ss k rest n s)
      (o.map fun s1 => loopCfg r id body ss k rest (s1.2.get id - 1) s1) := by
  rw [loopCfg, if_pos h0]
  cases o with
  | none => exact hrun _ rest
  | some s1 => exact Goes.trans (hrun _ rest) (Goes.step (Goes.refl _ _))

/-- Induction on a bound `m` of `n`; the body may overwrite the counter (an inner loop with the
    same id), but then it leaves it at 0. -/
theorem loop_runs {src : Source} {r : Nat} (id : Nat) (body ss : Stmts)
    (hb : ∀ s : St, ∃ out, RunsTo src r body .nil s out ∧ OInv (fun i => usesId i body) s out) :
    ∀ (m n : Nat) (s : St), n ≤ m → ∃ out : Option St,
      (∀ (k : Kont) (rest : List Frame), Goes src (loopCfg r id body ss k rest n s)
        (out.map fun s' => ⟨⟨r, s'.1, s'.2, ss, k, .run⟩ :: rest, .running⟩)) ∧
      ∀ s', out = some s' →
        CInv (fun i => decide (id = i) || usesId i body) s.2 s'.2 ∧ s'.2.get id = 0 := by
  have hu : (decide (id = id) || usesId id body) = true := by rw [decide_eq_true rfl]; rfl
  intro m
  induction m with
  | zero =>
    intro n s hn
    cases Nat.le_zero.1 hn
    exact ⟨some (s.1, s.2.set id 0), fun k rest => Goes.refl _ _, fun s' e => by
      cases e
      exact ⟨(CInv.refl _ _).of_set hu (ctrs_get_set_same _ _ _), ctrs_get_set_same _ _ _⟩⟩
  | succ m ih =>
    intro n s hn
    by_cases h0 : n = 0
    · subst h0; exact ih 0 s (Nat.zero_le _)
    · obtain ⟨ob, hrun, hinv⟩ := hb (s.1, s.2.set id n)
      cases ob with
      | none => exact ⟨none, loopCfg_iter h0 hrun ss, nofun⟩
      | some s1 =>
        have hinv : CInv (fun i => usesId i body) (s.2.set id n) s1.2 := hinv
        have hle : s1.2.get id - 1 ≤ m := by
          rcases hinv id with e | ⟨_, e⟩
          · rw [e, ctrs_get_set_same]; omega
          · rw [e]; exact Nat.zero_le _
        obtain ⟨out, hgo, hpost⟩ := ih _ s1 hle
        refine ⟨out, fun k rest => Goes.trans (loopCfg_iter h0 hrun ss k rest) (hgo k rest),
          fun s' e => ?_⟩
        obtain ⟨h1, h2⟩ := hpost s' e
        exact ⟨(CInv.trans hinv h1 (fun i hi => by rw [hi, Bool.or_true]) (fun _ h => h)).of_set hu h2,
          h2⟩

theorem loop_total {src : Source} {r : Nat} (id : Nat) (x : Name) (body : Stmts) (pos : Pos)
    (hb : ∀ s : St, ∃ out, RunsTo src r body .nil s out ∧ OInv (fun i => usesId i body) s out)
    (ss : Stmts) (s : St) :
    ∃ out, RunsTo src r (.cons (.loop id x body pos) ss) ss s out ∧
      OInv (fun i => usesIdStmt i (.loop id x body pos)) s out := by
  obtain ⟨out, hgo, hpost⟩ := loop_runs id body ss hb _ (s.1.get x) s (Nat.le_refl _)
  refine ⟨out, fun k rest => Goes.step_eq (step_loop src r id x body pos ss k rest s) (hgo k rest),
    ?_⟩
  cases out with
  | none => trivial
  | some s' => exact (hpost s' rfl).1

section
variable {src : Source} {r : Nat} (he : ∀ ρ v, ∃ o, EvalsTo src r ρ v o)
include he

theorem runs_total : (∀ s : Stmt, loStmt s = true → ∀ (ss : Stmts) (st : St),
      ∃ out, RunsTo src r (.cons s ss) ss st out ∧ OInv (fun i => usesIdStmt i s) st out) ∧
    Total src r := by
  apply Sim.stmts_induct
  case assign =>
    intro x v pos _ ss st
    obtain ⟨o, ho⟩ := he st.1 v
    cases o with
    | none => exact ⟨none, fun k rest => Goes.step (ho st.2 ss k x [] rest), trivial⟩
    | some n =>
      refine ⟨some (st.1.set x n, st.2), fun k rest => ?_, CInv.refl _ _⟩
      exact Goes.step (Goes.trans (ho st.2 ss k x [] rest) (Goes.step (Goes.refl _ _)))
  case mark =>
    exact fun m pos _ ss st => ⟨some st, fun k rest => Goes.step (Goes.refl _ _), CInv.refl _ _⟩
  case stop =>
    exact fun pos _ ss st =>
      ⟨none, fun k rest => Goes.step (Goes.stop (fun h => nomatch h)), trivial⟩
  case loop => exact fun id x body pos ih h ss st => loop_total id x body pos (ih h) ss st
  case while_ => exact fun _ _ _ _ h => nomatch h
  case goto => exact fun _ _ h => nomatch h
  case ifGoto => exact fun _ _ _ _ h => nomatch h
  case nil => exact fun _ st => ⟨some st, fun k rest => Goes.refl _ _, CInv.refl _ _⟩
  case cons =>
    intro s ss ih1 ih2 h st
    have h' : loStmt s = true ∧ loStmts ss = true := by simpa only [loStmts, Bool.and_eq_true] using h
    obtain ⟨o1, hrun1, hinv1⟩ := ih1 h'.1 ss st
    cases o1 with
    | none => exact ⟨none, fun k rest => hrun1 k rest, trivial⟩
    | some s1 =>
      obtain ⟨o2, hrun2, hinv2⟩ := ih2 h'.2 s1
      cases o2 with
      | none => exact ⟨none, fun k rest => Goes.trans (hrun1 k rest) (hrun2 k rest), trivial⟩
      | some s2 =>
        refine ⟨some s2, fun k rest => Goes.trans (hrun1 k rest) (hrun2 k rest), ?_⟩
        exact CInv.trans (u := fun i => usesId i (.cons s ss)) hinv1 hinv2
          (fun i hi => by simp only [usesId, Bool.or_eq_true]; exact Or.inl hi)
          (fun i hi => by simp only [usesId, Bool.or_eq_true]; exact Or.inr hi)

theorem stmt_total : ∀ s : Stmt, loStmt s = true → ∀ (ss : Stmts) (st : St),
    ∃ out, RunsTo src r (.cons s ss) ss st out ∧ OInv (fun i => usesIdStmt i s) st out :=
  (runs_total he).1

end

theorem routines_total {src : Source} (hp : ∀ pd ∈ src.progs, loStmts pd.body = true) : ∀ r, Total src r := by
  intro r
  induction r using Nat.strongRecOn with
  | _ r ih => exact (runs_total fun ρ => (value_total (call_total hp ih) ρ).1).2

theorem source_halts (src : Source) (hm : loStmts src.main = true)
    (hp : ∀ pd ∈ src.progs, loStmts pd.body = true) :
    ∃ n, (stepN src n (initial src)).status ≠ .running := by
  obtain ⟨out, hrun, _⟩ := routines_total hp src.progs.length src.main hm ([], [])
  cases out with
  | none => exact hrun .done []
  | some s' =>
    obtain ⟨n, hn⟩ := hrun .done []
    refine ⟨n + 1, ?_⟩
    rw [stepN_succ]
    show (Sem.step src (stepN src n ⟨[⟨src.progs.length, [], [], src.main, .done, .run⟩], .running⟩)).status ≠ _
    rw [hn]
    exact fun h => nomatch h

/-- the outcome `some _` of a run to the end of a statement list is unique (run it alone: the
    root reaching its end halts, and a halted machine no longer moves) -/
theorem RunsTo.some_unique {src : Source} {r : Nat} {ss : Stmts} {s a b : St}
    (h1 : RunsTo src r ss .nil s (some a)) (h2 : RunsTo src r ss .nil s (some b)) : a = b := by
  have key : ∀ {a b : St}, Goes src ⟨[⟨r, a.1, a.2, .nil, .done, .run⟩], .running⟩
      (some ⟨[⟨r, b.1, b.2, .nil, .done, .run⟩], .running⟩) → a = b := by
    rintro a b ⟨k, hk⟩
    cases k with
    | zero =>
      injection hk with hst _
      injection hst with hfr _
      injection hfr with _ he hc
      exact Prod.ext he hc
    | succ k =>
      have hh : (Sem.step src ⟨[⟨r, a.1, a.2, .nil, .done, .run⟩], .running⟩).status ≠ .running :=
        fun h => nomatch h
      rw [show stepN src (k + 1) _ = stepN src k (Sem.step src _) from rfl, stepN_fixed src hh] at hk
      exact absurd (congrArg Config.status hk) hh
  exact ((h1 .done []).total (h2 .done [])).elim key fun h => (key h).symm

/-- a caller that loops forever once the callee has returned -/
def spinCaller : Frame :=
  ⟨0, [], [], .cons (.assign [] (.num 1) ([], 0)) .nil, .while_ [] .nil .nil .done, .wait [] []⟩

theorem spin_fix (src : Source) (ρ : Env) :
    Sem.step src ⟨[⟨0, ρ.set [] 1, [], .nil, .while_ [] .nil .nil .done, .run⟩], .running⟩ =
      ⟨[⟨0, ρ.set [] 1, [], .nil, .while_ [] .nil .nil .done, .run⟩], .running⟩ := by
  simp [Sem.step, env_get_set_same]

theorem spin_diverges (src : Source) (r : Nat) (a : St) :
    ∃ D : Config, D.status = .running ∧ Sem.step src D = D ∧
      stepN src 5 ⟨[⟨r, a.1, a.2, .nil, .done, .run⟩, spinCaller], .running⟩ = D :=
  ⟨_, rfl, spin_fix src _, rfl⟩

theorem RunsTo.none_some_absurd {src : Source} {r : Nat} {ss : Stmts} {s a : St}
    (h1 : RunsTo src r ss .nil s none) (h2 : RunsTo src r ss .nil s (some a)) : False := by
  obtain ⟨D, hD, hfix, h5⟩ := spin_diverges src r a
  obtain ⟨n, hn⟩ :=
    ((h1 .done [spinCaller]).none_of_some (h2 .done [spinCaller])).none_of_some ⟨5, h5⟩
  have hDn : ∀ m, stepN src m D = D := by
    intro m
    induction m with
    | zero => rfl
    | succ m ih => show stepN src m (Sem.step src D) = D; rw [hfix]; exact ih
  rw [hDn n] at hn
  exact hn hD

theorem RunsTo.functional {src : Source} {r : Nat} {ss : Stmts} {s : St} {o1 o2 : Option St}
    (h1 : RunsTo src r ss .nil s o1) (h2 : RunsTo src r ss .nil s o2) : o1 = o2 := by
  cases o1 with
  | none =>
    cases o2 with
    | none => rfl
    | some b => exact (RunsTo.none_some_absurd h1 h2).elim
  | some a =>
    cases o2 with
    | none => exact (RunsTo.none_some_absurd h2 h1).elim
    | some b => rw [RunsTo.some_unique h1 h2]

/-- `IterBody src r id body n s out`: `out` is the `n`-fold composition, starting from `s`, of the
    big-step effect of `body` on (env, ctrs) — the hidden counter `id` shows `n, n-1, …, 1` at the
    starts of the iterations; `out = none` when one of the iterations leaves `running` -/
def IterBody (src : Source) (r id : Nat) (body : Stmts) : Nat → St → Option St → Prop
  | 0, s, out => out = some s
  | m + 1, s, out => ∃ o, RunsTo src r body .nil (s.1, s.2.set id (m + 1)) o ∧
      match o with
      | none => out = none
      | some s1 => IterBody src r id body m s1 out

theorem IterBody.functional {src : Source} {r id : Nat} {body : Stmts} :
    ∀ (n : Nat) (s : St) (o1 o2 : Option St),
      IterBody src r id body n s o1 → IterBody src r id body n s o2 → o1 = o2
  | 0, _, _, _, h1, h2 => Eq.trans h1 (Eq.symm h2)
  | m + 1, s, o1, o2, h1, h2 => by
    obtain ⟨oa, ra, ha⟩ := h1
    obtain ⟨ob, rb, hb⟩ := h2
    have := RunsTo.functional ra rb
    subst this
    cases oa with
    | none => exact Eq.trans ha (Eq.symm hb)
    | some s1 => exact IterBody.functional m s1 o1 o2 ha hb

theorem loop_iter {src : Source} (hp : ∀ pd ∈ src.progs, loStmts pd.body = true)
    (r id : Nat) (body ss : Stmts) (hb : loStmts body = true) (hid : usesId id body = false) :
    ∀ (n : Nat) (s : St), ∃ out, IterBody src r id body n s out ∧
      ∀ (k : Kont) (rest : List Frame), Goes src (loopCfg r id body ss k rest n s)
        (out.map fun s' => ⟨⟨r, s'.1, s'.2.set id 0, ss, k, .run⟩ :: rest, .running⟩)
  | 0, s => ⟨some s, rfl, fun _ _ => Goes.refl _ _⟩
  | m + 1, s => by
    obtain ⟨ob, hrun, hinv⟩ := routines_total hp r body hb (s.1, s.2.set id (m + 1))
    cases ob with
    | none => exact ⟨none, ⟨none, hrun, rfl⟩, loopCfg_iter (Nat.succ_ne_zero m) hrun ss⟩
    | some s1 =>
      -- the body leaves the loop's own counter alone
      have hget : s1.2.get id - 1 = m := by
        rcases (hinv : CInv _ _ s1.2) id with e | ⟨hu, _⟩
        · rw [e, ctrs_get_set_same]; rfl
        · exact absurd (hid.symm.trans hu) Bool.false_ne_true
      obtain ⟨out, hiter, hgo⟩ := loop_iter hp r id body ss hb hid m s1
      exact ⟨out, ⟨some s1, hrun, hiter⟩, fun k rest =>
        Goes.trans (loopCfg_iter (Nat.succ_ne_zero m) hrun ss k rest) (by dsimp only; rw [hget]; exact hgo k rest)⟩

/-- a LOOP whose body does not reuse the loop's id runs its body exactly `n` times, where `n` is
    the value of the bound variable at entry -/
theorem loop_iterations {src : Source} (hp : ∀ pd ∈ src.progs, loStmts pd.body = true)
    (r id : Nat) (x : Name) (body : Stmts) (pos : Pos) (ss : Stmts)
    (hb : loStmts body = true) (hid : usesId id body = false) (s : St) :
    ∃ out, IterBody src r id body (s.1.get x) s out ∧
      ∀ (k : Kont) (rest : List Frame),
        Goes src ⟨⟨r, s.1, s.2, .cons (.loop id x body pos) ss, k, .run⟩ :: rest, .running⟩
          (out.map fun s' => ⟨⟨r, s'.1, s'.2.set id 0, ss, k, .run⟩ :: rest, .running⟩) := by
  obtain ⟨out, hiter, hgo⟩ := loop_iter hp r id body ss hb hid (s.1.get x) s
  exact ⟨out, hiter, fun k rest =>
    Goes.step_eq (step_loop src r id x body pos ss k rest s) (hgo k rest)⟩

mutual
def distinctLoopIdsStmt : Stmt → Bool
  | .loop id _ body _ => !usesId id body && distinctLoopIds body
  | .while_ _ body _ => distinctLoopIds body
  | _ => true
def distinctLoopIds : Stmts → Bool
  | .nil => true
  | .cons s ss => distinctLoopIdsStmt s && distinctLoopIds ss
end

theorem usesId_append (i : Nat) : ∀ a b : Stmts, usesId i (a.append b) = (usesId i a || usesId i b)
  | .nil, b => by simp [Stmts.append, usesId]
  | .cons s ss, b => by simp [Stmts.append, usesId, usesId_append i ss b, Bool.or_assoc]

theorem distinctLoopIds_append : ∀ a b : Stmts,
    distinctLoopIds (a.append b) = (distinctLoopIds a && distinctLoopIds b)
  | .nil, b => by simp [Stmts.append, distinctLoopIds]
  | .cons s ss, b => by
    simp [Stmts.append, distinctLoopIds, distinctLoopIds_append ss b, Bool.and_assoc]

/-- what `stmtsOf` guarantees about loop ids: the ids lie in `(n, n']`, no loop reuses its id in
    its body, and the collected program definitions are only extended, by bodies of the same kind -/
def IdSpec (n : Nat) (ps : List ProgDef) (res : Stmts × Nat × List ProgDef) : Prop :=
  n ≤ res.2.1 ∧ (∀ i, usesId i res.1 = true → n < i ∧ i ≤ res.2.1) ∧
    distinctLoopIds res.1 = true ∧
    ∃ new, res.2.2 = ps ++ new ∧ ∀ pd ∈ new, distinctLoopIds pd.body = true

theorem stmtsOf_induct {P : Nat → List ProgDef → Stmts × Nat × List ProgDef → Prop}
    (hnil : ∀ n ps, P n ps (.nil, n, ps))
    (hleaf : ∀ n ps s, (∀ i, usesIdStmt i s = false) → distinctLoopIdsStmt s = true →
      P n ps (.cons s .nil, n, ps))
    (hseq : ∀ {n ps a n1 ps1 b n2 ps2}, P n ps (a, n1, ps1) → P n1 ps1 (b, n2, ps2) →
      P n ps (a.append b, n2, ps2))
    (hprog : ∀ {n ps body n1 ps1} nm pr out, P n ps (body, n1, ps1) →
      P n ps (.nil, n1, ps1 ++ [⟨nm, pr, out, body⟩]))
    (hloop : ∀ {n ps body n1 ps1} x pos, P (n + 1) ps (body, n1, ps1) →
      P n ps (.cons (.loop (n + 1) x body pos) .nil, n1, ps1))
    (hwhile : ∀ {n ps body n1 ps1} x pos, P n ps (body, n1, ps1) →
      P n ps (.cons (.while_ x body pos) .nil, n1, ps1)) :
    ∀ (nd : Node) (n : Nat) (ps : List ProgDef), P n ps (stmtsOf nd n ps)
  | .nil, n, ps => hnil n ps
  | .mk t tok file line l r, n, ps => by
    have ihl := stmtsOf_induct hnil hleaf hseq hprog hloop hwhile l
    have ihr := stmtsOf_induct hnil hleaf hseq hprog hloop hwhile r
    rw [stmtsOf]
    by_cases h1 : t = NodeT.SPLIT
    · rw [if_pos h1]; exact hseq (ihl n ps) (ihr _ _)
    rw [if_neg h1]
    by_cases h2 : t = NodeT.PROGRAM
    · rw [if_pos h2]; exact hprog _ _ _ (ihr n ps)
    rw [if_neg h2]
    by_cases h3 : t = NodeT.ASSIGN
    · rw [if_pos h3]; exact hleaf _ _ _ (fun _ => rfl) rfl
    rw [if_neg h3]
    by_cases h4 : t = NodeT.LOOP
    · rw [if_pos h4]; exact hloop _ _ (ihr _ ps)
    rw [if_neg h4]
    by_cases h5 : t = NodeT.WHILE
    · rw [if_pos h5]; exact hwhile _ _ (ihr n ps)
    rw [if_neg h5]
    by_cases h6 : t = NodeT.MARK
    · rw [if_pos h6]; exact hleaf _ _ _ (fun _ => rfl) rfl
    rw [if_neg h6]
    by_cases h7 : t = NodeT.GOTO
    · rw [if_pos h7]; exact hleaf _ _ _ (fun _ => rfl) rfl
    rw [if_neg h7]
    by_cases h8 : t = NodeT.IF
    · rw [if_pos h8]; exact hleaf _ _ _ (fun _ => rfl) rfl
    rw [if_neg h8]
    by_cases h9 : t = NodeT.STOP
    · rw [if_pos h9]; exact hleaf _ _ _ (fun _ => rfl) rfl
    rw [if_neg h9]; exact hnil n ps

theorem stmtsOf_idSpec : ∀ (nd : Node) (n : Nat) (ps : List ProgDef), IdSpec n ps (stmtsOf nd n ps) := by
  apply stmtsOf_induct
  · exact fun n ps => ⟨Nat.le_refl _, nofun, rfl, [], (List.append_nil _).symm, nofun⟩
  · intro n ps s hu hd
    refine ⟨Nat.le_refl _, fun i h => ?_, ?_, [], (List.append_nil _).symm, nofun⟩
    · rw [usesId, hu] at h; cases h
    · rw [distinctLoopIds, hd]; rfl
  · rintro n ps a n1 ps1 b n2 ps2 ⟨la, ia, da, newa, ea, pa⟩ ⟨lb, ib, db, newb, eb, pb⟩
    simp only at la ia da ea lb ib db eb
    refine ⟨Nat.le_trans la lb, fun i hi => ?_, ?_, newa ++ newb, ?_, fun pd hpd => ?_⟩
    · rw [usesId_append, Bool.or_eq_true] at hi
      rcases hi with hi | hi
      · exact ⟨(ia i hi).1, Nat.le_trans (ia i hi).2 lb⟩
      · exact ⟨Nat.lt_of_le_of_lt la (ib i hi).1, (ib i hi).2⟩
    · show distinctLoopIds (a.append b) = true
      rw [distinctLoopIds_append, da, db]; rfl
    · show ps2 = ps ++ (newa ++ newb)
      rw [eb, ea, List.append_assoc]
    · exact (List.mem_append.mp hpd).elim (pa pd) (pb pd)
  · rintro n ps body n1 ps1 nm pr out ⟨lb, ib, db, newb, eb, pb⟩
    simp only at lb db eb
    refine ⟨lb, nofun, rfl, newb ++ [⟨nm, pr, out, body⟩], ?_, fun pd hpd => ?_⟩
    · show ps1 ++ _ = ps ++ (newb ++ _)
      rw [eb, List.append_assoc]
    · rcases List.mem_append.mp hpd with h | h
      · exact pb pd h
      · cases List.mem_singleton.1 h; exact db
  · rintro n ps body n1 ps1 x pos ⟨lb, ib, db, newb, eb, pb⟩
    simp only at lb ib db eb
    have hfree : usesId (n + 1) body = false :=
      Bool.eq_false_iff.2 fun hu => Nat.lt_irrefl _ (ib _ hu).1
    refine ⟨Nat.le_of_succ_le lb, fun i hi => ?_, ?_, newb, eb, pb⟩
    · show n < i ∧ i ≤ n1
      simp only [usesId, usesIdStmt, Bool.or_eq_true, Bool.or_false, decide_eq_true_eq] at hi
      rcases hi with rfl | hi
      · exact ⟨Nat.lt_succ_self n, lb⟩
      · exact ⟨Nat.lt_of_succ_lt (ib i hi).1, (ib i hi).2⟩
    · show (distinctLoopIdsStmt (.loop (n + 1) x body pos) && distinctLoopIds .nil) = true
      rw [distinctLoopIdsStmt, hfree, db]; rfl
  · rintro n ps body n1 ps1 x pos ⟨lb, ib, db, newb, eb, pb⟩
    simp only at lb ib db eb
    refine ⟨lb, fun i hi => ib i ?_, ?_, newb, eb, pb⟩
    · simpa only [usesId, usesIdStmt, Bool.or_false] using hi
    · show (distinctLoopIdsStmt (.while_ x body pos) && distinctLoopIds .nil) = true
      rw [distinctLoopIdsStmt, db]; rfl

theorem toSource_distinctLoopIds (root : Node) :
    distinctLoopIds (toSource root).main = true ∧
      ∀ pd ∈ (toSource root).progs, distinctLoopIds pd.body = true := by
  obtain ⟨_, _, d, new, e, pn⟩ := stmtsOf_idSpec root 0 []
  exact ⟨d, fun pd hpd => pn pd (by rw [← List.nil_append new, ← e]; exact hpd)⟩

end LoopHalts
end Theo

