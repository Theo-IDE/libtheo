/-
  Converse of C12/C13, part 3: two different decisions justified for one viable prefix with a
  common lookahead contradict Knuth's LR(1) condition.
  * shift / reduce: an item with a terminal `c` after the dot and a complete item acting on `c`;
  * reduce / reduce (and accept / reduce): two different complete items acting on one column —
    either two different productions, or (prefix mode only) the *same* production with the
    lookaheads "end marker" and `c`; the latter is pushed up the derivation until it becomes a
    genuine clash or reaches `S'`.
-/
import Theo.Proofs.LRConverseValid

namespace Theo
namespace LRConverse
open LRSound LRComplete FirstProofs

theorem head_append_eof (eof : Nat) (w : List Nat) : (w ++ [eof]).head? = some (laOf eof w) := by
  cases w <;> rfl

section Sem
variable (g : Grammar) (start eof : Nat)

theorem no_eof_head (hg : g.Closed) (hs : start < g.numNT) (heof : eof ∉ g.terminals)
    {δ : List Sym} {A : Nat} {w : List Nat}
    (h : RDerives (g.augment start eof) [.n g.numNT] (δ ++ Sym.n A :: tsyms w)) :
    ∀ e w', w = e :: w' → e ≠ eof := by
  intro e w' hw he
  subst hw he
  rcases rd_symOK g start e hg hs h with h0 | h0
  · have := congrArg List.length h0
    simp [tsyms] at this
    omega
  · exact heof (h0 (.t e) (by simp [tsyms]))

theorem no_sprime (hg : g.Closed) (hs : start < g.numNT) {φ : List Sym}
    (h : RDerives (g.augment start eof) [.n g.numNT] φ) (hm : Sym.n g.numNT ∈ φ) :
    φ = [.n g.numNT] := by
  rcases rd_symOK g start eof hg hs h with h0 | h0
  · exact h0
  · have := h0 _ hm
    simp [SymOK] at this

/-- the next input token `c` agrees with the right context `w` -/
def Fits (pm : Bool) (w : List Nat) (c : Nat) : Prop :=
  if pm then w = [] ∨ w.head? = some c else laOf eof w = c

theorem acts_fits (hg : g.Closed) (hs : start < g.numNT) (heof : eof ∉ g.terminals) (pm : Bool)
    {it : Item} {c : Nat} {δ : List Sym} {w : List Nat}
    (hder : RDerives (g.augment start eof) [.n g.numNT] (δ ++ Sym.n it.left :: tsyms w))
    (hfol : it.follow = .t (laOf eof w)) (hacts : ActsOn pm eof it c) : Fits eof pm w c := by
  simp only [ActsOn, hfol, Sym.index] at hacts
  cases pm with
  | false => exact hacts.resolve_right (fun h => nomatch h.2)
  | true =>
    cases w with
    | nil => exact Or.inl rfl
    | cons e w' =>
      refine Or.inr (congrArg some (hacts.resolve_right fun h => ?_))
      exact no_eof_head g start eof hg hs heof hder e w' rfl h.1

theorem compat_of_fits (pm : Bool) {w y : List Nat} {c : Nat}
    (h1 : Fits eof pm w c) (h2 : Fits eof pm y c) : LACompat pm eof w y := by
  cases pm with
  | true =>
    rcases h1 with h1 | h1
    · exact Or.inl h1
    · rcases h2 with h2 | h2
      · exact Or.inr (Or.inl h2)
      · exact Or.inr (Or.inr (h1.trans h2.symm))
  | false =>
    simp only [LACompat, Bool.false_eq_true, if_false, head_append_eof]
    exact congrArg some (h1.trans h2.symm)

variable {g start eof}

theorem no_shift_reduce (pm : Bool) (hg : g.Closed) (hs : start < g.numNT) (heof : eof ∉ g.terminals)
    (hp : g.Productive) (hk : KnuthLR1 (g.augment start eof) g.numNT eof pm)
    {γ : List Sym} {it1 it2 : Item} (h1 : VItem g start eof γ it1) (h2 : VItem g start eof γ it2)
    {c : Nat} (ha : (g.augment start eof).afterDot it1 = .t c)
    (hd : it2.dot = ((g.augment start eof).rhs it2).length) (hacts : ActsOn pm eof it2 c) : False := by
  obtain ⟨δ₁, w₁, hder1, hγ1, _⟩ := h1.valid
  obtain ⟨δ₂, w₂, hder2, hγ2, hfol2⟩ := h2.valid
  rw [hd, List.take_length] at hγ2
  have hget := afterDot_some _ it1 (.t c) (by simp) ha
  have hsplit := rhs_split (g.augment start eof) it1 (.t c) hget
  generalize hα : ((g.augment start eof).rhs it1).take it1.dot = α at hsplit hγ1
  generalize hβ : ((g.augment start eof).rhs it1).drop (it1.dot + 1) = β' at hsplit
  have hrule1 := rhs_get h1.good.alt_lt
  have hrule2 := rhs_get h2.good.alt_lt
  -- β' derives a terminal string
  have hβok : ∀ s ∈ β', s ≠ .eps ∧ ∀ k, s = .n k → k < g.numNT := by
    intro s hsm
    exact good_rhs_sym g start eof hg hs h1.good s (by rw [hsplit]; simp [hsm])
  obtain ⟨ts, hroots, hvalid⟩ := trees_of_syms (g.augment start eof) g.numNT
    (productive_aug g start eof hg hp) β' hβok
  have hexp := trees_exposed (g.augment start eof) ts hvalid
  rw [hroots] at hexp
  generalize yields ts = z at hexp
  have hfit := acts_fits g start eof hg hs heof pm hder2 hfol2 hacts
  have hcompat : LACompat pm eof w₂ (c :: z ++ w₁) :=
    compat_of_fits eof pm hfit (by cases pm <;> simp [Fits, laOf])
  have hder1' : RDerives (g.augment start eof) [.n g.numNT]
      (δ₁ ++ (g.augment start eof).rhs it1 ++ tsyms w₁) :=
    RDerives.tail hder1 (RStep.mk δ₁ it1.left it1.alt _ w₁ hrule1)
  rcases hexp with hexp | ⟨θ', C, k, ρ, x, hkC, hdC, heC⟩
  · -- the symbols after `c` are terminals: the last step is the one of `it1`
    have := hk δ₂ _ δ₁ _ it2.left it2.alt it1.left it1.alt w₂ w₁ (c :: z ++ w₁)
      hder2 hrule2 hder1 hrule1 (by
        rw [hsplit, hexp, ← hγ2, hγ1]
        simp [tsyms_append, tsyms_cons, List.append_assoc]) hcompat
    have := congrArg List.length this.2.2
    simp at this
    omega
  · have hd' := hdC (δ₁ ++ α ++ [Sym.t c]) w₁
    have hder3 : RDerives (g.augment start eof) [.n g.numNT]
        ((δ₁ ++ α ++ [Sym.t c] ++ θ') ++ Sym.n C :: tsyms (x ++ w₁)) := by
      rw [hsplit] at hder1'
      exact rd_trans (by simpa [List.append_assoc] using hder1') hd'
    have := hk δ₂ _ (δ₁ ++ α ++ [Sym.t c] ++ θ') ρ it2.left it2.alt C k w₂ (x ++ w₁) (c :: z ++ w₁)
      hder2 hrule2 hder3 hkC (by
        have e1 : (δ₁ ++ α ++ [Sym.t c] ++ θ') ++ ρ ++ tsyms (x ++ w₁) =
            δ₁ ++ α ++ [Sym.t c] ++ (θ' ++ ρ ++ tsyms x) ++ tsyms w₁ := by
          simp [tsyms_append, List.append_assoc]
        rw [e1, heC, ← hγ2, hγ1]
        simp [tsyms_append, tsyms_cons, List.append_assoc]) hcompat
    have h3 := congrArg List.length this.2.2
    have h4 := congrArg List.length heC
    simp [tsyms_length] at h3 h4
    omega

/-- in an LR(1) grammar (prefix mode) a right sentential form `δ A` that ends in a non-terminal
    is not continued by tokens in another one, `δ A c x`. (For the tables: a complete item is
    not in one state with the end marker and with a real token as lookahead.) -/
theorem no_degenerate (hg : g.Closed) (hs : start < g.numNT)
    (hk : KnuthLR1 (g.augment start eof) g.numNT eof true) {φ : List Sym}
    (h : RDerives (g.augment start eof) [.n g.numNT] φ) :
    ∀ (δ : List Sym) (A c : Nat) (x : List Nat), φ = δ ++ [Sym.n A] →
      RDerives (g.augment start eof) [.n g.numNT] (δ ++ Sym.n A :: tsyms (c :: x)) → False := by
  induction h with
  | refl =>
    intro δ A c x hφ h2
    obtain ⟨rfl, hA, _⟩ := singleton_split (w := []) hφ
    cases hA
    have := no_sprime g start eof hg hs h2 (by simp)
    have := congrArg List.length this
    simp [tsyms] at this
  | @tail b φ hprev hstep ih =>
    intro δ A c x hφ h2
    obtain ⟨α₁, B, k, μ, w₁, hkB, hb, hφ'⟩ := rstep_inv hstep
    subst hb
    have hw₁ : w₁ = [] := by
      rcases List.eq_nil_or_concat w₁ with h | ⟨w', a, h⟩
      · exact h
      · exfalso
        rw [hφ', h, List.concat_eq_append, tsyms_append, ← List.append_assoc] at hφ
        have := List.append_inj_right' hφ rfl
        simp [tsyms] at this
    subst hw₁
    simp only [tsyms_nil, List.append_nil] at hφ'
    rcases rd_cases h2 with h0 | ⟨m, hprev2, hstep2⟩
    · have := congrArg List.length h0
      simp [tsyms] at this
      omega
    · obtain ⟨γ₂, B₂, k₂, μ₂, x₂, hkB₂, hm, he⟩ := rstep_inv hstep2
      subst hm
      have := hk α₁ μ γ₂ μ₂ B k B₂ k₂ [] x₂ (c :: x) hprev hkB hprev2 hkB₂
        (by rw [← he, ← hφ', hφ]; simp [List.append_assoc]) (by simp [LACompat])
      obtain ⟨e1, e2, e3⟩ := this
      subst e1 e2 e3
      exact ih α₁ B c x (by simp [tsyms]) hprev2

theorem no_reduce_reduce (pm : Bool) (hg : g.Closed) (hs : start < g.numNT) (heof : eof ∉ g.terminals)
    (hnd : g.NoDupAlts) (hk : KnuthLR1 (g.augment start eof) g.numNT eof pm)
    {γ : List Sym} {it1 it2 : Item} (h1 : VItem g start eof γ it1) (h2 : VItem g start eof γ it2)
    (hne : it1 ≠ it2)
    (hd1 : it1.dot = ((g.augment start eof).rhs it1).length)
    (hd2 : it2.dot = ((g.augment start eof).rhs it2).length)
    {c : Nat} (ha1 : ActsOn pm eof it1 c) (ha2 : ActsOn pm eof it2 c) : False := by
  obtain ⟨δ₁, w₁, hder1, hγ1, hfol1⟩ := h1.valid
  obtain ⟨δ₂, w₂, hder2, hγ2, hfol2⟩ := h2.valid
  rw [hd1, List.take_length] at hγ1
  rw [hd2, List.take_length] at hγ2
  have hrule1 := rhs_get h1.good.alt_lt
  have hrule2 := rhs_get h2.good.alt_lt
  have hfit1 := acts_fits g start eof hg hs heof pm hder1 hfol1 ha1
  have hfit2 := acts_fits g start eof hg hs heof pm hder2 hfol2 ha2
  have hcompat := compat_of_fits eof pm hfit1 hfit2
  obtain ⟨e1, e2, _⟩ := hk δ₁ _ δ₂ _ it1.left it1.alt it2.left it2.alt w₁ w₂ w₂
    hder1 hrule1 hder2 hrule2 (by rw [← hγ2, hγ1]) hcompat
  subst e1
  have hrhs : (g.augment start eof).rhs it1 = (g.augment start eof).rhs it2 :=
    List.append_cancel_left (hγ1.symm.trans hγ2)
  have halt : it1.alt = it2.alt := by
    have hnd' : ((g.augment start eof).alts it1.left).Nodup := by
      rcases h1.good.left_ok with hl | hl
      · rw [augment_alts_lt g start eof _ hl]; exact hnd _
      · rw [hl.1, augment_alts_S g start eof hg]; simp
    rw [← e2, ← hrhs, ← hrule1] at hrule2
    exact ((List.getElem?_inj h1.good.alt_lt hnd').mp hrule2.symm)
  have hdot : it1.dot = it2.dot := by rw [hd1, hd2, hrhs]
  have hfne : laOf eof w₁ ≠ laOf eof w₂ := by
    intro h
    apply hne
    obtain ⟨l1, a1, d1, f1⟩ := it1
    obtain ⟨l2, a2, d2, f2⟩ := it2
    simp only at e2 halt hdot hfol1 hfol2
    rw [e2, halt, hdot, hfol1, hfol2, h]
  cases pm with
  | false => exact hfne (hfit1.trans hfit2.symm)
  | true =>
    rw [← e2] at hder2
    have key : ∀ (u v : List Nat), u = [] →
        RDerives (g.augment start eof) [.n g.numNT] (δ₁ ++ Sym.n it1.left :: tsyms u) →
        RDerives (g.augment start eof) [.n g.numNT] (δ₁ ++ Sym.n it1.left :: tsyms v) →
        laOf eof u ≠ laOf eof v → False := by
      intro u v hu hdu hdv hne'
      subst hu
      cases v with
      | nil => exact hne' rfl
      | cons c' x =>
        exact no_degenerate hg hs hk hdu δ₁ it1.left c' x (by simp [tsyms]) hdv
    rcases hfit1 with hf1 | hf1
    · exact key w₁ w₂ hf1 hder1 hder2 hfne
    · rcases hfit2 with hf2 | hf2
      · exact key w₂ w₁ hf2 hder2 hder1 (Ne.symm hfne)
      · apply hfne
        simp only [laOf, hf1, hf2]

end Sem

end LRConverse
end Theo
