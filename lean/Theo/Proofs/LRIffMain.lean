/-
  "No conflict ⇒ LR(1) in Knuth's sense", part 2: the argument.
  Given S' ⇒*rm αAw ⇒ αβw and S' ⇒*rm γBx ⇒ γρx = αβy with agreeing lookaheads, the state of
  the viable prefix αβ contains `[A → β ., la(w)]`; comparing where γρ ends with where αβ ends,
  the same state (or the state of γρ) contains a second decision for the same column: a shift
  of the next terminal or another complete item.  Conflict-free tables hold every action
  (`RowComplete`), so the two decisions are the same reduction: A = B, the same rule, hence
  α = γ and x = y.  Here are the two cases (`same_end`, `no_longer`); `C13_no_conflict_lr1`
  (Props/C12Iff) puts them together.
-/
import Theo.Proofs.LRIffItems
import Theo.Proofs.LRConverseSem

namespace Theo
namespace LRIff
open LRSound LRComplete FirstProofs LRConverse

theorem acts_of_compat_cons (pm : Bool) (eof : Nat) (w : List Nat) (c : Nat) (y' : List Nat)
    (h : LACompat pm eof w (c :: y')) (A k d : Nat) :
    ActsOn pm eof ⟨A, k, d, .t (laOf eof w)⟩ c := by
  simp only [ActsOn, Sym.index]
  cases pm with
  | true =>
    simp only [LACompat, if_true] at h
    rcases h with h | h | h
    · subst h; exact Or.inr ⟨rfl, rfl⟩
    · cases h
    · cases w with
      | nil => exact Or.inr ⟨rfl, rfl⟩
      | cons a w' =>
        simp only [List.head?_cons, Option.some.injEq] at h
        exact Or.inl (by simp [laOf, h])
  | false =>
    simp only [LACompat, Bool.false_eq_true, if_false, head_append_eof, Option.some.injEq] at h
    exact Or.inl (by simpa [laOf] using h)

theorem acts_self (pm : Bool) (eof : Nat) (w : List Nat) (A k d : Nat) :
    ActsOn pm eof ⟨A, k, d, .t (laOf eof w)⟩ (laOf eof w) := Or.inl rfl

/-- agreeing lookaheads: a column both complete items act on, namely one of the two lookaheads -/
theorem common_col (pm : Bool) (eof : Nat) (w x : List Nat) (h : LACompat pm eof w x)
    (A k d B k' d' : Nat) :
    ∃ c, (c = laOf eof w ∨ c = laOf eof x) ∧ ActsOn pm eof ⟨A, k, d, .t (laOf eof w)⟩ c ∧
      ActsOn pm eof ⟨B, k', d', .t (laOf eof x)⟩ c := by
  cases pm with
  | false =>
    simp only [LACompat, Bool.false_eq_true, if_false, head_append_eof, Option.some.injEq] at h
    exact ⟨laOf eof w, Or.inl rfl, Or.inl rfl, Or.inl (by simp [Sym.index, h])⟩
  | true =>
    simp only [LACompat, if_true] at h
    cases w with
    | nil => exact ⟨laOf eof x, Or.inr rfl, Or.inr ⟨rfl, rfl⟩, Or.inl rfl⟩
    | cons a w' =>
      cases x with
      | nil => exact ⟨laOf eof (a :: w'), Or.inl rfl, Or.inl rfl, Or.inr ⟨rfl, rfl⟩⟩
      | cons b x' =>
        rcases h with h | h | h
        · cases h
        · cases h
        · simp only [List.head?_cons, Option.some.injEq] at h
          subst h
          exact ⟨a, Or.inl rfl, Or.inl rfl, Or.inl rfl⟩

section Run
variable {g : Grammar} {start eof : Nat} {pm : Bool} {S : List LRState} {T : Tables}

theorem follow_lt (C : Ctx g start eof pm S T) {q : Nat} {st : LRState} (hq : RS S q)
    (hst : S[q]? = some st) {it : Item} (hit : it ∈ st.items) {a : Nat} (hf : it.follow = .t a) :
    a < (g.augment start eof).maxTerminal + 1 := by
  obtain ⟨_, _, b, hb, hbt⟩ := (C.ok hq hst).inU it hit
  rw [hf] at hb
  cases hb
  have := le_maxTerminal _ a hbt
  omega

theorem rr_same (C : Ctx g start eof pm S T) {q : Nat} {st : LRState} (hq : RS S q)
    (hst : S[q]? = some st) {it1 it2 : Item} (h1 : it1 ∈ st.items) (h2 : it2 ∈ st.items) {c : Nat}
    (hd1 : it1.dot = ((g.augment start eof).rhs it1).length)
    (hd2 : it2.dot = ((g.augment start eof).rhs it2).length)
    (hc : c < (g.augment start eof).maxTerminal + 1)
    (ha1 : ActsOn pm eof it1 c) (ha2 : ActsOn pm eof it2 c) :
    it1.left = it2.left ∧ it1.alt = it2.alt := by
  obtain ⟨row, grow, _, _, hrc, _, _⟩ := C.tab q st hst
  have hok := C.ok hq hst
  have e1 := cell_complete hok hrc h1 hd1 hc ha1
  have e2 := cell_complete hok hrc h2 hd2 hc ha2
  rw [e1] at e2
  have hS : ∀ it ∈ st.items, it.left = (g.augment start eof).numNT - 2 → it.left = g.numNT ∧ it.alt = 0 := by
    intro it hit hl
    have hl' : it.left = g.numNT := hl.trans (augment_sPrime g start eof)
    exact ⟨hl', (good_S g start eof C.hg (hok.good it hit) hl').1⟩
  unfold actOf at e2
  split at e2
  · rename_i hl1
    split at e2
    · rename_i hl2
      obtain ⟨a1, b1⟩ := hS it1 h1 hl1
      obtain ⟨a2, b2⟩ := hS it2 h2 hl2
      exact ⟨by rw [a1, a2], by rw [b1, b2]⟩
    · cases e2
  · split at e2
    · cases e2
    · simp only [Action.reduce.injEq] at e2
      exact ⟨e2.1, e2.2.1⟩

/-- the state of `P` holds a complete item acting on `c`: no path continues `P` by `c`, since the
    state would also shift `c` -/
theorem no_continue (C : Ctx g start eof pm S T) {P : List Sym} (hr : Real S (pathItems g start eof P))
    {itR : Item} (hR : itR ∈ pathItems g start eof P)
    (hd : itR.dot = ((g.augment start eof).rhs itR).length) {c : Nat} (hacts : ActsOn pm eof itR c)
    {δ : List Sym} {it : Item} (hit : it ∈ pathItems g start eof (P ++ Sym.t c :: δ)) : False := by
  rw [pathItems_append] at hit
  obtain ⟨it0, h0, ha⟩ := path_through _ _ _ _ _ _ hit
  obtain ⟨q, st, hq, hst, hI⟩ := hr
  rw [← hI] at h0 hR
  obtain ⟨row, grow, _, _, hrc, _, _⟩ := C.tab q st hst
  have hcw := C.terminal_lt hq hst h0
    (List.mem_of_getElem? (afterDot_some _ it0 (.t c) (by simp) ha))
  obtain ⟨j, hj⟩ := C.has_trans hst h0 (by simp) ha
  have hsh := hrc.shift c j hj hcw
  rw [cell_complete (C.ok hq hst) hrc hR hd hcw hacts] at hsh
  unfold actOf at hsh
  split at hsh <;> simp [isShift] at hsh

theorem complete_mk (A k : Nat) (f : Sym) {μ : List Sym}
    (hk : ((g.augment start eof).alts A)[k]? = some μ) :
    (⟨A, k, μ.length, f⟩ : Item).dot = ((g.augment start eof).rhs ⟨A, k, μ.length, f⟩).length := by
  rw [rhs_mk hk]

/-- both handles end at the same place: the two complete items share a state and a column -/
theorem same_end (C : Ctx g start eof pm S T) {α β γ ρ : List Sym} {A kA B kB : Nat}
    {w x : List Nat}
    (h1 : RDerives (g.augment start eof) [.n g.numNT] (α ++ Sym.n A :: tsyms w))
    (hk1 : ((g.augment start eof).alts A)[kA]? = some β)
    (h2 : RDerives (g.augment start eof) [.n g.numNT] (γ ++ Sym.n B :: tsyms x))
    (hk2 : ((g.augment start eof).alts B)[kB]? = some ρ)
    (hP : α ++ β = γ ++ ρ) (hcompat : LACompat pm eof w x) : α = γ ∧ A = B := by
  obtain ⟨⟨q, st, hq, hst, hI⟩, hitA⟩ := handle_state C h1 hk1
  have hitB := (handle_state C h2 hk2).2
  rw [← hP] at hitB
  rw [← hI] at hitA hitB
  obtain ⟨c, hc, ha1, ha2⟩ := common_col pm eof w x hcompat A kA β.length B kB ρ.length
  have hcw : c < (g.augment start eof).maxTerminal + 1 := by
    rcases hc with rfl | rfl
    · exact follow_lt C hq hst hitA rfl
    · exact follow_lt C hq hst hitB rfl
  obtain ⟨e1, e2⟩ := rr_same C hq hst hitA hitB (complete_mk A kA _ hk1) (complete_mk B kB _ hk2)
    hcw ha1 ha2
  simp only at e1 e2
  subst e1 e2
  rw [hk1] at hk2
  cases hk2
  exact ⟨List.append_cancel_right hP, rfl⟩

/-- a handle `αβ` whose lookahead admits `c` is not continued by `c` up to the end of another
    handle: the state of `αβ` would shift `c` -/
theorem no_longer (C : Ctx g start eof pm S T) {α β γ ρ : List Sym} {A kA B kB : Nat}
    {w x : List Nat}
    (h1 : RDerives (g.augment start eof) [.n g.numNT] (α ++ Sym.n A :: tsyms w))
    (hk1 : ((g.augment start eof).alts A)[kA]? = some β)
    (h2 : RDerives (g.augment start eof) [.n g.numNT] (γ ++ Sym.n B :: tsyms x))
    (hk2 : ((g.augment start eof).alts B)[kB]? = some ρ)
    {c : Nat} {τ : List Nat} (hQ : γ ++ ρ = (α ++ β) ++ tsyms (c :: τ))
    (hacts : ActsOn pm eof ⟨A, kA, β.length, .t (laOf eof w)⟩ c) : False := by
  obtain ⟨hrP, hitA⟩ := handle_state C h1 hk1
  have hitB := (handle_state C h2 hk2).2
  rw [hQ] at hitB
  exact no_continue C hrP hitA (complete_mk A kA _ hk1) hacts hitB

end Run

end LRIff
end Theo
