/-
  C07 for the generator model: statements — the exact correspondence between a generator
  state and the site walk (`Ex`, `Ctx`, `SiteOut`), the header of a statement (`Hdr`: the one
  site `advanceLine` emits iff the line changes), and LOOP / WHILE: two real instructions in front
  of the body (behind the header's site), the closing instructions behind, no site of their own,
  and the exit / back-edge land exactly (`loopJumpsExact`).
-/
import Theo.Proofs.GenSitesBase
import Theo.Proofs.GenShapeStmtCorr

namespace Theo
namespace GenSites
open GS Sem Static GenShape Layout
open Sim (Framed)

theorem tinv_void {gs : GS} (ht : TInv (fun _ => True) gs) (n : Node) :
    TInv (fun _ => True) (genS gs n) := (TInv.genInv _).genS ht (allPos_true n).nodeP

theorem tinv_value {gs : GS} (ht : TInv (fun _ => True) gs) (n : Node) (tgt : Int) :
    TInv (fun _ => True) (genV gs n tgt) := (TInv.genInv _).genV ht (allPos_true n).nodeP tgt

def prevOf (s : LSt) : Prev :=
  match s.kind with
  | .fresh => none
  | .stmt => some ((s.file, s.line), false)
  | .mark => some ((s.file, s.line), true)

def liOf (e : ESite) : Int × BreakPoint := ((e.1 : Int), ⟨e.2.1.1, e.2.1.2⟩)

structure Ctx (gs : GS) (s : LSt) : Prop where
  file : gs.fsName = s.file
  line : gs.fsLine = s.line

theorem head_pos {gs : GS} (hd : Head gs) : 0 < gs.code.length := by
  obtain ⟨i, h1, _⟩ := hd
  exact (List.getElem?_eq_some_iff.1 h1).1

structure Ex (gs : GS) (w : Walk) (k : Nat) : Prop where
  len : w.pc + k = gs.code.length
  sites : ∀ p, w.pc ≤ p → p < gs.code.length → gs.code[p]? = some Instr.potBreak
  pos : 0 < w.pc

theorem Ex.at {X : RC} {gs gs' : GS} {w : Walk} {k : Nat} (h : Ex gs w k) (hp : gs.code <+: gs'.code)
    (ha : Agree X.L gs'.code X.C) : At X w.pc gs := by
  refine ⟨?_, by have := h.len; have := h.pos; omega⟩
  rw [← h.len]
  apply skipc_range
  intro p h1 h2
  have := ha p _ (by have := h.pos; omega) (prefix_getElem? hp (h.sites p h1 (by rw [← h.len]; exact h2)))
  rw [this]; rfl

theorem Ex.exact {gs : GS} {w : Walk} (h0 : 0 < w.pc) (h : w.pc = gs.code.length) : Ex gs w 0 :=
  ⟨by omega, fun p h1 h2 => by omega, h0⟩

/-- the result of walking a statement tree `n` with statements `ss`: the site walk from `w`, `k`
    sites in front of the generator, expects the sites `l` and ends in `w'`, exactly `k'` sites in
    front of the generator (`walk`, `ex`); the emitted code `t` has its sites at the expected
    positions and nowhere else (`code`, `pbs`); the line table grew by the expected sites, each
    naming its line (`li`); the labelled sites are those of the label definitions of `n` (`names`).
    `last` is what makes jumps land on a site and not merely at its anchor: the position of the last
    site expected for a label name IS the value of the generator's label of that name. -/
structure SiteOut (X : RC) (gs gs' : GS) (n : Node) (ss : Stmts) (w : Walk) (k : Nat) (s s' : LSt)
    (l : List ESite) (w' : Walk) (k' : Nat) (t : List Instr) : Prop where
  walk : sitesStmts X.e ss w k (prevOf s) = some (l, w', k', prevOf s')
  ex : Ex gs' w' k'
  code : gs'.code = gs.code ++ t
  pbs : pbPos t gs.code.length = l.map (·.1)
  li : gs'.lineInfo = gs.lineInfo ++ l.map liOf
  names : l.filterMap (·.2.2) = defsOf n
  last : ∀ m p, ((l.filter (fun e => decide (e.2.2 = some m))).getLast?).map (·.1) = some p →
    ∃ lab, (m, lab) ∈ gs'.top.marks ∧ gs'.labels[lab]? = some (p : Int)
  ctx : Ctx gs' s'

def SiteCorr (X : RC) (gs gs' : GS) (n : Node) (ss : Stmts) (s s' : LSt) : Prop :=
  ∀ w k, Ex gs w k → ∃ l w' k' t, SiteOut X gs gs' n ss w k s s' l w' k' t

/-- the generator moved to the position of a statement or label node of kind `t`, placed as the
    layout asks; `mv` = the line changed: one site was emitted -/
structure Hdr (gs gs0 : GS) (s : LSt) (file : Bytes) (line : Int) (t : Nat) (w : Walk) (k : Nat) (mv : Bool) : Prop where
  code : gs0.code = gs.code ++ (if mv then [Instr.potBreak] else [])
  li : gs0.lineInfo = gs.lineInfo ++ (if mv then [((gs.code.length : Int), (⟨file, line⟩ : BreakPoint))] else [])
  fsName : gs0.fsName = file
  fsLine : gs0.fsLine = line
  ex : Ex gs0 w (if mv then k + 1 else k)
  same : ∀ st : Stmt, st.pos = (file, line) → Sim.sameLine (prevOf s) st = !mv
  /-- only a statement behind a label stays on the line -/
  kind : mv = false → s.kind = LKind.mark ∧ t ≠ NodeT.MARK

theorem hdr_of (gs : GS) (s : LSt) (file : Bytes) (line : Int) (t : Nat) (hctx : Ctx gs s) (hstd : isStd file = false)
    (ht : TInv (fun _ => True) gs) (w : Walk) (k : Nat) (hex : Ex gs w k)
    (hlay : (decide (file = s.file) && decide (line = s.line) && !(decide (s.kind = LKind.mark) && t != NodeT.MARK)) = false) :
    ∃ mv, Hdr gs (gs.advanceLine line file) s file line t w k mv := by
  have hstd' : file ≠ ConstGen.genStdFileName := by simpa [isStd] using hstd
  by_cases hsame : file = s.file ∧ line = s.line
  · refine ⟨false, ?_⟩
    have hk : s.kind = LKind.mark ∧ t ≠ NodeT.MARK := by
      simpa [hsame.1, hsame.2] using hlay
    rw [advanceLine_same gs line file (by rw [hctx.file]; exact hsame.1) (by rw [hctx.line]; exact hsame.2)]
    refine ⟨by simp, by simp, by rw [hctx.file, hsame.1], by rw [hctx.line, hsame.2], hex, ?_, fun _ => hk⟩
    intro st hst
    unfold prevOf Sim.sameLine
    rw [hk.1, hst, hsame.1, hsame.2]
    simp
  · refine ⟨true, ?_⟩
    have hm : ¬ (file = gs.fsName ∧ line = gs.fsLine) := by rw [hctx.file, hctx.line]; exact hsame
    have mv := moved_of gs line file hstd' hm ht
    refine ⟨by simpa using mv.code, by simpa using mv.lineInfo, mv.fsName, mv.fsLine, ?_, ?_, fun h => by cases h⟩
    · refine ⟨?_, ?_, hex.pos⟩
      · rw [mv.code]; simp; have := hex.len; omega
      · intro p h1 h2
        rw [mv.code] at h2 ⊢
        simp at h2
        by_cases hp : p < gs.code.length
        · rw [List.getElem?_append_left hp]; exact hex.sites p h1 hp
        · have : p = gs.code.length := by omega
          subst this
          exact getElem?_snoc_len _ _
    · intro st hst
      unfold prevOf Sim.sameLine
      rw [hst]
      cases s.kind <;> simp
      all_goals (intro h1 h2; exact hsame ⟨h1.symm, h2.symm⟩)

def hereL (w : Walk) (k : Nat) (file : Bytes) (line : Int) (mn : Option Name) (mv : Bool) : List ESite :=
  if mv then [(w.pc + k, (file, line), mn)] else []

theorem Hdr.hereOf {gs gs0 : GS} {s : LSt} {file : Bytes} {line : Int} {t : Nat} {w : Walk} {k : Nat} {mv : Bool}
    (h : Hdr gs gs0 s file line t w k mv) (st : Stmt) (hst : st.pos = (file, line)) :
    Sim.hereOf w k (prevOf s) st = hereL w k file line (markName st) mv ∧
    Sim.kOf k (prevOf s) st = (if mv then k + 1 else k) := by
  unfold Sim.hereOf Sim.kOf hereL
  rw [h.same st hst, hst]
  cases mv <;> simp

theorem Hdr.pbs {gs gs0 : GS} {s : LSt} {file : Bytes} {line : Int} {t : Nat} {w : Walk} {k : Nat} {mv : Bool}
    (h : Hdr gs gs0 s file line t w k mv) (hex : Ex gs w k) (mn : Option Name) :
    pbPos (if mv then [Instr.potBreak] else []) gs.code.length = (hereL w k file line mn mv).map (·.1) ∧
    gs0.lineInfo = gs.lineInfo ++ (hereL w k file line mn mv).map liOf ∧
    gs0.code.length = gs.code.length + (if mv then [Instr.potBreak] else []).length := by
  refine ⟨?_, ?_, by rw [h.code]; simp⟩
  · unfold hereL
    cases mv
    · simp [pbPos]
    · simp [pbPos, hex.len]
  · rw [h.li]
    unfold hereL
    cases mv
    · simp
    · simp [liOf, hex.len]

/-- clause 1 of the layout, in the validator's terms: no statement on the line of the previous statement -/
theorem Hdr.notSame {gs gs0 : GS} {s : LSt} {file : Bytes} {line : Int} {t : Nat} {w : Walk} {k : Nat} {mv : Bool}
    (h : Hdr gs gs0 s file line t w k mv) (st : Stmt) (hst : st.pos = (file, line)) :
    (Sim.sameLine (prevOf s) st && !Sim.afterMk (prevOf s)) = false := by
  rw [h.same st hst]
  cases mv
  · unfold prevOf Sim.afterMk
    rw [(h.kind rfl).1]; rfl
  · rfl

theorem filter_none_mark (l0 : List ESite) (x : ESite) (hx : x.2.2 = none) (m : Name) :
    ([x] ++ l0).filter (fun e => decide (e.2.2 = some m)) = l0.filter (fun e => decide (e.2.2 = some m)) := by
  simp [hx]

theorem end_exact {X : RC} {res b : GS} {w' : Walk} (hat : At X w'.pc res) (h0 : 0 < w'.pc)
    (hreal : X.C[w'.pc - 1]? ≠ some Instr.potBreak) (post : NoSite b res) (hb : 0 < b.code.length)
    (hlen : b.code.length < res.code.length) (ha : Agree X.L res.code X.C) : w'.pc = res.code.length := by
  obtain ⟨t, hcode, hclean⟩ := post.code
  refine pc_exact hat.eq h0 hreal (by omega) ?_
  intro hc
  have hc2 := (agree_pb_iff ha (p := res.code.length - 1) (by omega) (by omega)).1 hc
  have hget := List.getElem?_append_right (l₁ := b.code) (l₂ := t) (i := res.code.length - 1) (by omega)
  rw [← hcode, hc2] at hget
  exact hclean _ (List.mem_of_getElem? hget.symm) rfl

theorem simple_walk {X : RC} {gs0 res : GS} {n : Node} {st : Stmt} (hsimple : Sim.isSimple st = true)
    (hns : NoSite gs0 res) (hcorr : SCorr X gs0 res n (.cons st .nil)) (lk : SLinks X res)
    {w : Walk} {k0 : Nat} (hex : Ex gs0 w k0) :
    ∃ w' t', checkStmt X.e st w = some w' ∧ Ex res w' 0 ∧ res.code = gs0.code ++ t' ∧ (∀ i ∈ t', i ≠ Instr.potBreak) := by
  obtain ⟨t', hcode, hclean⟩ := hns.code
  have hat := hex.at hns.prefix lk.agree
  obtain ⟨w', cw, sr⟩ := hcorr w hat
  rw [checkStmts_single] at cw
  obtain ⟨hlt, hreal⟩ := simple_end (e := X.e) hsimple cw
  have hC : X.e.code = X.C := rfl
  rw [hC] at hlt hreal
  have hlo : gs0.code.length < w'.pc := by
    have h1 := hat.eq
    have h2 := Sim.le_skipc X.C gs0.code.length
    omega
  have h0 : 0 < w'.pc := by omega
  -- the walk moved on, so the statement emitted something, and that is real
  have hle := anchor_le sr.at_.eq h0 hreal
  have hw := end_exact sr.at_ h0 hreal hns hat.pos (by omega) lk.agree
  exact ⟨w', t', cw, Ex.exact h0 hw, hcode, hclean⟩

theorem simple_site {X : RC} {gs gs0 res : GS} {n : Node} {st : Stmt} {s : LSt} {file : Bytes} {line : Int} {t : Nat}
    {w : Walk} {k : Nat} {mv : Bool} (hd : Hdr gs gs0 s file line t w k mv) (hex : Ex gs w k)
    (hsimple : Sim.isSimple st = true) (hpos : st.pos = (file, line)) (hdefs : defsOf n = [])
    (hns : NoSite gs0 res) (hcorr : SCorr X gs0 res n (.cons st .nil)) (lk : SLinks X res) :
    ∃ l w' k' t', SiteOut X gs res n (.cons st .nil) w k s ⟨file, line, .stmt⟩ l w' k' t' := by
  obtain ⟨w', t', cw, ex', hcode, hclean⟩ := simple_walk hsimple hns hcorr lk hd.ex
  obtain ⟨hh, hk⟩ := hd.hereOf st hpos
  have hmn : markName st = none := by cases st <;> simp [Sim.isSimple] at hsimple <;> rfl
  obtain ⟨p1, p2, p3⟩ := hd.pbs hex (markName st)
  have hwalk := sitesStmts_single ((Sim.sitesStmt_simple_iff (k := k) hsimple).2 ⟨hd.notSame st hpos, cw, rfl, rfl, rfl⟩)
  rw [hh, hpos] at hwalk
  refine ⟨hereL w k file line (markName st) mv, w', 0, (if mv then [Instr.potBreak] else []) ++ t', ?_⟩
  refine ⟨hwalk, ex', by rw [hcode, hd.code, List.append_assoc], ?_, ?_, ?_, ?_, ⟨by rw [hns.fsName, hd.fsName], by rw [hns.fsLine, hd.fsLine]⟩⟩
  · rw [pbPos_append, p1, pbPos_clean t' _ hclean, List.append_nil]
  · rw [hns.lineInfo, p2]
  · rw [hdefs, hmn]; unfold hereL; cases mv <;> simp
  · intro m p hp
    rw [hmn] at hp
    unfold hereL at hp
    cases mv <;> simp at hp

theorem mark_site {X : RC} {gs gs0 : GS} (tok file : Bytes) (line : Int) (l r : Node) {s : LSt}
    {w : Walk} {k : Nat} {mv : Bool} (hd : Hdr gs gs0 s file line NodeT.MARK w k mv) (hex : Ex gs w k) (w0 : MarksWF gs0) :
    ∃ l' w' k' t', SiteOut X gs ((gs0.markLabel l.tok).1.setLabel (gs0.markLabel l.tok).2 (gs0.markLabel l.tok).1.markPos)
      (.mk NodeT.MARK tok file line l r) (.cons (.mark l.tok (file, line)) .nil) w k s ⟨file, line, .mark⟩ l' w' k' t' := by
  obtain rfl : mv = true := by
    cases mv
    · exact absurd rfl (hd.kind rfl).2
    · rfl
  have ms := markLabel_spec gs0 l.tok
  have hlt : (gs0.markLabel l.tok).2 < (gs0.markLabel l.tok).1.labels.length := ms.lt w0
  have hns : NoSite gs0 ((gs0.markLabel l.tok).1.setLabel (gs0.markLabel l.tok).2 (gs0.markLabel l.tok).1.markPos) :=
    (nosite_markLabel gs0 l.tok).trans (nosite_setLabel _ _ _)
  have hcode0 : gs0.code = gs.code ++ [Instr.potBreak] := by simpa using hd.code
  have hcode : ((gs0.markLabel l.tok).1.setLabel (gs0.markLabel l.tok).2 (gs0.markLabel l.tok).1.markPos).code =
      gs.code ++ [Instr.potBreak] := by rw [← hcode0]; exact ms.code
  have hmp : (gs0.markLabel l.tok).1.markPos = ((w.pc + k : Nat) : Int) := by
    unfold markPos lastIsSite nextPos
    rw [ms.code, hcode0]
    simp
    have := hex.len
    omega
  have hsl : Sim.sameLine (prevOf s) (.mark l.tok (file, line)) = false := by rw [hd.same _ rfl]; rfl
  have hwalk := sitesStmts_single ((Sim.sitesStmt_mark_iff (e := X.e) (w := w) (k := k)).2 ⟨hsl, rfl, rfl, rfl, rfl⟩)
  obtain ⟨p1, p2, p3⟩ := hd.pbs hex (some l.tok)
  refine ⟨[(w.pc + k, (file, line), some l.tok)], { w with marks := w.marks ++ [(l.tok, w.pc)] }, k + 1, [Instr.potBreak], ?_⟩
  refine ⟨hwalk, ?_, hcode, ?_, ?_, ?_, ?_, ⟨by rw [hns.fsName, hd.fsName], by rw [hns.fsLine, hd.fsLine]⟩⟩
  · have he := hd.ex
    simp only [if_true] at he
    refine ⟨?_, ?_, hex.pos⟩
    · show w.pc + (k + 1) = _
      rw [hcode, ← hcode0]; exact he.len
    · intro p h1 h2
      rw [hcode] at h2 ⊢
      rw [← hcode0] at h2 ⊢
      exact he.sites p h1 h2
  · simpa [hereL] using p1
  · rw [hns.lineInfo]; simpa [hereL] using p2
  · rw [defsOf_mk]; simp [NodeT.MARK, NodeT.SPLIT, NodeT.LOOP, NodeT.WHILE]
  · intro m p hp
    by_cases hml : l.tok = m
    · subst hml
      simp at hp
      subst hp
      exact ⟨(gs0.markLabel l.tok).2, ms.mem, by rw [setLabel_get_eq _ _ _ hlt, hmp]⟩
    · have : ¬ (some l.tok = some m) := fun h => hml (Option.some.inj h)
      simp [this] at hp

theorem SiteOut.split {X : RC} {gs g1 g2 : GS} {l r : Node} (tok file : Bytes) (line : Int) {ssl ssr : Stmts}
    {w w1 w2 : Walk} {k k1 k2 : Nat} {s s1 s2 : LSt} {l1 l2 : List ESite} {t1 t2 : List Instr}
    (o1 : SiteOut X gs g1 l ssl w k s s1 l1 w1 k1 t1) (o2 : SiteOut X g1 g2 r ssr w1 k1 s1 s2 l2 w2 k2 t2)
    (st2 : Step g1 g2) (sq2 : SQ g1 g2 r) (wf2 : MarksWF g2) :
    SiteOut X gs g2 (.mk NodeT.SPLIT tok file line l r) (ssl.append ssr) w k s s2 (l1 ++ l2) w2 k2 (t1 ++ t2) := by
  refine ⟨sitesStmts_append_ok o2.walk _ o1.walk, o2.ex, by rw [o2.code, o1.code, List.append_assoc], ?_, ?_, ?_, ?_, o2.ctx⟩
  · rw [pbPos_append, o1.pbs, List.map_append]
    have : gs.code.length + t1.length = g1.code.length := by rw [o1.code]; simp
    rw [this, o2.pbs]
  · rw [o2.li, o1.li, List.map_append, List.append_assoc]
  · rw [List.filterMap_append, o1.names, o2.names, defsOf_mk, if_pos rfl]
  · intro m p h
    rcases getLast?_filter_append (fun e : ESite => decide (e.2.2 = some m)) l1 l2 with e | ⟨hno, e⟩ <;> rw [e] at h
    · exact o2.last m p h
    · obtain ⟨lab, k1', k2'⟩ := o1.last m p h
      refine ⟨lab, st2.ext _ k1', sq2.keeps st2 wf2 k1' k2' fun hm' => ?_⟩
      rw [← o2.names] at hm'
      obtain ⟨e, he, hem⟩ := List.mem_filterMap.1 hm'
      simpa [hem] using hno e he

structure LoopFacts (X : RC) (gs0 m1 b res : GS) (back : Nat) : Prop where
  lkb : SLinks X b
  mwf : MarksWF m1
  pre : NoSite gs0 m1
  mlen : m1.code.length = gs0.code.length + 2
  post : NoSite b res
  rlen : b.code.length < res.code.length
  rmarks : res.top.marks = b.top.marks
  rlabels : ∀ m lab, (m, lab) ∈ b.top.marks → res.labels[lab]? = b.labels[lab]?
  jumps : loopJumpsExact X.C (gs0.code.length + 1) back res.code.length = true

theorem loopJumpsExact_ok {C : List Instr} {jc back hi : Nat} {offE offL s : Int}
    (h1 : C[jc]? = some (.jmpc offE s)) (h2 : C[hi - 1]? = some (.jmp offL))
    (h3 : (jc : Int) + offE = (hi : Int)) (h4 : ((hi - 1 : Nat) : Int) + offL = (back : Int)) :
    loopJumpsExact C jc back hi = true := by
  unfold loopJumpsExact
  simp only [h1, h2]
  simp [h3, h4]

/-- A frame whose header value is one real instruction `i1`: neither of its labels belongs to a
    mark, so the body leaves both alone and backpatching resolves them to `back` and the end. -/
theorem frame_facts {X : RC} {gs0 p1 v m1 b res : GS} {c : Int} {s e back k : Nat} {tl : List Instr} {r : Node} {i1 : Instr}
    (F : Frame gs0 p1 v m1 b res c s e back k tl) (w0 : MarksWF gs0)
    (vcode : v.code = p1.code ++ [i1]) (pre : NoSite gs0 m1) (sb : SQ m1 b r) (stb : Step m1 b)
    (post : NoSite b res) (lk : SLinks X res) : LoopFacts X gs0 m1 b res back := by
  obtain ⟨lkb, Ls, Le, hkeep⟩ := frame_labels F w0 sb stb lk
  have hs := F.startL
  have he := F.endL
  have mcode : m1.code = gs0.code ++ [i1, .jmpc (e : Int) c] := by
    rw [F.mcode, vcode, F.pcode, List.append_assoc]; rfl
  have hml : gs0.labels.length ≤ m1.labels.length := by rw [F.mlabels]; simp
  have hmlen : m1.code.length = gs0.code.length + 2 := by rw [mcode]; simp
  have hble := sb.gq.code.length_le
  have hrlen : res.code.length = b.code.length + tl.length + 1 := by rw [F.rcode]; simp; omega
  have hlast : res.code.length - 1 = b.code.length + tl.length := by omega
  refine ⟨lkb, w0.congr hml F.mmarks, pre, hmlen, post, by omega, F.rmarks, fun m lab hin => hkeep _ hin, ?_⟩
  have c1 := lk.agree (gs0.code.length + 1) (.jmpc (e : Int) c) (Nat.succ_pos _)
    (prefix_getElem? (sb.gq.code.trans F.rq.code) (by rw [mcode]; simp))
  have c2 := lk.agree (b.code.length + tl.length) (.jmp (s : Int)) (by omega)
    (by rw [F.rcode, ← List.append_assoc, ← List.length_append]; exact getElem?_snoc_len _ _)
  rw [patch_jmpc] at c1
  rw [patch_jmp] at c2
  refine loopJumpsExact_ok c1 (hlast ▸ c2) ?_ ?_
  · rw [Le]; omega
  · rw [Ls, hlast]; omega

theorem frame_site {X : RC} {gs gs0 m1 b res : GS} {d : Nat} {s s1 : LSt} {file : Bytes} {line : Int}
    {n r : Node} {st : Stmt} {body : Stmts} (hf : Framed st body (file, line) d)
    (facts : LoopFacts X gs0 m1 b res (gs0.code.length + d)) (hmb : m1.code <+: b.code) (lk : SLinks X res)
    (hcorr : SCorr X gs0 res n (.cons st .nil))
    (hbody : SiteCorr X m1 b r body ⟨file, line, .stmt⟩ s1) (hdefs : defsOf n = defsOf r)
    {t : Nat} {w : Walk} {k : Nat} {mv : Bool} (hdr : Hdr gs gs0 s file line t w k mv) (hex : Ex gs w k) :
    ∃ l w' k' t', SiteOut X gs res n (.cons st .nil) w k s ⟨s1.file, s1.line, .fresh⟩ l w' k' t' := by
  have hpos : st.pos = (file, line) := by cases hf <;> rfl
  have hmn : markName st = none := by cases hf <;> rfl
  obtain ⟨tm, mcode, mclean⟩ := facts.pre.code
  obtain ⟨tr, rcode, rclean⟩ := facts.post.code
  have hmlen := facts.mlen
  have hrlen := facts.rlen
  have hble := hmb.length_le
  have hlen0 := hdr.ex.len
  have hpre : gs0.code <+: res.code :=
    ((List.prefix_append _ _).trans (mcode ▸ hmb)).trans (rcode ▸ List.prefix_append _ _)
  obtain ⟨w', cw, sr⟩ := hcorr w (hdr.ex.at hpre lk.agree)
  rw [checkStmts_single] at cw
  obtain ⟨hh, hk⟩ := hdr.hereOf st hpos
  obtain ⟨lb, wb', kb, tb, ob⟩ := hbody { w with pc := w.pc + (if mv then k + 1 else k) + 2 } 0
    (Ex.exact (by show 0 < w.pc + _ + 2; omega) (by show w.pc + _ + 2 = _; omega))
  obtain ⟨hw0, hreal⟩ := frame_end hf cw
  have hw' : w'.pc = res.code.length := end_exact sr.at_ hw0 hreal facts.post (by omega) hrlen lk.agree
  have hj := facts.jumps
  rw [← hlen0, ← hw'] at hj
  have hwalk := sitesStmts_single ((Sim.sitesStmt_frame (e := X.e) (k := k) hf).2 ⟨hdr.notSame st hpos, _, _, _, _,
    by rw [hk]; exact ob.walk, cw, by rw [hk]; exact hj, rfl, rfl, rfl⟩)
  rw [hh, hmn] at hwalk
  obtain ⟨p1, p2, p3⟩ := hdr.pbs hex none
  have htm : tm.length = 2 := by have := congrArg List.length mcode; simp at this; omega
  refine ⟨_, w', 0, (if mv then [Instr.potBreak] else []) ++ tm ++ tb ++ tr, hwalk, Ex.exact hw0 hw', ?_, ?_, ?_, ?_, ?_,
    ⟨by rw [facts.post.fsName]; exact ob.ctx.file, by rw [facts.post.fsLine]; exact ob.ctx.line⟩⟩
  · rw [rcode, ob.code, mcode, hdr.code]; simp only [List.append_assoc]
  · rw [pbPos_append, pbPos_append, pbPos_append, p1, pbPos_clean tr _ rclean, pbPos_clean tm _ mclean,
      List.append_nil, List.append_nil, List.map_append]
    have e2 : gs.code.length + ((if mv then [Instr.potBreak] else []) ++ tm).length = m1.code.length := by
      rw [List.length_append, htm]; omega
    rw [e2, ob.pbs]
  · rw [facts.post.lineInfo, ob.li, facts.pre.lineInfo, p2, List.map_append, List.append_assoc]
  · rw [List.filterMap_append, ob.names, hdefs]
    unfold hereL; cases mv <;> simp
  · intro m p hp
    have hf' : (hereL w k file line none mv ++ lb).filter (fun e => decide (e.2.2 = some m)) =
        lb.filter (fun e => decide (e.2.2 = some m)) := by
      unfold hereL; cases mv <;> simp
    rw [hf'] at hp
    obtain ⟨lab, k1, k2⟩ := ob.last m p hp
    exact ⟨lab, facts.rmarks ▸ k1, by rw [facts.rlabels m lab k1]; exact k2⟩

theorem header_value {p1 : GS} {l : Node} (hsl : nilOr NodeT.NAME l = true) (hnl : isNil l = false)
    (hvl : valLay p1.fsName p1.fsLine false l = true) (c : Int) :
    NoSite p1 (genV p1 l c) ∧ ∃ i, (genV p1 l c).code = p1.code ++ [i] := by
  obtain ⟨tkx, fa, la, a1, a2, rfl⟩ := nameNode hnl hsl
  have hon : onLine p1.fsName p1.fsLine fa la = true := by
    rw [valLay_mk, if_neg (fun h => by cases h.1), if_neg (by decide), Bool.and_true] at hvl; exact hvl
  exact ⟨nosite_value p1 _ c hvl, name_code p1 tkx fa la a1 a2 c hon⟩

/-- LOOP and WHILE in `site_corr`: `F` is `loop_frame` / `while_frame`, and the pieces of the frame
    emit no site -/
theorem framed_site {X : RC} {gs gs0 p1 m1 res : GS} {c : Int} {sl el back k d : Nat} {tl : List Instr}
    {t : Nat} (tok file : Bytes) (line : Int) (l r : Node) {st : Stmt} {ss : Stmts}
    (F : Frame gs0 p1 (genV p1 l c) m1 (genS m1 r) res c sl el back k tl)
    (hback : (genV p1 l c).code.length = gs0.code.length + 1 → back = gs0.code.length + d)
    (hf : Framed st ss (file, line) d) (hdefs : defsOf (.mk t tok file line l r) = defsOf r)
    (hsl : nilOr NodeT.NAME l = true) (hsr : stmtShape r = true)
    (hnl : isNil l = false) (hnr : stmtNames r = true) (w0 : MarksWF gs0) (hd : Head gs0)
    {s s1 : LSt} {w : Walk} {k0 : Nat} {mv : Bool} (hdr : Hdr gs gs0 s file line t w k0 mv) (hex : Ex gs w k0)
    (hvl : valLay file line false l = true) (np : NoSite gs0 p1) (nm : NoSite (genV p1 l c) m1)
    (nr : NoSite (genS m1 r) res) (lk : SLinks X res)
    (hcorr : SCorr X gs0 res (.mk t tok file line l r) (.cons st .nil))
    (ih : m1.loops = gs0.loops + k → SLinks X (genS m1 r) → MarksWF m1 → Head m1 →
      Ctx m1 ⟨file, line, .stmt⟩ → SiteCorr X m1 (genS m1 r) r ss ⟨file, line, .stmt⟩ s1) :
    ∃ l' w' k' t', SiteOut X gs res (.mk t tok file line l r) (.cons st .nil) w k0 s ⟨s1.file, s1.line, .fresh⟩ l' w' k' t' := by
  obtain ⟨nv, i1, vcode⟩ := header_value hsl hnl (by rw [np.fsName, np.fsLine, hdr.fsName, hdr.fsLine]; exact hvl) c
  have sb := sq_void m1 r hsr hnr
  have facts := frame_facts F w0 vcode ((np.trans nv).trans nm) sb (step_void m1 r) nr lk
  rw [hback (by rw [vcode, F.pcode]; simp)] at facts
  exact frame_site hf facts sb.gq.code lk hcorr
    (ih F.mloops facts.lkb facts.mwf (hd.mono facts.pre.prefix)
      ⟨by rw [facts.pre.fsName, hdr.fsName], by rw [facts.pre.fsLine, hdr.fsLine]⟩) hdefs hdr hex

end GenSites
end Theo
