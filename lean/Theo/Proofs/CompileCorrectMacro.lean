/-
  C01 (end to end): macro extraction and macro application keep the text invariant of
  the token stream (`TokOK`: `ID` tokens are identifier-shaped or start with `#`, `TEMP_VAL`
  tokens start with `#`).

  The stages create a token of kind `ID` in exactly two places:
   * `checkInsertions` turns an out-of-range `$n` of a body into `ID "error"` (identifier-shaped);
   * `replacement` turns a `TEMP_VAL` body token `#n` into `ID (tempName "#n" file line pass)`,
     and `tempName` starts with the temporary's own text, hence with `#`.
  Everything else is copied: the remaining stream, rules and bodies (extraction), body tokens and
  the slot fillers cut out of the stream by the detector (application).

  Proofs/LocatedMacro.lean proves that for an arbitrary predicate `Q` on tokens closed under
  those two constructions; here it is applied to `TokOK`.
-/
import Theo.Proofs.CompileCorrectLex
import Theo.Proofs.LocatedMacro

namespace Theo
namespace CompileCorrect
open Loc (ClosedErr ClosedTemp)

section
variable {Q : Token → Prop}

/-- the token part of `Loc.ExInv` -/
structure EInv (Q : Token → Prop) (es : ExSt) : Prop where
  ne : es.toks ≠ []
  toks : ToksQ Q es.toks
  out : ToksQ Q es.out
  macros : ∀ m ∈ es.macros, MacQ Q m

theorem EInv.strToInt {es : ExSt} (h : EInv Q es) (text : Bytes) : EInv Q (es.strToInt text).1 := by
  unfold ExSt.strToInt
  dsimp only
  exact ite_ind ⟨h.ne, h.toks, h.out, h.macros⟩ h

end

theorem tokOK_closedErr : ClosedErr TokOK := by
  intro t _
  exact ⟨fun _ => Or.inl (show identShape [101, 114, 114, 111, 114] = true by decide),
    fun h => absurd (show Tok.ID = Tok.TEMP_VAL from h) (by decide)⟩

theorem tempName_head (text file : Bytes) (line : Int) (pass : Nat) (h : text.head? = some 35) :
    (tempName text file line pass).head? = some 35 := by
  cases text with
  | nil => cases h
  | cons c cs => simpa [tempName] using h

theorem tokOK_closedTemp : ClosedTemp TokOK := by
  intro t file line pass ht hk
  exact ⟨fun _ => Or.inr (tempName_head _ _ _ _ (ht.2 hk)),
    fun h => absurd (show Tok.ID = Tok.TEMP_VAL from h) (by decide)⟩

theorem pipeline_tokOK (fs : Files) (main : Bytes) (passes : Nat) :
    ToksOK (applyMacros (extractMacros (scan fs main).toks).toks
      (extractMacros (scan fs main).toks).macros passes).toks := by
  have h1 := Loc.extractMacros_keeps tokOK_closedErr (scan fs main).toks (scan_toks_ne_nil _ _)
    (scan_tokOK fs main)
  exact Loc.applyMacros_keeps tokOK_closedTemp _ _ passes h1.2.1 h1.2.2

end CompileCorrect
end Theo
