/-
  C04 (static rules): the static rules read off the tree (`topOK`) are the static rules
  of the typed source (`staticOK (toSource root)`), for trees of parser shape; with StaticTop.lean,
  the generator records no error iff the static rules hold (`static_iff`).
-/
import Theo.Proofs.StaticTop
import Theo.Proofs.LoopHalts

namespace Theo
namespace Static
open Sem

def arity (src : Source) (r : Nat) (g : Bytes) : Option Nat :=
  (lookupProg src g r).map (fun x => x.2.params.length)

theorem arity_zero (src : Source) (g : Bytes) : arity src 0 g = none := by
  rw [arity, LoopHalts.lookupProg_zero]; rfl

theorem arity_succ (src : Source) (k : Nat) (p : ProgDef) (h : src.progs[k]? = some p) (g : Bytes) :
    arity src (k + 1) g = if p.name = g then some p.params.length else arity src k g := by
  rw [arity, LoopHalts.lookupProg_succ src k p h]
  split <;> rfl

mutual
def sDefs : Stmts → List Name
  | .nil => []
  | .cons s ss => sDefs1 s ++ sDefs ss
def sDefs1 : Stmt → List Name
  | .mark m _ => [m]
  | .loop _ _ b _ => sDefs b
  | .while_ _ b _ => sDefs b
  | .assign _ _ _ => []
  | .goto _ _ => []
  | .ifGoto _ _ _ _ => []
  | .stop _ => []
end

mutual
theorem findLabel_isSome (m : Name) : ∀ (ss : Stmts) (k : Kont),
    (findLabel m ss k).isSome = decide (m ∈ sDefs ss)
  | .nil, k => by simp [findLabel, sDefs]
  | .cons s rest, k => by
    rw [findLabel, sDefs]
    have h1 := findLabelStmt_isSome m s rest k
    have h2 := findLabel_isSome m rest k
    cases hf : findLabelStmt m s rest k with
    | some x =>
      rw [hf] at h1
      have : m ∈ sDefs1 s := by simpa using h1.symm
      simp [this]
    | none =>
      rw [hf] at h1
      have : m ∉ sDefs1 s := by simpa using h1.symm
      simp [this, h2]
theorem findLabelStmt_isSome (m : Name) : ∀ (s : Stmt) (rest : Stmts) (k : Kont),
    (findLabelStmt m s rest k).isSome = decide (m ∈ sDefs1 s)
  | .mark m' pos, rest, k => by
    rw [findLabelStmt, sDefs1]
    by_cases h : m' = m
    · simp [h]
    · have : ¬ m = m' := fun e => h e.symm
      simp [h, this]
  | .loop id _ body _, rest, k => by
    rw [findLabelStmt, sDefs1]; exact findLabel_isSome m body _
  | .while_ x body _, rest, k => by
    rw [findLabelStmt, sDefs1]; exact findLabel_isSome m body _
  | .assign _ _ _, _, _ => by simp [findLabelStmt, sDefs1]
  | .goto _ _, _, _ => by simp [findLabelStmt, sDefs1]
  | .ifGoto _ _ _ _, _, _ => by simp [findLabelStmt, sDefs1]
  | .stop _, _, _ => by simp [findLabelStmt, sDefs1]
end

theorem sDefs_append : ∀ (a b : Stmts), sDefs (a.append b) = sDefs a ++ sDefs b
  | .nil, b => by simp [Stmts.append, sDefs]
  | .cons s ss, b => by simp [Stmts.append, sDefs, sDefs_append ss b]

theorem valuesOf_nil : valuesOf .nil = .nil := by rw [valuesOf]
theorem valueOf_nil : valueOf .nil = .num 0 := by rw [valueOf]

theorem appendV_length : ∀ (a b : Values), (Values.appendV a b).length = a.length + b.length
  | .nil, b => by simp [Values.appendV, Values.length]
  | .cons v vs, b => by simp [Values.appendV, Values.length, appendV_length vs b]; omega

theorem valuesOf_length : ∀ n : Node, (valuesOf n).length = argCount n
  | .nil => by rw [valuesOf_nil]; rfl
  | .mk t tok file line l r => by
    rw [valuesOf_mk, argCount]
    split
    · rw [appendV_length, valuesOf_length l, valuesOf_length r]
    · rfl

theorem valuesOK_appendV (src : Source) (rt : Nat) : ∀ (a b : Values),
    valuesOK src rt (Values.appendV a b) = (valuesOK src rt a && valuesOK src rt b)
  | .nil, b => by simp [Values.appendV, valuesOK]
  | .cons v vs, b => by simp [Values.appendV, valuesOK, valuesOK_appendV src rt vs b, Bool.and_assoc]

theorem genRangeBad_zero : genRangeBad 0 = false := by decide

theorem rangeOK_iff (n : Nat) : genRangeBad n = false ↔ n < 2147483647 := by
  unfold genRangeBad
  have h1 : ConstGen.genGuardRejectsMax = true := rfl
  simp only [h1, if_true]
  unfold INT_MAX
  simp
  omega

/-- a built-in call has the argument tree `SPLIT (NAME a) (SPLIT (NUMBER b) rest)` with no further
    argument in `rest` -/
theorem builtin_shape {l r : Node} (hb : builtinP l r (argCount r)) (hs : valShape true r = true) :
    ∃ tok1 f1 ln1 toka fa lna la ra tok2 f2 ln2 tokb fb lnb lb rb r2,
      r = .mk NodeT.SPLIT tok1 f1 ln1 (.mk NodeT.NAME toka fa lna la ra)
        (.mk NodeT.SPLIT tok2 f2 ln2 (.mk NodeT.NUMBER tokb fb lnb lb rb) r2) ∧ argCount r2 = 0 := by
  obtain ⟨_, hc, h1, h2⟩ := hb
  cases r with
  | nil => simp [Node.left, Node.ty, NodeT.NAME] at h1
  | mk t1 tok1 f1 ln1 l1 r1 =>
    simp only [Node.left, Node.right] at h1 h2
    have ht1 : t1 = NodeT.SPLIT := by
      refine Classical.byContradiction fun hne => ?_
      rw [argCount, if_neg hne] at hc; cases hc
    subst ht1
    rw [valShape_mk, if_pos ⟨rfl, rfl⟩, Bool.and_eq_true] at hs
    rw [argCount, if_pos rfl] at hc
    cases l1 with
    | nil => simp [Node.ty, NodeT.NAME] at h1
    | mk ta toka fa' lna la ra =>
      have hta : ta = NodeT.NAME := h1
      subst hta
      have hca : argCount (.mk NodeT.NAME toka fa' lna la ra) = 1 := by rw [argCount, if_neg (by decide)]
      rw [hca] at hc
      cases r1 with
      | nil => simp [Node.ty, NodeT.NUMBER] at h2
      | mk t2 tok2 f2 ln2 l2 r2 =>
        simp only at h2
        cases l2 with
        | nil => simp [Node.ty, NodeT.NUMBER] at h2
        | mk tb tokb fb lnb lb rb =>
          have htb : tb = NodeT.NUMBER := h2
          subst htb
          have ht2 : t2 = NodeT.SPLIT := by
            refine Classical.byContradiction fun hne => ?_
            have hs2 := hs.2
            rw [valShape_mk, if_neg (fun h => hne h.2)] at hs2
            simp [Node.ty, NodeT.NUMBER, NodeT.NAME] at hs2
          subst ht2
          have hcb : argCount (.mk NodeT.NUMBER tokb fb lnb lb rb) = 1 := by rw [argCount, if_neg (by decide)]
          refine ⟨_, _, _, _, _, _, _, _, _, _, _, _, _, _, _, _, r2, rfl, ?_⟩
          rw [argCount, if_pos rfl, hcb] at hc; omega

end Static

namespace GenShape
open Sem Static

theorem valuesOf_count0 (n : Node) (h : argCount n = 0) : valuesOf n = .nil := by
  have := valuesOf_length n
  rw [h] at this
  cases hv : valuesOf n with
  | nil => rfl
  | cons v vs => rw [hv] at this; simp [Values.length] at this

theorem builtin_values (l r : Node) (hb : builtinP l r (argCount r)) (hs : valShape true r = true) :
    valuesOf r = .cons (.var r.left.tok) (.cons (.num (decVal r.right.left.tok)) .nil) := by
  obtain ⟨_, _, _, _, _, _, _, _, _, _, _, _, _, _, _, _, r2, rfl, hc2⟩ := builtin_shape hb hs
  rw [valuesOf_mk, if_pos rfl, valuesOf_mk, if_neg (by decide), valuesOf_mk, if_pos rfl,
    valuesOf_mk, if_neg (by decide), valuesOf_count0 r2 hc2, valueOf_mk, if_pos rfl,
    valueOf_mk, if_neg (by decide), if_pos rfl]
  rfl

end GenShape

namespace Static
open Sem

theorem valueOK_call (src : Source) (rt : Nat) (f : Bytes) (args : Values) :
    valueOK src rt (.call f args) = (valuesOK src rt args && (arity src rt f == some args.length)) := by
  rw [valueOK]
  unfold arity
  cases lookupProg src f rt with
  | none => rfl
  | some x => simp

theorem values_link (src : Source) (rt : Nat) : ∀ n : Node,
    (valShape false n = true → valueOK src rt (valueOf n) = nValOK (arity src rt) false n) ∧
    (valShape true n = true → valuesOK src rt (valuesOf n) = nValOK (arity src rt) true n)
  | .nil => ⟨fun _ => by rw [valueOf_nil, valueOK, genRangeBad_zero, nValOK]; rfl,
      fun _ => by rw [valuesOf_nil, valuesOK, nValOK]⟩
  | .mk t tok file line l r => by
    have ihr := values_link src rt r
    have part1 : valShape false (.mk t tok file line l r) = true →
        valueOK src rt (valueOf (.mk t tok file line l r)) = nValOK (arity src rt) false (.mk t tok file line l r) := by
      intro hs
      rw [valShape_mk, if_neg (fun h => Bool.false_ne_true h.1)] at hs
      rw [valueOf_mk, nValOK_false_mk]
      by_cases h1 : t = NodeT.NAME
      · rw [if_pos h1, if_pos h1, valueOK]
      by_cases h2 : t = NodeT.NUMBER
      · rw [if_neg h1, if_neg h1, if_pos h2, if_pos h2, valueOK]
      obtain ⟨h3, _, hr⟩ := (of_decide_eq_true hs).resolve_left (fun h => h.1.elim h1 h2)
      rw [if_neg h1, if_neg h1, if_neg h2, if_neg h2, if_pos h3, if_pos h3, valuesOf_length]
      by_cases hb : builtinP l r (argCount r)
      · -- of the arguments of a built-in shape only the constant is checked
        rw [if_pos (show _ ∧ _ from hb), ← ihr.2 hr, GenShape.builtin_values l r hb hr, decide_eq_true hb,
          Bool.true_or, Bool.and_true]
        split <;> simp [valueOK, valuesOK]
      · rw [if_neg (show ¬ (_ ∧ _) from hb), valueOK_call, ihr.2 hr, valuesOf_length, decide_eq_false hb, Bool.false_or]
    refine ⟨part1, fun hs => ?_⟩
    rw [valuesOf_mk]
    by_cases ht : t = NodeT.SPLIT
    · subst ht
      rw [valShape_mk, if_pos ⟨rfl, rfl⟩, Bool.and_eq_true] at hs
      rw [if_pos rfl, valuesOK_appendV, (values_link src rt l).2 hs.1, ihr.2 hs.2, nValOK_true_split]
    · rw [if_neg ht, valuesOK, valuesOK, nValOK_true_ne _ _ _ _ _ _ _ ht, Bool.and_true]
      apply part1
      rw [valShape_mk, if_neg (fun h => ht h.2)] at hs
      rw [valShape_mk, if_neg (fun h => Bool.false_ne_true h.1)]
      exact hs

theorem stmtsOK_append (src : Source) (rt : Nat) (body : Stmts) : ∀ (a b : Stmts),
    stmtsOK src rt body (a.append b) = (stmtsOK src rt body a && stmtsOK src rt body b)
  | .nil, b => by simp [Stmts.append, stmtsOK]
  | .cons s ss, b => by simp [Stmts.append, stmtsOK, stmtsOK_append src rt body ss b, Bool.and_assoc]

theorem nilOr_name_ok (fa : Bytes → Option Nat) (n : Node) (h : nilOr NodeT.NAME n = true) :
    nValOK fa false n = true := by
  cases n with
  | nil => rw [nValOK]
  | mk t tok file line l r => rw [nValOK_false_mk, if_pos (of_decide_eq_true h : t = NodeT.NAME)]

theorem nilOr_number_ok (fa : Bytes → Option Nat) (n : Node) (h : nilOr NodeT.NUMBER n = true) :
    nValOK fa false n = !genRangeBad (decVal n.tok) := by
  cases n with
  | nil => rw [nValOK]; rfl
  | mk t tok file line l r =>
    obtain rfl : t = NodeT.NUMBER := of_decide_eq_true h
    rw [nValOK_false_mk, if_neg (by decide), if_pos rfl]; rfl

theorem stmts_link (src : Source) (rt : Nat) (body : Stmts) : ∀ n : Node, stmtShape n = true →
    ∀ (k : Nat) (ps : List ProgDef),
      (stmtsOf n k ps).2.2 = ps ∧
      sDefs (stmtsOf n k ps).1 = defsOf n ∧
      stmtsOK src rt body (stmtsOf n k ps).1 =
        (nStmtOK (arity src rt) n && (refsOf n).all (fun m => (findLabel m body .done).isSome)) := by
  apply stmtShape_induction
  case nil => intro k ps; rw [stmtsOf_nil]; exact ⟨rfl, rfl, rfl⟩
  case split =>
    intro tok file line l r _ _ ihl ihr k ps
    obtain ⟨a1, a2, a3⟩ := ihl k ps
    obtain ⟨b1, b2, b3⟩ := ihr (stmtsOf l k ps).2.1 (stmtsOf l k ps).2.2
    rw [stmtsOf_mk_split]
    refine ⟨b1.trans a1, by rw [sDefs_append, a2, b2]; rfl, ?_⟩
    rw [stmtsOK_append, a3, b3]
    show _ = ((nStmtOK _ l && nStmtOK _ r) && (refsOf l ++ refsOf r).all _)
    rw [List.all_append, Bool.and_assoc, Bool.and_assoc, Bool.and_left_comm ((refsOf l).all _)]
  case assign =>
    intro tok file line l r hv k ps
    rw [stmtsOf_mk_assign]
    refine ⟨rfl, rfl, ?_⟩
    simp only [stmtsOK, stmtOK, (values_link src rt r).1 hv]; rfl
  case loop =>
    intro tok file line l r hl _ ih k ps
    obtain ⟨b1, b2, b3⟩ := ih (k + 1) ps
    rw [stmtsOf_mk_loop]
    refine ⟨b1, by simp only [sDefs, sDefs1, List.append_nil, b2]; rfl, ?_⟩
    simp only [stmtsOK, stmtOK, Bool.and_true, b3]
    show _ = ((nValOK _ false l && nStmtOK _ r) && _)
    rw [nilOr_name_ok _ l hl, Bool.true_and]; rfl
  case while_ =>
    intro tok file line l r hl _ ih k ps
    obtain ⟨b1, b2, b3⟩ := ih k ps
    rw [stmtsOf_mk_while]
    refine ⟨b1, by simp only [sDefs, sDefs1, List.append_nil, b2]; rfl, ?_⟩
    simp only [stmtsOK, stmtOK, Bool.and_true, b3]
    show _ = ((nValOK _ false l && nStmtOK _ r) && _)
    rw [nilOr_name_ok _ l hl, Bool.true_and]; rfl
  case mark => intro tok file line l r k ps; rw [stmtsOf_mk_mark]; exact ⟨rfl, rfl, rfl⟩
  case goto =>
    intro tok file line l r k ps; rw [stmtsOf_mk_goto]
    refine ⟨rfl, rfl, ?_⟩
    simp only [stmtsOK, stmtOK, Bool.and_true]
    show _ = (true && [l.tok].all _)
    simp
  case if_ =>
    intro tok file line l r h1 h2 k ps; rw [stmtsOf_mk_if]
    refine ⟨rfl, rfl, ?_⟩
    simp only [stmtsOK, stmtOK, Bool.and_true]
    show _ = ((nValOK _ false l.left && nValOK _ false l.right) && [r.left.tok].all _)
    rw [nilOr_name_ok _ _ h1, nilOr_number_ok _ _ h2]
    simp
  case stop => intro tok file line l r k ps; rw [stmtsOf_mk_stop]; exact ⟨rfl, rfl, rfl⟩

theorem stmtsOf_prefix (n : Node) (k : Nat) (ps : List ProgDef) : ∃ ext, (stmtsOf n k ps).2.2 = ps ++ ext :=
  let ⟨_, _, _, new, e, _⟩ := LoopHalts.stmtsOf_idSpec n k ps
  ⟨new, e⟩

theorem body_link (src : Source) (rt : Nat) (n : Node) (hs : stmtShape n = true) (k : Nat) (ps : List ProgDef) :
    stmtsOK src rt (stmtsOf n k ps).1 (stmtsOf n k ps).1 = bodyOK (arity src rt) n := by
  obtain ⟨_, h2, h3⟩ := stmts_link src rt (stmtsOf n k ps).1 n hs k ps
  rw [h3]
  unfold bodyOK
  have : (fun m => (findLabel m (stmtsOf n k ps).1 .done).isSome) = (fun m => decide (m ∈ defsOf n)) := by
    funext m; rw [findLabel_isSome, h2]
  rw [this]

theorem top_link : ∀ (root : Node), AstShape root = true → ∀ (k : Nat) (ps : List ProgDef) (src : Source),
    (stmtsOf root k ps).2.2 = src.progs → (stmtsOf root k ps).1 = src.main →
    topOK (arity src ps.length) root =
      ((List.range' ps.length (src.progs.length + 1 - ps.length)).all (routineOK src) &&
        (src.progs.drop ps.length).all (fun pd => decide pd.params.Nodup)) := by
  apply astShape_induction
  case main =>
    intro n hs k ps src hp hm
    rw [(stmts_link src ps.length (stmtsOf n k ps).1 n hs k ps).1] at hp
    have hbody := body_link src ps.length n hs k ps
    rw [hm] at hbody
    have hb : bodyOf src ps.length = src.main := by rw [hp, Sim.bodyOf_root]
    rw [topOK_main _ n hs, ← hp, Nat.add_sub_cancel_left, List.drop_length]
    show _ = (routineOK src ps.length && true && true)
    rw [Bool.and_true, Bool.and_true, routineOK, hb, hbody]
  case prog =>
    intro tok file line tok2 file2 line2 l2 r2 r hs2 hsr ih k ps src hp hm
    rw [stmtsOf_mk_def, (stmts_link src ps.length (stmtsOf r2 k ps).1 r2 hs2 k ps).1] at hp hm
    have hbody := body_link src ps.length r2 hs2 k ps
    generalize (stmtsOf r2 k ps).1 = body at hp hm hbody
    generalize (stmtsOf r2 k ps).2.1 = k1 at hp hm
    generalize hpd : (⟨l2.left.tok, namesOf l2.right.left, outNameOf l2.right.right, body⟩ : ProgDef) = pd at hp hm
    obtain ⟨ext, hext⟩ := stmtsOf_prefix r k1 (ps ++ [pd])
    have ih := ih k1 _ src hp hm
    rw [hp, List.append_assoc] at hext
    have hget : src.progs[ps.length]? = some pd := by rw [hext, List.getElem?_append_right (Nat.le_refl _), Nat.sub_self]; rfl
    have hlt : ps.length < src.progs.length := (List.getElem?_eq_some_iff.1 hget).1
    have hfa : (fun g => if g = l2.left.tok then some (namesOf l2.right.left).length else arity src ps.length g) =
        arity src (ps.length + 1) := by
      funext g
      rw [arity_succ src ps.length _ hget g, ← hpd]
      by_cases hg : g = l2.left.tok
      · rw [if_pos hg, if_pos hg.symm]
      · rw [if_neg hg, if_neg (fun h => hg h.symm)]
    rw [topOK, if_pos ⟨rfl, rfl⟩]
    show (decide (namesOf l2.right.left).Nodup && bodyOK (arity src ps.length) r2 &&
      topOK (fun g => if g = l2.left.tok then some (namesOf l2.right.left).length else arity src ps.length g) r) = _
    rw [hfa, show src.progs.length + 1 - ps.length = (src.progs.length + 1 - (ps.length + 1)) + 1 by omega,
      List.range'_succ, List.drop_eq_getElem_cons hlt, List.all_cons, List.all_cons]
    rw [List.length_append, List.length_singleton] at ih
    rw [ih]
    have hr : routineOK src ps.length = bodyOK (arity src ps.length) r2 := by
      rw [routineOK, Sim.bodyOf_lt hget, ← hpd]; exact hbody
    have hpar : src.progs[ps.length].params = namesOf l2.right.left := by
      rw [(List.getElem_eq_iff hlt).2 hget, ← hpd]
    rw [hr, hpar]
    exact (by decide : ∀ n b x y : Bool, (n && b && (x && y)) = (b && x && (n && y))) _ _ _ _

theorem toSource_eq (root : Node) : toSource root = ⟨(stmtsOf root 0 []).2.2, (stmtsOf root 0 []).1⟩ := rfl

theorem topOK_static (root : Node) (hs : AstShape root = true) :
    topOK (fun _ => none) root = staticOK (toSource root) := by
  have h := top_link root hs 0 [] (toSource root) rfl rfl
  have hfa : arity (toSource root) ([] : List ProgDef).length = fun _ => none := by
    funext g; exact arity_zero _ g
  rw [hfa] at h
  rw [h]
  unfold staticOK
  simp [List.range_eq_range']

/-- for trees of the parser's shape, the generator records no error iff the static rules hold
    (whatever list of — ignored — syntax errors the AST value carries, as long as it is flagged ok) -/
theorem static_iff (errs : List SynErr) (root : Node) (hs : AstShape root = true) :
    (gen ⟨true, errs, root⟩).errors = [] ↔ staticOK (toSource root) = true := by
  rw [gen_errors_iff errs root hs, topOK_static root hs]

/-- an AST flagged incorrect is rejected as soon as it carries an error -/
theorem gen_rejects_bad (errs : List SynErr) (root : Node) (h : (gen ⟨false, errs, root⟩).errors = []) :
    errs = [] := by
  have := gen_errors_length ⟨false, errs, root⟩ rfl
  rw [h] at this
  exact List.eq_nil_of_length_eq_zero (Nat.le_zero.1 this)

end Static
end Theo
