/-
  One step of the reference machine is simulated by the VM, by exactly `cost cfg` real
  instructions, each preceded by at most `S` breakpoint sites (`sim_step`, by cases on the rule
  that `step_rule` gives for the step).  Before that, the relation on whole states (`Match`) and
  the agreement of the variable views it yields (`StacksAgree'`).
-/
import Theo.Proofs.SimExec


namespace Theo
namespace Sim
open Sem WF

/-- the number of real (non-site) instructions the VM executes for the next step of frame `fr`
    (for the end of a routine: the `RET`; the root's end executes nothing and halts) -/
def fcost (fr : Frame) : Nat :=
  match fr.ctrl with
  | .run =>
    match fr.focus with
    | .cons s _ =>
      match s with
      | .assign _ _ _ => 0
      | .mark _ _ => 0
      | .loop _ _ _ _ => 2          -- ADD ctr x 0; JMPC
      | .while_ _ _ _ => 2          -- ADD tmp x 0; JMPC
      | .goto _ _ => 1              -- JMP
      | .ifGoto _ _ _ _ => 4        -- ADD; CONST; TEST; JMPC
      | .stop _ => 0
    | .nil =>
      match fr.k with
      | .loop _ _ _ _ => 3          -- ADD ctr ctr -1; JMP; JMPC
      | .while_ _ _ _ _ => 3        -- JMP; ADD tmp x 0; JMPC
      | .done => 1                  -- RET
  | .eval v _ _ =>
    match v with
    | .call _ .nil => 2             -- PREPARE; EXEC
    | .call _ (.cons _ _) => 0
    | v => scost v                  -- ADD / CONST / ADD; CONST; ADD
  | .ret _ _ cs =>
    match cs with
    | [] => 0
    | c1 :: _ =>
      match c1.todo with
      | .nil => c1.done.length + 3  -- PREPARE; one ARG per argument; EXEC
      | .cons _ _ => 0
  | .wait _ _ => 0

def cost (cfg : Config) : Nat :=
  match cfg.stack with
  | fr :: _ => fcost fr
  | [] => 0

section
variable {src : Source} {p : Program}

def RestRel (V : Valid src p) (d : List Int) (r : Nat) (a : Act) (frs : List Frame)
    (as' : List Act) : Prop :=
  match frs with
  | [] => as' = [] ∧ r = src.progs.length
  | fr2 :: _ => r < src.progs.length ∧ isWait fr2 ∧
      ∃ ip2 : Nat, a.retAddr = (ip2 : Int) ∧ StackRel V d frs as' ip2 a.retTarget

theorem stackRel_cons {V : Valid src p} {d : List Int} {fr : Frame} {frs : List Frame} {a : Act}
    {as' : List Act} {ip : Nat} {rt : Int} :
    StackRel V d (fr :: frs) (a :: as') ip rt ↔
      FrameRel V d fr a ip rt ∧ RestRel V d fr.routine a frs as' := by
  cases frs with
  | nil => simp only [StackRel, RestRel]
  | cons _ _ => simp only [StackRel, RestRel]

theorem stackRel_inv {V : Valid src p} {d : List Int} {fr : Frame} {frs : List Frame}
    {as : List Act} {ip : Nat} {rt : Int} (h : StackRel V d (fr :: frs) as ip rt) :
    ∃ a as', as = a :: as' ∧ FrameRel V d fr a ip rt ∧ RestRel V d fr.routine a frs as' := by
  cases as with
  | nil => simp only [StackRel] at h
  | cons a as' => exact ⟨a, as', rfl, stackRel_cons.1 h⟩

theorem RestRel.below {V : Valid src p} {d d' : List Int} {r : Nat} {a : Act} {frs : List Frame}
    {as' : List Act} (h : RestRel V d r a frs as') (ht : Tiles as' a.dataStart)
    (hs : SameBelow a.dataStart d d') : RestRel V d' r a frs as' := by
  unfold RestRel at h ⊢
  cases frs with
  | nil => exact h
  | cons fr2 frs' =>
    obtain ⟨g1, g2, ip2, g3, g4⟩ := h
    exact ⟨g1, g2, ip2, g3, g4.below ht hs⟩

/-- the words the debugger shows agree with the reference environments: `FrameAgrees` /
    `StacksAgree` of Props/C01.lean, stated on the data array `d` alone, so that they can be
    carried along steps that change nothing else of the machine -/
def FrameAgrees' (p : Program) (d : List Int) (fr : Frame) (a : Act) : Prop :=
  a.dbg = (fr.routine : Int) ∧
  ∀ sm, p.stackMaps[fr.routine]? = some sm → ∀ e ∈ sm.map, bLoopVar.isPrefixOf e.2 = false →
    0 ≤ e.1 ∧ d[a.dataStart + e.1.toNat]? = some ((fr.env.get e.2 : Nat) : Int)

def StacksAgree' (p : Program) (d : List Int) : List Frame → List Act → Prop
  | [], [] => True
  | fr :: frs, a :: as => FrameAgrees' p d fr a ∧ StacksAgree' p d frs as
  | _, _ => False

theorem frameAgrees {V : Valid src p} (hV : V.OK) {d : List Int} {fr : Frame} {a : Act}
    (h1 : fr.routine ≤ src.progs.length) (h2 : a.dbg = (fr.routine : Int))
    (h3 : FrameOK d a (V.ri fr.routine) fr.env fr.ctrs) : FrameAgrees' p d fr a := by
  refine ⟨h2, fun sm hsm e hmem hc => ?_⟩
  obtain ⟨sm', q1, q2⟩ := hV.regs fr.routine h1
  rw [hsm] at q1
  cases q1
  have := h3.1 e.1 e.2 (by rw [q2]; exact hmem) hc
  exact ⟨this.1, this.2.2.1⟩

theorem effEnv_wait {fr : Frame} (h : isWait fr) : effEnv fr = fr.env := by
  obtain ⟨x, cs, h⟩ := h
  unfold effEnv
  rw [h]

theorem StackRel.agrees {V : Valid src p} (hV : V.OK) {d : List Int} : ∀ {frs : List Frame}
    {as : List Act} {ip : Nat} {rt : Int}, StackRel V d frs as ip rt →
    (∀ fr rest, frs = fr :: rest → effEnv fr = fr.env) → StacksAgree' p d frs as := by
  intro frs
  induction frs with
  | nil => intro as ip rt h _; simp only [StackRel] at h
  | cons fr frs ih =>
    intro as ip rt h he
    obtain ⟨a, as', rfl, h1, h2⟩ := stackRel_inv h
    simp only [StacksAgree']
    refine ⟨frameAgrees hV h1.1 h1.2.1 (he fr frs rfl ▸ h1.2.2.1), ?_⟩
    unfold RestRel at h2
    cases frs with
    | nil => rw [h2.1]; simp only [StacksAgree']
    | cons fr2 frs' =>
      obtain ⟨_, g2, ip2, _, g4⟩ := h2
      exact ih g4 (fun fr' rest' hh => by cases hh; exact effEnv_wait g2)

variable (V : Valid src p) (c : Cert) (R : PcInfo)

/-- the simulation relation: a running configuration and a certified VM state whose stacks
    correspond.  `rel`: the VM stands, up to sites, at the position `ip` of the top frame's next
    instruction; the top activation awaits no callee's result (`rt = 0`, and `top`: only frames
    below the top are waiting) -/
structure Match (cfg : Config) (vm : VM) : Prop where
  good : Good p c R.rid vm
  run : cfg.status = .running
  rel : ∃ ip : Nat, Anch p.code vm.ip ip ∧ StackRel V vm.data cfg.stack vm.stack ip 0
  top : ∀ fr rest, cfg.stack = fr :: rest → ¬ isWait fr

def Final (cfg : Config) (vm : VM) : Prop :=
  vm.isDone = .ok true ∧ StacksAgree' p vm.data cfg.stack vm.stack

/-- the outcome of simulating one step of the reference machine: the next matched state after `k`
    real instructions, or the matched `HALT` after sites alone (whatever `k`) -/
inductive StepRes (S k : Nat) (vm : VM) (cfg' : Config) : Prop where
  | run (vm' : VM) : cfg'.status = .running → SC S k vm vm' → Match V c R cfg' vm' →
      StepRes S k vm cfg'
  | halt (vm' : VM) : cfg'.status = .halted → SA S vm vm' → Final (p := p) cfg' vm' →
      StepRes S k vm cfg'

/-- the part of a matched state that a step inside the top activation leaves alone: the top
    activation `a` of routine `r` and the correspondence of the frames below it -/
structure TopCtx (vm : VM) (r : Nat) (a : Act) (as' : List Act) (rest : List Frame) : Prop where
  good : Good p c R.rid vm
  stk : vm.stack = a :: as'
  rle : r ≤ src.progs.length
  dbg : a.dbg = (r : Int)
  restrel : RestRel V vm.data r a rest as'

variable {V c R}

theorem StepRes.cast {S k l : Nat} {vm : VM} {cfg' : Config} (h : StepRes V c R S k vm cfg')
    (e : k = l) : StepRes V c R S l vm cfg' := e ▸ h

theorem TopCtx.tiles {vm : VM} {r : Nat} {a : Act} {as' : List Act} {rest : List Frame}
    (T : TopCtx V c R vm r a as' rest) : Tiles as' a.dataStart := by
  have := T.good.tiles
  rw [T.stk] at this
  exact this.2.2

theorem TopCtx.finish {vm : VM} {r : Nat} {a : Act} {as' : List Act} {rest : List Frame}
    (T : TopCtx V c R vm r a as' rest) {vm' : VM} (hg : Good p c R.rid vm')
    (hst : vm'.stack = vm.stack) (hsb : SameBelow a.dataStart vm.data vm'.data) {ip' : Nat}
    (ha : Anch p.code vm'.ip ip') {fr' : Frame} (hr : fr'.routine = r)
    (hfo : FrameOK vm'.data a (V.ri r) (effEnv fr') fr'.ctrs)
    (hat : FrameAt (V.env r) (V.G r) (Holds vm'.data a) fr' ip' 0) (hnw : ¬ isWait fr') :
    Match V c R ⟨fr' :: rest, .running⟩ vm' := by
  refine ⟨hg, rfl, ⟨ip', ha, ?_⟩, ?_⟩
  · rw [hst, T.stk]
    show StackRel V vm'.data (fr' :: rest) (a :: as') ip' 0
    rw [stackRel_cons]
    subst hr
    exact ⟨⟨T.rle, T.dbg, hfo, hat⟩, T.restrel.below T.tiles hsb⟩
  · intro fr rest' h
    cases h
    exact hnw

theorem TopCtx.run {vm : VM} {r : Nat} {a : Act} {as' : List Act} {rest : List Frame}
    (T : TopCtx V c R vm r a as' rest) {vm' : VM} (hg : Good p c R.rid vm')
    (hst : vm'.stack = vm.stack) (hsb : SameBelow a.dataStart vm.data vm'.data) {ip' : Nat}
    (ha : Anch p.code vm'.ip ip') {env : Env} {ctrs : Ctrs}
    (hfo : FrameOK vm'.data a (V.ri r) env ctrs) {focus : Stmts} {k : Kont} {pcE : Nat}
    (hss : SAt (V.env r) (V.G r) focus ip' pcE) (hk : KAt (V.env r) (V.G r) k pcE (V.G r).pc) :
    Match V c R ⟨⟨r, env, ctrs, focus, k, .run⟩ :: rest, .running⟩ vm' :=
  T.finish hg hst hsb ha rfl hfo (show ∃ _, _ ∧ _ from ⟨pcE, hss, hk⟩) (fun ⟨_, _, h⟩ => nomatch h)

theorem TopCtx.branch {vm : VM} {r : Nat} {a : Act} {as' : List Act} {rest : List Frame}
    (T : TopCtx V c R vm r a as' rest) {vm' : VM} {S j : Nat} (s : Run S j vm vm')
    (hg : Good p c R.rid vm') {ts : List Int} (hp : Pres vm vm' a ts) {n pB pX : Nat} {ipX : Int}
    (hip : vm'.ip = if n = 0 then ipX else (pB : Int)) (hX : Anch p.code ipX pX) {env : Env}
    {ctrs : Ctrs} (hfo : FrameOK vm'.data a (V.ri r) env ctrs) {body ss : Stmts} {kB kX : Kont}
    {pcB pcE : Nat} (hbody : SAt (V.env r) (V.G r) body pB pcB)
    (hkB : KAt (V.env r) (V.G r) kB pcB (V.G r).pc) (hss : SAt (V.env r) (V.G r) ss pX pcE)
    (hkX : KAt (V.env r) (V.G r) kX pcE (V.G r).pc) :
    StepRes V c R S j vm
      (if n ≠ 0 then ⟨⟨r, env, ctrs, body, kB, .run⟩ :: rest, .running⟩
       else ⟨⟨r, env, ctrs, ss, kX, .run⟩ :: rest, .running⟩) := by
  by_cases hn : n ≠ 0
  · rw [if_pos hn]
    rw [if_neg hn] at hip
    exact .run vm' rfl s.sc (T.run hg hp.stack hp.below (.of_eq hip) hfo hbody hkB)
  · rw [if_neg hn]
    rw [if_pos (Decidable.of_not_not hn)] at hip
    exact .run vm' rfl s.sc (T.run hg hp.stack hp.below (hip ▸ hX) hfo hss hkX)

theorem Match.inv {cfg : Config} {vm : VM} (hm : Match V c R cfg vm) :
    ∃ fr rest a as' ip, cfg = ⟨fr :: rest, .running⟩ ∧ TopCtx V c R vm fr.routine a as' rest ∧
      Anch p.code vm.ip ip ∧ FrameOK vm.data a (V.ri fr.routine) (effEnv fr) fr.ctrs ∧
      FrameAt (V.env fr.routine) (V.G fr.routine) (Holds vm.data a) fr ip 0 ∧ ¬ isWait fr := by
  obtain ⟨hg, hrun, ⟨ip, ha, hrel⟩, htop⟩ := hm
  obtain ⟨stack, status⟩ := cfg
  simp only at hrun hrel htop
  subst hrun
  cases stack with
  | nil => simp only [StackRel] at hrel
  | cons fr rest =>
    obtain ⟨a, as', hst, ⟨h1, h2, h3, h4⟩, hr⟩ := stackRel_inv hrel
    exact ⟨fr, rest, a, as', ip, rfl, ⟨hg, hst, h1, h2, hr⟩, ha, h3, h4, htop fr rest rfl⟩

theorem named_not_temp {e : VEnv} {live ts : List Int} {r' : Int} (hn : e.me.isNamed r' = true)
    (hts : ∀ t ∈ ts, tempOK e live t = true) : r' ∉ ts := by
  intro hm
  have := (tempOK_iff.1 (hts r' hm)).1
  rw [hn] at this
  cases this

theorem live_not_temp {e : VEnv} {live ts : List Int} {r' : Int} (hl : r' ∈ live)
    (hts : ∀ t ∈ ts, tempOK e live t = true) : r' ∉ ts := by
  intro hm
  have := (tempOK_iff.1 (hts r' hm)).2
  rw [List.contains_iff_mem.2 hl] at this
  cases this

theorem value_done {V : Valid src p} (hV : V.OK) {r : Nat} (hr : r ≤ src.progs.length)
    {d d' : List Int} {a : Act} {env : Env} {ctrs : Ctrs} {tgt : Int} {ts live : List Int} {n : Nat}
    (hother : ∀ r' w, r' ∉ tgt :: ts → Holds d a r' w → Holds d' a r' w) (hh : Holds d' a tgt n)
    (hts : ∀ t ∈ ts, tempOK (V.env r) live t = true) (hfo : FrameOK d a (V.ri r) env ctrs)
    {cs : List ECtx} {x : Name} {pc' pcS : Nat}
    (hctx : CtxAt (V.env r) (Holds d a) cs x live tgt pc' pcS) (focus : Stmts) (k : Kont) :
    FrameOK d' a (V.ri r) (effEnv ⟨r, env, ctrs, focus, k, .ret n x cs⟩) ctrs ∧
      CtxAt (V.env r) (Holds d' a) cs x live tgt pc' pcS := by
  refine ⟨?_, hctx.pres (fun t ht n' hn' => hother t n' (fun hm => ?_) hn')⟩
  · cases cs with
    | nil =>
      obtain ⟨_, hrx, _⟩ := hctx
      refine hfo.write_named (hV.nodup r hr) hrx hh (fun r' w hn hne hw => hother r' w ?_ hw)
      intro hm
      rcases List.mem_cons.1 hm with rfl | hm
      · exact hne rfl
      · exact named_not_temp (e := V.env r) hn hts hm
    | cons c1 cs' =>
      obtain ⟨live', acc, temps, pc1, tgt', pc'', _, htmp, _⟩ := hctx
      refine hfo.pres (fun r' w hn hw => hother r' w (fun hm => ?_) hw)
      rcases List.mem_cons.1 hm with rfl | hm
      · exact absurd hn (by rw [show (V.ri r).isNamed r' = _ from (tempOK_iff.1 htmp).1]; simp)
      · exact named_not_temp (e := V.env r) hn hts hm
  · rcases List.mem_cons.1 hm with rfl | hm
    · exact hctx.not_live ht
    · exact live_not_temp ht hts hm

theorem FrameOK.pres_temps {vm vm' : VM} {a : Act} {ri : RInfo} {env : Env} {ctrs : Ctrs}
    (hfo : FrameOK vm.data a ri env ctrs) {ts : List Int} (hp : Pres vm vm' a ts)
    (hts : ∀ t ∈ ts, ri.isNamed t = false) : FrameOK vm'.data a ri env ctrs :=
  hfo.pres (fun r' w hn hw => hp.other r' w (fun hm => by rw [hts r' hm] at hn; cases hn) hw)

section cases
variable {S : Nat} (hS : SiteBound p.code S) (hc : CertOK p c R) (hV : V.OK)
variable {vm : VM} {r : Nat} {a : Act} {as' : List Act} {rest : List Frame} {ip : Nat}
  {env : Env} {ctrs : Ctrs} {k : Kont} {cnt : Nat}

include hS hc hV

theorem halt_here (T : TopCtx V c R vm r a as' rest) (ha : Anch p.code vm.ip ip)
    (hh : p.code[skipc p.code ip]? = some .halt) {fr : Frame} (hr : fr.routine = r)
    (he : effEnv fr = fr.env) (hfo : FrameOK vm.data a (V.ri r) (effEnv fr) fr.ctrs)
    (hat : FrameAt (V.env r) (V.G r) (Holds vm.data a) fr ip 0) :
    StepRes V c R S cnt vm ⟨fr :: rest, .halted⟩ := by
  obtain ⟨vm1, s1, g1, ip1, st1, d1⟩ := to_anchor_c hS hc T.good ha
  refine StepRes.halt vm1 rfl s1 ⟨?_, ?_⟩
  · rw [isDone_of_fetch (g1.fetch ip1 hh)]
    rfl
  · rw [d1, st1, T.stk]
    subst hr
    have hrel : StackRel V vm.data (fr :: rest) (a :: as') ip 0 :=
      stackRel_cons.2 ⟨⟨T.rle, T.dbg, hfo, hat⟩, T.restrel⟩
    exact hrel.agrees hV (fun fr' rest' h => by cases h; exact he)

theorem push_call (T : TopCtx V c R vm r a as' rest) (ha : Anch p.code vm.ip ip)
    (hfo : FrameOK vm.data a (V.ri r) env ctrs) {f : Name} {live temps : List Int} {tgt : Int} {pc' : Nat}
    (hct : CallTail (V.env r) f live temps ip tgt pc') {vals : List Nat}
    (hh : HoldAll (Holds vm.data a) temps vals) {x : Name} {cs : List ECtx} {focus : Stmts}
    {pcS pcE : Nat} (hctx : CtxAt (V.env r) (Holds vm.data a) cs x live tgt pc' pcS)
    (hss : SAt (V.env r) (V.G r) focus pcS pcE) (hk : KAt (V.env r) (V.G r) k pcE (V.G r).pc) :
    StepRes V c R S (vals.length + 2) vm (doCall src ⟨r, env, ctrs, focus, k, .wait x cs⟩ rest f vals) := by
  obtain ⟨j, pd, hlook, hjr, hpd, hlen, vm', callee, s1, g1, ip1, st1, hra, hrt, hdbg, hsb, hfoc⟩ :=
    do_call_c hS hc hV T.rle T.good T.stk ha hct hh
  have hjn : j < src.progs.length := Nat.lt_of_lt_of_le hjr T.rle
  have hin := T.good.top_in T.stk
  rw [doCall_eq ⟨r, env, ctrs, focus, k, .wait x cs⟩ rest hlook hlen]
  refine StepRes.run vm' rfl s1 ⟨g1, rfl, ⟨V.start j, by rw [ip1]; exact Anch.self _ _, ?_⟩, ?_⟩
  · rw [st1]
    show StackRel V vm'.data (_ :: _ :: rest) (callee :: a :: as') (V.start j) 0
    rw [stackRel_cons]
    refine ⟨⟨Nat.le_of_lt hjn, hdbg, hfoc, bodyOf_lt hpd ▸ hV.entryAt (Nat.le_of_lt hjn) _ _ _⟩, ?_⟩
    · show RestRel V vm'.data j callee (_ :: rest) (a :: as')
      unfold RestRel
      refine ⟨hjn, ⟨x, cs, rfl⟩, pc', hra, ?_⟩
      rw [stackRel_cons, hrt]
      refine ⟨⟨T.rle, T.dbg, hfo.below (Nat.le_of_eq hin) hsb, ?_⟩,
        T.restrel.below T.tiles (hsb.mono (hin ▸ Nat.le_add_right _ _))⟩
      simp only [FrameAt]
      exact ⟨live, pcS, pcE, hctx.mono (fun _ _ h => h.below (Nat.le_of_eq hin) hsb), hss, hk⟩
  · intro fr rest' h
    cases h
    exact fun ⟨_, _, h⟩ => nomatch h

theorem sim_step {cfg : Config} (hm : Match V c R cfg vm) :
    StepRes V c R S (cost cfg) vm (Sem.step src cfg) := by
  obtain ⟨fr, rest, a, as', ip, rfl, T, ha, hfo, hat, hnw⟩ := hm.inv
  have hr := step_rule src fr rest
  generalize Sem.step src ⟨fr :: rest, .running⟩ = cfg' at hr
  -- the steps that execute nothing leave the VM where it is
  have stay : ∀ {fr' : Frame}, fr'.routine = fr.routine →
      FrameOK vm.data a (V.ri fr.routine) (effEnv fr') fr'.ctrs →
      FrameAt (V.env fr.routine) (V.G fr.routine) (Holds vm.data a) fr' ip 0 → ¬ isWait fr' →
      StepRes V c R S 0 vm ⟨fr' :: rest, .running⟩ := fun hr' hfo' hat' hnw' =>
    .run vm rfl (SC.refl _ _) (T.finish T.good rfl (SameBelow.refl _ _) ha hr' hfo' hat' hnw')
  have he : ∀ r, (V.env r).code = p.code := fun _ => rfl
  cases hr with
  | assign r env ctrs x v pos ss k rest =>
    obtain ⟨pcE, ⟨pc1, ⟨rx, hrx, hcv⟩, hss⟩, hk⟩ := hat
    exact stay rfl hfo (show ∃ live tgt pc' pcS pcE, _ from
      ⟨[], rx, pc1, pc1, pcE, hcv, ⟨rfl, hrx, rfl⟩, hss, hk⟩) (fun ⟨_, _, h⟩ => nomatch h)
  | mark r env ctrs m pos ss k rest =>
    obtain ⟨pcE, ⟨pc1, rfl, hss⟩, hk⟩ := hat
    exact stay rfl hfo (show ∃ _, _ ∧ _ from ⟨pcE, hss, hk⟩) (fun ⟨_, _, h⟩ => nomatch h)
  | loop r env ctrs id x body pos ss k rest =>
    replace hfo : FrameOK vm.data a (V.ri r) env ctrs := hfo
    obtain ⟨pcE, ⟨pc1, ⟨ctr, rx, offE, offL, pcB, hctr, hrx, h1, h2, hbody, h3, h4, hA1, hA2, rfl⟩,
      hss⟩, hk⟩ := hat
    obtain ⟨vm2, s2, g2, ip2, p2, hh2⟩ :=
      r_copy_jmpc hc (he r) T.good T.stk ha (hS.anch ha) h1 h2 (hS _) (hfo.reg hrx)
    have hfo2 : FrameOK vm2.data a (V.ri r) env (ctrs.set id (env.get x)) :=
      hfo.write_ctr (hV.nodup r T.rle) hctr hh2
        (fun r' w _ hne hw => p2.other r' w (by simp [hne]) hw)
    exact T.branch s2 g2 p2 ip2 hA2 hfo2 hbody
      ⟨ctr, offE, offL, (V.env r).next ip, pcE, hctr, h2, hbody, h3, h4, hA1, hA2, hss, hk⟩ hss hk
  | while_ r env ctrs x body pos ss k rest =>
    replace hfo : FrameOK vm.data a (V.ri r) env ctrs := hfo
    obtain ⟨pcE, ⟨pc1, ⟨rx, tmp, offE, offL, pcB, hrx, htmp, h1, h2, hbody, h3, hA1, hA2, rfl⟩,
      hss⟩, hk⟩ := hat
    obtain ⟨vm2, s2, g2, ip2, p2, _⟩ :=
      r_copy_jmpc hc (he r) T.good T.stk ha (hS.anch ha) h1 h2 (hS _) (hfo.reg hrx)
    have hfo2 := hfo.pres_temps p2 (fun t ht => by rw [List.mem_singleton.1 ht]; exact htmp)
    exact T.branch s2 g2 p2 ip2 hA2 hfo2 hbody
      ⟨rx, tmp, offE, offL, ip, pcE, hrx, htmp, h1, h2, hbody, h3, hA1, hA2, hss, hk⟩ hss hk
  | goto r env ctrs m pos ss k rest =>
    obtain ⟨pcE, ⟨pc1, ⟨off, h1, hg, rfl⟩, hss⟩, hk⟩ := hat
    obtain ⟨ss', K', pm, pcE', hfl, hA, hs', hk'⟩ :=
      goto_resolve (hV.chk r T.rle) (hV.res r T.rle) hg
    unfold jumpTo
    rw [hfl]
    obtain ⟨vm1, s1, g1, ip1, st1, d1⟩ := r_jmp hc T.good ha (hS.anch ha) h1
    exact .run vm1 rfl s1.sc (T.run g1 st1 (d1 ▸ SameBelow.refl _ _) (ip1 ▸ hA) (d1 ▸ hfo) hs' hk')
  | ifGoto r env ctrs x cst m pos ss k rest =>
    replace hfo : FrameOK vm.data a (V.ri r) env ctrs := hfo
    obtain ⟨pcE, ⟨pc1, ⟨rx, t1, t2, t0, off, hrx, h1, hn1, h2, hn2, hne, hlt, h3, hn0, h4, hg, rfl⟩,
      hss⟩, hk⟩ := hat
    have hx := hfo.reg hrx
    obtain ⟨_, _, vm1, s1, g1, ip1, p1, hh1⟩ :=
      r_add hc (he r) T.good T.stk ha (hS.anch ha) h1 hx (clamp_zero hx.2.2.2) hx.2.2.2
    have st1 := p1.stack.trans T.stk
    obtain ⟨_, _, vm2, s2, g2, ip2, p2, hh2⟩ := r_const hc (he r) g1 st1 (.of_eq ip1) (hS.at ip1) h2
    have hh1' : Holds vm2.data a t1 (env.get x) :=
      p2.other _ _ (fun h => hne (List.mem_singleton.1 h).symm) hh1
    obtain ⟨_, _, vm3, s3, g3, ip3, p3, hh3⟩ :=
      r_test hc (he r) g2 (p2.stack.trans st1) (.of_eq ip2) (hS.at ip2) h3 hh1'
        (hh2 cst rfl (Nat.le_of_lt hlt))
    have pall := (p1.trans p2).trans p3
    obtain ⟨vm4, s4, g4, ip4, st4, d4⟩ :=
      r_jmpc hc (he r) g3 (pall.stack.trans T.stk) (.of_eq ip3) (hS.at ip3) h4 hh3
    have p4 := pall.trans (.of_eq a [] st4 d4)
    have hfo4 : FrameOK vm4.data a (V.ri r) env ctrs := by
      refine hfo.pres_temps p4 (fun t ht => ?_)
      simp only [List.mem_append, List.mem_singleton, List.not_mem_nil, or_false] at ht
      rcases ht with (rfl | rfl) | rfl
      · exact hn1
      · exact hn2
      · exact hn0
    have sall := (((s1.trans s2).trans s3).trans s4).sc
    by_cases hn : env.get x = cst
    · rw [if_pos hn]
      rw [if_pos hn, if_pos rfl] at ip4
      obtain ⟨ss', K', pm, pcE', hfl, hA, hs', hk'⟩ :=
        goto_resolve (hV.chk r T.rle) (hV.res r T.rle) hg
      unfold jumpTo
      rw [hfl]
      exact .run vm4 rfl sall (T.run g4 p4.stack p4.below (ip4 ▸ hA) hfo4 hs' hk')
    · rw [if_neg hn]
      rw [if_neg hn, if_neg Nat.one_ne_zero] at ip4
      exact .run vm4 rfl sall (T.run g4 p4.stack p4.below (.of_eq ip4) hfo4 hss hk)
  | stop r env ctrs pos ss k rest =>
    have ⟨_, ⟨_, ⟨h1, _⟩, _⟩, _⟩ := hat
    exact halt_here hS hc hV T ha (at_code (he r) h1) rfl rfl hfo hat
  | endLoop r env ctrs id body ss k' rest =>
    replace hfo : FrameOK vm.data a (V.ri r) env ctrs := hfo
    obtain ⟨pcE, rfl, ctr, offE, offL, pJ, pcR, hctr, hJ, hbody, h3, h4, hA1, hA2, hss, hk⟩ := hat
    have hc0 := hfo.2 id ctr hctr
    obtain ⟨_, _, vm1, s1, g1, ip1, p1, hh1⟩ :=
      r_add hc (he r) T.good T.stk ha (hS.anch ha) h3 hc0 (clamp_pred hc0.2.2.2)
        (Nat.le_trans (Nat.sub_le _ _) hc0.2.2.2)
    obtain ⟨vm2, s2, g2, ip2, st2, d2⟩ := r_jmp hc g1 (.of_eq ip1) (hS.at ip1) h4
    have a2 : Anch p.code vm2.ip pJ := ip2 ▸ hA1
    obtain ⟨vm3, s3, g3, ip3, st3, d3⟩ :=
      r_jmpc hc (he r) g2 ((st2.trans p1.stack).trans T.stk) a2 (hS.anch a2) hJ (d2 ▸ hh1)
    have p3 : Pres vm vm3 a [ctr] := p1.trans (.of_eq a [] (st3.trans st2) (d3.trans d2))
    have hfo3 : FrameOK vm3.data a (V.ri r) env (ctrs.set id (ctrs.get id - 1)) :=
      hfo.write_ctr (hV.nodup r T.rle) hctr (d3 ▸ d2 ▸ hh1)
        (fun r' w _ hne hw => p3.other r' w (by simp [hne]) hw)
    exact T.branch ((s1.trans s2).trans s3) g3 p3 ip3 hA2 hfo3 hbody
      ⟨ctr, offE, offL, pJ, pcR, hctr, hJ, hbody, h3, h4, hA1, hA2, hss, hk⟩ hss hk
  | endWhile r env ctrs x body ss k' rest =>
    replace hfo : FrameOK vm.data a (V.ri r) env ctrs := hfo
    obtain ⟨pcE, rfl, rx, tmp, offE, offL, pL, pcR, hrx, htmp, h1, h2, hbody, h3, hA1, hA2, hss, hk⟩ :=
      hat
    obtain ⟨vm0, s0, g0, ip0, st0, d0⟩ := r_jmp hc T.good ha (hS.anch ha) h3
    have a0 : Anch p.code vm0.ip pL := ip0 ▸ hA1
    obtain ⟨vm2, s2, g2, ip2, p2, _⟩ :=
      r_copy_jmpc hc (he r) g0 (st0.trans T.stk) a0 (hS.anch a0) h1 h2 (hS _) (d0 ▸ hfo.reg hrx)
    have p02 : Pres vm vm2 a [tmp] := p2.after st0 d0
    have hfo2 := hfo.pres_temps p02 (fun t ht => by rw [List.mem_singleton.1 ht]; exact htmp)
    exact T.branch (s0.trans s2) g2 p02 ip2 hA2 hfo2 hbody
      ⟨rx, tmp, offE, offL, pL, pcR, hrx, htmp, h1, h2, hbody, h3, hA1, hA2, hss, hk⟩ hss hk
  | endRoot r env ctrs =>
    have ⟨pcE, hip, hpe⟩ := hat
    subst hip
    refine halt_here hS hc hV T ha ?_ rfl rfl hfo hat
    rw [hpe, show r = src.progs.length from T.restrel.2]
    exact hV.halt
  | endRet r env ctrs r2 env2 ctrs2 focus2 k2 x cs rest' =>
    replace hfo : FrameOK vm.data a (V.ri r) env ctrs := hfo
    obtain ⟨pcE, rfl, hpe⟩ := hat
    obtain ⟨hrn, _, ip2, hra, hrel2⟩ := T.restrel
    obtain ⟨b, as'', rfl, ⟨hr2, hdbg2, hfo2, live, pcS, pcE2, hctx, hss2, hk2⟩, hrest2⟩ :=
      stackRel_inv hrel2
    obtain ⟨pd, ro, hpd, _, hret, hro⟩ := hV.rout r hrn
    simp only [hpd]
    rw [hpe] at ha
    obtain ⟨vm1, s1, g1, ip1, st1, d1⟩ := to_anchor_c hS hc T.good ha
    obtain ⟨vm2, s2, g2, ipr, st2, hsame, hother, hsb⟩ :=
      x_ret hc g1 (st1.trans T.stk) ip1 (at_code (he r) hret) (d1 ▸ hfo.reg hro)
    rw [d1] at hother hsb
    have htl := T.good.tiles
    rw [T.stk] at htl
    obtain ⟨hfo', hctx'⟩ := value_done (ts := []) hV hr2
      (fun r' w hr' => hother r' w (fun e => hr' (e ▸ List.mem_cons_self))) hsame
      (fun _ h => nomatch h) hfo2 hctx focus2 k2
    refine .run vm2 rfl (s1.then s2).sc ⟨g2, rfl, ⟨ip2, .of_eq (ipr.trans hra), ?_⟩, ?_⟩
    · rw [st2]
      exact stackRel_cons.2 ⟨⟨hr2, hdbg2, hfo', live, a.retTarget, pcS, pcE2, hsame, hctx', hss2, hk2⟩,
        hrest2.below htl.2.2.2.2 hsb⟩
    · intro fr rest'' h
      cases h
      exact fun ⟨_, _, h⟩ => nomatch h
  | endStuck _ _ _ _ _ hcw =>
    obtain ⟨_, ⟨x, cs, hw⟩, _⟩ := T.restrel
    exact absurd hw (hcw x cs)
  | evalSimple r env ctrs focus k v n x cs rest hv =>
    obtain ⟨live, tgt, pc', pcS, pcE, hcv, hctx, hss, hk⟩ := hat
    obtain ⟨vm', ts, s1, g1, ip1, p1, hh, hts⟩ :=
      eval_simple_c hS hc (he r) T.good T.stk ha hfo hcv hv
    obtain ⟨hfo', hctx'⟩ := value_done hV T.rle p1.other hh hts hfo hctx focus k
    refine .run vm' rfl ?_ (T.finish (fr' := ⟨r, env, ctrs, focus, k, .ret n x cs⟩) g1 p1.stack
      p1.below (.of_eq ip1) rfl hfo'
      (show ∃ live tgt pcS pcE, _ from ⟨live, tgt, pcS, pcE, hh, hctx', hss, hk⟩)
      (fun ⟨_, _, h⟩ => nomatch h))
    cases hv <;> exact s1
  | evalCallNil r env ctrs focus k f x cs rest =>
    obtain ⟨live, tgt, pc', pcS, pcE, hcv, hctx, hss, hk⟩ := hat
    exact push_call hS hc hV T ha hfo (checkValue_call_nil hcv) (HoldAll.nil _) hctx hss hk
  | evalCallCons r env ctrs focus k f a0 as0 x cs rest =>
    obtain ⟨live, tgt, pc', pcS, pcE, hcv, hctx, hss, hk⟩ := hat
    obtain ⟨live2, t, pca, hcv0, hctx'⟩ := hctx.enter hcv
    exact stay rfl hfo (show ∃ live tgt pc' pcS pcE, _ from ⟨live2, t, pca, pcS, pcE, hcv0, hctx', hss, hk⟩)
      (fun ⟨_, _, h⟩ => nomatch h)
  | retNil r env ctrs focus k n x rest =>
    obtain ⟨live, tgt, pcS, pcE, hh, ⟨_, hrx, rfl⟩, hss, hk⟩ := hat
    exact stay rfl hfo (show ∃ _, _ ∧ _ from ⟨pcE, hss, hk⟩) (fun ⟨_, _, h⟩ => nomatch h)
  | retCall r env ctrs focus k n x f done cs' rest =>
    obtain ⟨live, tgt, pcS, pcE, hh, hctx, hss, hk⟩ := hat
    obtain ⟨live', temps, tgt', pc', htail, hacc, hctx'⟩ := hctx.call hh
    exact (push_call hS hc hV T ha hfo htail hacc hctx' hss hk).cast (by simp [cost, fcost])
  | retMore r env ctrs focus k n x f done a0 as0 cs' rest =>
    obtain ⟨live, tgt, pcS, pcE, hh, hctx, hss, hk⟩ := hat
    obtain ⟨live2, t, pca, hcv0, hctx'⟩ := hctx.more hh
    exact stay rfl hfo (show ∃ live tgt pc' pcS pcE, _ from ⟨live2, t, pca, pcS, pcE, hcv0, hctx', hss, hk⟩)
      (fun ⟨_, _, h⟩ => nomatch h)
  | waitStuck _ _ _ _ _ x cs => exact absurd ⟨x, cs, rfl⟩ hnw

end cases

end

end Sim
end Theo
