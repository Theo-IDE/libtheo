/-
  What all proofs about the VM and its debugger interface share: bounds-checked access, the
  effect of one instruction as a relation on the computation state (`Eff`), opcode patching, what
  each debugger call does to each field, and two induction principles over `Reach` — one for
  properties of the computation state, one for properties of the live code and the enabled set.
-/
import Theo.Spec.VMSpec
import Theo.Proofs.Order
import Theo.Proofs.SortedList

namespace Theo
namespace InvB

theorem rd_eq_ok {d : List Int} {i v : Int} : rd d i = .ok v ↔ 0 ≤ i ∧ d[i.toNat]? = some v := by
  unfold rd
  split
  · exact ⟨nofun, fun h => absurd h.1 (by omega)⟩
  · cases d[i.toNat]? with
    | none => exact ⟨nofun, fun h => nomatch h.2⟩
    | some w =>
      exact ⟨fun h => ⟨by omega, congrArg some (Except.ok.inj h)⟩,
        fun h => congrArg Except.ok (Option.some.inj h.2)⟩

theorem fetch_eq_ok {code : List Instr} {ip : Int} {i : Instr} :
    fetch code ip = .ok i ↔ 0 ≤ ip ∧ code[ip.toNat]? = some i := by
  unfold fetch
  split
  · exact ⟨nofun, fun h => absurd h.1 (by omega)⟩
  · cases code[ip.toNat]? with
    | none => exact ⟨nofun, fun h => nomatch h.2⟩
    | some w =>
      exact ⟨fun h => ⟨by omega, congrArg some (Except.ok.inj h)⟩,
        fun h => congrArg Except.ok (Option.some.inj h.2)⟩

theorem writeAt_ok {α ε : Type} {l l' : List α} {i : Int} {e : ε} {v : α} :
    (if i < 0 then Except.error e else
      if i.toNat < l.length then .ok (l.set i.toNat v) else .error e) = Except.ok l' ↔
    0 ≤ i ∧ i.toNat < l.length ∧ l' = l.set i.toNat v := by
  split
  · exact ⟨nofun, fun h => absurd h.1 (by omega)⟩
  · split
    · exact ⟨fun h => ⟨by omega, ‹_›, (Except.ok.inj h).symm⟩,
        fun h => congrArg Except.ok h.2.2.symm⟩
    · exact ⟨nofun, fun h => absurd h.2.1 ‹_›⟩

theorem wr_eq_ok {d d' : List Int} {i v : Int} :
    wr d i v = .ok d' ↔ 0 ≤ i ∧ i.toNat < d.length ∧ d' = d.set i.toNat v :=
  writeAt_ok

theorem setOp_eq_ok {code c : List Instr} {i : Int} {v : Instr} :
    setOp code i v = .ok c ↔ 0 ≤ i ∧ i.toNat < code.length ∧ c = code.set i.toNat v :=
  writeAt_ok

theorem wr_length {d d' : List Int} {i v : Int} (h : wr d i v = .ok d') :
    d'.length = d.length := by
  rw [(wr_eq_ok.1 h).2.2, List.length_set]

theorem wr_mem {d d' : List Int} {i v : Int} (h : wr d i v = .ok d') :
    ∀ w ∈ d', w = v ∨ w ∈ d := by
  rw [(wr_eq_ok.1 h).2.2]
  exact fun w hw => (List.mem_or_eq_of_mem_set hw).symm

theorem rd_mem {d : List Int} {i v : Int} (h : rd d i = .ok v) : v ∈ d :=
  List.mem_of_getElem? (rd_eq_ok.1 h).2

theorem fetch_mem {code : List Instr} {ip : Int} {i : Instr} (h : fetch code ip = .ok i) :
    i ∈ code :=
  List.mem_of_getElem? (fetch_eq_ok.1 h).2

theorem fetch_of_get {code : List Instr} {ip : Int} {i : Instr} (h0 : 0 ≤ ip)
    (h : code[ip.toNat]? = some i) : fetch code ip = .ok i :=
  fetch_eq_ok.2 ⟨h0, h⟩

theorem fetch_map (f : Instr → Instr) (code : List Instr) (ip : Int) :
    fetch (code.map f) ip = (fetch code ip).map f := by
  unfold fetch
  split
  · rfl
  · rw [List.getElem?_map]
    cases code[ip.toNat]? <;> rfl

theorem isDone_halt {vm : VM} (hd : vm.isDone = .ok true) :
    fetch vm.code vm.ip = .ok Instr.halt := by
  unfold VM.isDone at hd
  cases hf : fetch vm.code vm.ip with
  | error e => rw [hf] at hd; cases hd
  | ok i => rw [hf] at hd; rw [of_decide_eq_true (Except.ok.inj hd)]

theorem bind_ok {ε α β} {x : Except ε α} {f : α → Except ε β} {b : β} (h : x >>= f = .ok b) :
    ∃ a, x = .ok a ∧ f a = .ok b := by
  cases x with
  | error e => cases h
  | ok a => exact ⟨a, rfl, h⟩

/-- the flag `executeSingle` returns after the instruction `i` -/
def stopFlag : Instr → Bool → Bool
  | .halt, _ => true
  | .brk, _ => true
  | .potBreak, stepping => stepping
  | _, _ => false

theorem stopFlag_iff {i : Instr} {stepping : Bool} :
    stopFlag i stepping = true ↔ i = .halt ∨ i = .brk ∨ (i = .potBreak ∧ stepping = true) := by
  cases i <;> simp [stopFlag]

/-- `step` after the fetch, as a relation on the computation state, without the parts of the
    machine that no instruction reads or changes (code, stepping mode, enabled set): `step vm`
    succeeds exactly with the `Eff`-successors of `vm.core` (`step_spec`, `Eff.step`) -/
inductive Eff (c : Core) : Instr → Core → Prop where
  | potBreak : Eff c .potBreak { c with ip := c.ip + 1 }
  | brk : Eff c .brk { c with ip := c.ip + 1 }
  | halt : Eff c .halt c
  | add {t s k a rest v d} : c.stack = a :: rest → rd c.data (a.dataStart + s) = .ok v →
      wr c.data (a.dataStart + t) (addClamp v k) = .ok d →
      Eff c (.add t s k) { c with data := d, ip := c.ip + 1 }
  | test {t x y a rest v1 v2 d} : c.stack = a :: rest → rd c.data (a.dataStart + x) = .ok v1 →
      rd c.data (a.dataStart + y) = .ok v2 →
      wr c.data (a.dataStart + t) (if v1 = v2 then 0 else 1) = .ok d →
      Eff c (.test t x y) { c with data := d, ip := c.ip + 1 }
  | const {t k a rest d} : c.stack = a :: rest → wr c.data (a.dataStart + t) k = .ok d →
      Eff c (.const t k) { c with data := d, ip := c.ip + 1 }
  | jmp {off} : Eff c (.jmp off) { c with ip := c.ip + off }
  | jmpc {off s a rest v} : c.stack = a :: rest → rd c.data (a.dataStart + s) = .ok v →
      Eff c (.jmpc off s) { c with ip := if v = 0 then c.ip + off else c.ip + 1 }
  | prepare {cnt idx tgt} : Eff c (.prepare cnt idx tgt)
      ⟨c.ip + 1, c.data ++ List.replicate cnt.toNat 0, ⟨c.data.length, cnt, tgt, -1, idx⟩ :: c.stack⟩
  | arg {t s a b rest v d} : c.stack = a :: b :: rest → rd c.data (b.dataStart + s) = .ok v →
      wr c.data (a.dataStart + t) v = .ok d → Eff c (.arg t s) { c with data := d, ip := c.ip + 1 }
  | exec {entry a rest} : c.stack = a :: rest →
      Eff c (.exec entry) { c with stack := { a with retAddr := c.ip + 1 } :: rest, ip := entry }
  | ret {s a b rest v d} : c.stack = a :: b :: rest → rd c.data (a.dataStart + s) = .ok v →
      wr c.data (b.dataStart + a.retTarget) v = .ok d →
      Eff c (.ret s) ⟨a.retAddr, d.take a.dataStart, b :: rest⟩

theorem Eff.step_mk {i : Instr} {c c' : Core} (h : Eff c i c') (st : Bool) {code : List Instr}
    (en : List BreakPoint) (hf : fetch code c.ip = .ok i) :
    step ⟨st, c.ip, code, c.data, c.stack, en⟩ =
      .ok (⟨st, c'.ip, code, c'.data, c'.stack, en⟩, stopFlag i st) := by
  cases h with
  | potBreak | brk | halt | jmp | prepare => simp only [Theo.step, hf, bind, Except.bind]; rfl
  | add hs hv hd => simp only [Theo.step, hf, hs, hv, hd, bind, Except.bind]; rfl
  | test hs hv1 hv2 hd => simp only [Theo.step, hf, hs, hv1, hv2, hd, bind, Except.bind]; rfl
  | const hs hd => simp only [Theo.step, hf, hs, hd, bind, Except.bind]; rfl
  | jmpc hs hv => simp only [Theo.step, hf, hs, hv, bind, Except.bind]; rfl
  | arg hs hv hd => simp only [Theo.step, hf, hs, hv, hd, bind, Except.bind]; rfl
  | exec hs => simp only [Theo.step, hf, hs, bind, Except.bind]; rfl
  | ret hs hv hd => simp only [Theo.step, hf, hs, hv, hd, bind, Except.bind]; rfl

theorem Eff.step {i : Instr} {vm : VM} {c' : Core} (hf : fetch vm.code vm.ip = .ok i)
    (h : Eff vm.core i c') :
    step vm = .ok ({ vm with ip := c'.ip, data := c'.data, stack := c'.stack },
      stopFlag i vm.stepping) :=
  h.step_mk vm.stepping vm.enabled hf

theorem step_spec {vm vm' : VM} {r : Bool} (h : step vm = .ok (vm', r)) :
    ∃ i, fetch vm.code vm.ip = .ok i ∧ Eff vm.core i vm'.core ∧ vm'.code = vm.code ∧
      vm'.enabled = vm.enabled ∧ vm'.stepping = vm.stepping ∧ r = stopFlag i vm.stepping := by
  obtain ⟨st, ip, code, data, stack, en⟩ := vm
  obtain ⟨i, hf, h⟩ := bind_ok h
  refine ⟨i, hf, ?_⟩
  cases i with
  | potBreak | brk | halt | jmp | prepare => cases h; exact ⟨by constructor, rfl, rfl, rfl, rfl⟩
  | add t s k =>
    rcases stack with _ | ⟨a, rest⟩
    · cases h
    · obtain ⟨v, hv, h⟩ := bind_ok h
      obtain ⟨d, hd, h⟩ := bind_ok h
      cases h
      exact ⟨.add rfl hv hd, rfl, rfl, rfl, rfl⟩
  | test t x y =>
    rcases stack with _ | ⟨a, rest⟩
    · cases h
    · obtain ⟨v1, hv1, h⟩ := bind_ok h
      obtain ⟨v2, hv2, h⟩ := bind_ok h
      obtain ⟨d, hd, h⟩ := bind_ok h
      cases h
      exact ⟨.test rfl hv1 hv2 hd, rfl, rfl, rfl, rfl⟩
  | const t k =>
    rcases stack with _ | ⟨a, rest⟩
    · cases h
    · obtain ⟨d, hd, h⟩ := bind_ok h
      cases h
      exact ⟨.const rfl hd, rfl, rfl, rfl, rfl⟩
  | jmpc off s =>
    rcases stack with _ | ⟨a, rest⟩
    · cases h
    · obtain ⟨v, hv, h⟩ := bind_ok h
      cases h
      exact ⟨.jmpc rfl hv, rfl, rfl, rfl, rfl⟩
  | arg t s =>
    rcases stack with _ | ⟨a, _ | ⟨b, rest⟩⟩
    · cases h
    · cases h
    · obtain ⟨v, hv, h⟩ := bind_ok h
      obtain ⟨d, hd, h⟩ := bind_ok h
      cases h
      exact ⟨.arg rfl hv hd, rfl, rfl, rfl, rfl⟩
  | exec entry =>
    rcases stack with _ | ⟨a, rest⟩
    · cases h
    · cases h
      exact ⟨.exec rfl, rfl, rfl, rfl, rfl⟩
  | ret s =>
    rcases stack with _ | ⟨a, _ | ⟨b, rest⟩⟩
    · cases h
    · cases h
    · obtain ⟨v, hv, h⟩ := bind_ok h
      obtain ⟨d, hd, h⟩ := bind_ok h
      cases h
      exact ⟨.ret rfl hv hd, rfl, rfl, rfl, rfl⟩

theorem step_inv {vm vm' : VM} {r : Bool} (h : step vm = .ok (vm', r)) :
    ∃ i, fetch vm.code vm.ip = .ok i ∧ Eff vm.core i vm'.core ∧ r = stopFlag i vm.stepping :=
  let ⟨i, hf, he, _, _, _, hr⟩ := step_spec h
  ⟨i, hf, he, hr⟩

theorem step_frame {vm vm' : VM} {r : Bool} (h : step vm = .ok (vm', r)) :
    vm'.code = vm.code ∧ vm'.enabled = vm.enabled ∧ vm'.stepping = vm.stepping :=
  let ⟨_, _, _, h1, h2, h3, _⟩ := step_spec h
  ⟨h1, h2, h3⟩

theorem execTo_frame {vm vm' : VM} (h : ExecTo vm vm') :
    vm'.code = vm.code ∧ vm'.enabled = vm.enabled ∧ vm'.stepping = vm.stepping := by
  induction h with
  | stop h => exact step_frame h
  | more h _ ih =>
    have hf := step_frame h
    exact ⟨ih.1.trans hf.1, ih.2.1.trans hf.2.1, ih.2.2.trans hf.2.2⟩

theorem Eff.erase {c c' : Core} {i : Instr} (h : Eff c i c') : Eff c i.erase c' := by
  cases i with
  | brk => cases h; exact .potBreak
  | _ => exact h

theorem Eff.ip_succ {c c' : Core} {i : Instr} (h : Eff c i c') (hi : i = .brk ∨ i = .potBreak) :
    c'.ip = c.ip + 1 := by
  rcases hi with rfl | rfl <;> cases h <;> rfl

def blank (code : List Instr) (c : Core) : VM :=
  { stepping := false, ip := c.ip, code := code, data := c.data, stack := c.stack, enabled := [] }

theorem coreStep_eq (p : Program) (c : Core) :
    coreStep p c = (step (blank p.code c)).map fun r => r.1.core := rfl

theorem Eff.coreStep {p : Program} {c c' : Core} {i : Instr} (hf : fetch p.code c.ip = .ok i)
    (h : Eff c i c') : coreStep p c = .ok c' := by
  rw [coreStep_eq, Eff.step (vm := blank p.code c) hf h]
  rfl

theorem setOps_nil (code : List Instr) (x : Instr) : setOps code [] x = .ok code := rfl

theorem setOps_cons (code : List Instr) (ind : Int) (inds : List Int) (x : Instr) :
    setOps code (ind :: inds) x = (setOp code ind x).bind (fun c1 => setOps c1 inds x) := by
  simp only [setOps, List.foldlM_cons]; rfl

theorem setOps_spec {inds : List Int} {code : List Instr} {x : Instr} {c : List Instr}
    (h : setOps code inds x = .ok c) :
    c.length = code.length ∧ (∀ ind ∈ inds, 0 ≤ ind ∧ ind.toNat < code.length) ∧
    ∀ k : Nat, c[k]? = if (k : Int) ∈ inds then some x else code[k]? := by
  induction inds generalizing code with
  | nil =>
    cases h
    exact ⟨rfl, nofun, fun k => (if_neg List.not_mem_nil).symm⟩
  | cons ind inds ih =>
    rw [setOps_cons] at h
    obtain ⟨c1, h1, h⟩ := bind_ok h
    obtain ⟨h0, hlt, rfl⟩ := setOp_eq_ok.1 h1
    obtain ⟨hl, hr, hk⟩ := ih h
    rw [List.length_set] at hl hr
    refine ⟨hl, fun j hj => ?_, fun k => ?_⟩
    · rcases List.mem_cons.mp hj with rfl | hj
      · exact ⟨h0, hlt⟩
      · exact hr j hj
    · rw [hk k]
      by_cases hin : (k : Int) ∈ inds
      · rw [if_pos hin, if_pos (List.mem_cons_of_mem _ hin)]
      · rw [if_neg hin]
        by_cases hki : (k : Int) = ind
        · subst hki
          rw [if_pos List.mem_cons_self]
          exact List.getElem?_set_self hlt
        · rw [if_neg (fun hm => (List.mem_cons.mp hm).elim hki hin),
            List.getElem?_set_ne (fun e : ind.toNat = k => hki (e ▸ Int.toNat_of_nonneg h0))]

theorem setOps_exists {inds : List Int} (v : Instr) : ∀ {code : List Instr},
    (∀ i ∈ inds, 0 ≤ i ∧ i.toNat < code.length) → ∃ c', setOps code inds v = .ok c' := by
  induction inds with
  | nil => exact fun _ => ⟨_, rfl⟩
  | cons i is ih =>
    intro code h
    have hi := h i List.mem_cons_self
    rw [setOps_cons, setOp_eq_ok.2 ⟨hi.1, hi.2, rfl⟩]
    exact ih fun k hk => by rw [List.length_set]; exact h k (List.mem_cons_of_mem _ hk)

theorem setOps_mem {inds : List Int} {v : Instr} {code c' : List Instr}
    (h : setOps code inds v = .ok c') : ∀ x ∈ c', x = v ∨ x ∈ code := by
  intro x hx
  obtain ⟨j, hj⟩ := List.getElem?_of_mem hx
  rw [(setOps_spec h).2.2 j] at hj
  split at hj
  · exact Or.inl (Option.some.inj hj).symm
  · exact Or.inr (List.mem_of_getElem? hj)

theorem setOps_brk_iff {inds : List Int} {code c : List Instr} {x : Instr}
    (h : setOps code inds x = .ok c) (k : Nat) :
    c[k]? = some Instr.brk ↔
      ((k : Int) ∈ inds ∧ x = .brk) ∨ ((k : Int) ∉ inds ∧ code[k]? = some Instr.brk) := by
  rw [(setOps_spec h).2.2 k]
  by_cases hin : (k : Int) ∈ inds <;> simp [hin]

theorem restoreAll_nil (p : Program) (code : List Instr) : restoreAll p code [] = .ok code := rfl

theorem restoreAll_cons (p : Program) (code : List Instr) (bp : BreakPoint)
    (bps : List BreakPoint) :
    restoreAll p code (bp :: bps) =
      (setOps code ((p.sitesOf bp).getD []) .potBreak).bind (fun c1 => restoreAll p c1 bps) := by
  simp only [restoreAll, List.foldlM_cons]; rfl

theorem restoreAll_induct {p : Program} {Q : List Instr → Prop}
    (hQ : ∀ {code c} bp, Q code → setOps code ((p.sitesOf bp).getD []) .potBreak = .ok c → Q c)
    {bps : List BreakPoint} {code c : List Instr} (h0 : Q code)
    (h : restoreAll p code bps = .ok c) : Q c := by
  induction bps generalizing code with
  | nil => cases h; exact h0
  | cons bp bps ih =>
    rw [restoreAll_cons] at h
    obtain ⟨c1, h1, h⟩ := bind_ok h
    exact ih (hQ _ h0 h1) h

theorem sitesOf_mem {p : Program} {bp : BreakPoint} {sites : List Int}
    (h : p.sitesOf bp = some sites) : ∃ e ∈ p.potBreaks, e.2 = sites := by
  obtain ⟨e, he, hs⟩ := Option.map_eq_some_iff.1 h
  exact ⟨e, List.mem_of_find?_eq_some he, hs⟩

theorem sitesOK_sites {p : Program} (hs : SitesOK p) {bp : BreakPoint} {sites : List Int}
    (h : p.sitesOf bp = some sites) :
    ∀ i ∈ sites, 0 ≤ i ∧ p.code[i.toNat]? = some Instr.potBreak := by
  obtain ⟨e, he, rfl⟩ := sitesOf_mem h
  exact hs.1 e he

theorem sitesOK_sitesD {p : Program} (hs : SitesOK p) (bp : BreakPoint) :
    ∀ i ∈ (p.sitesOf bp).getD [], 0 ≤ i ∧ p.code[i.toNat]? = some Instr.potBreak := by
  cases h : p.sitesOf bp with
  | none => exact nofun
  | some sites => exact sitesOK_sites hs h

theorem sitesOf_none_iff (p : Program) (b : BreakPoint) :
    p.sitesOf b = none ↔ b ∉ p.available := by
  unfold Program.sitesOf Program.available
  simp only [Option.map_eq_none_iff, List.find?_eq_none, decide_eq_true_eq, List.mem_map,
    not_exists, not_and]

theorem setBreakPoint_spec {p : Program} {vm vm' : VM} {b : BreakPoint} {v r : Bool}
    (h : VM.setBreakPoint p vm b v = .ok (vm', r)) :
    (p.sitesOf b = none ∧ vm' = vm ∧ r = false) ∨ ∃ sites c, p.sitesOf b = some sites ∧ r = true ∧
      ((v = true ∧ setOps vm.code sites .brk = .ok c ∧
          vm' = { vm with code := c, enabled := sortedInsert BreakPoint.lt false b vm.enabled }) ∨
       (v = false ∧ setOps vm.code sites .potBreak = .ok c ∧
          vm' = { vm with code := c, enabled := sortedErase BreakPoint.lt b vm.enabled })) := by
  unfold VM.setBreakPoint at h
  cases hs : p.sitesOf b with
  | none => rw [hs] at h; cases h; exact Or.inl ⟨rfl, rfl, rfl⟩
  | some sites =>
    rw [hs] at h
    refine Or.inr ⟨sites, ?_⟩
    cases v with
    | true =>
      obtain ⟨c, hc, h⟩ := bind_ok h
      cases h
      exact ⟨c, rfl, rfl, Or.inl ⟨rfl, hc, rfl⟩⟩
    | false =>
      obtain ⟨c, hc, h⟩ := bind_ok h
      cases h
      exact ⟨c, rfl, rfl, Or.inr ⟨rfl, hc, rfl⟩⟩

theorem clear_ok {p : Program} {vm vm' : VM} (h : VM.clearBreakpoints p vm = .ok vm') :
    ∃ c, restoreAll p vm.code vm.enabled = .ok c ∧ vm' = { vm with code := c, enabled := [] } := by
  obtain ⟨c, hc, h⟩ := bind_ok h
  cases h
  exact ⟨c, hc, rfl⟩

theorem reset_ok {p : Program} {vm vm' : VM} (h : VM.reset p vm = .ok vm') :
    ∃ c, restoreAll p vm.code vm.enabled = .ok c ∧
      vm' = { stepping := false, ip := 0, code := c, data := [], stack := [], enabled := [] } := by
  obtain ⟨vm1, h1, h⟩ := bind_ok h
  cases h
  obtain ⟨c, hc, rfl⟩ := clear_ok h1
  exact ⟨c, hc, rfl⟩

/-- a property of the computation state that holds initially and is preserved by `step` holds
    after every history: the other calls leave ip, data and activations alone (or, `reset`, put
    them back to the initial ones) -/
theorem reach_core {p : Program} {Q : Core → Prop} (h0 : Q coreInit)
    (hstep : ∀ {vm vm' r}, Reach p vm → Q vm.core → step vm = .ok (vm', r) → Q vm'.core)
    {vm : VM} (hr : Reach p vm) : Q vm.core := by
  induction hr with
  | init => exact h0
  | call hr hc ih =>
    cases hc with
    | single h => exact hstep hr ih h
    | exec h =>
      induction h with
      | stop h => exact hstep hr ih h
      | more h _ ih2 => exact ih2 (hr.call (.single h)) (hstep hr ih h)
    | bp h =>
      rcases setBreakPoint_spec h with ⟨_, rfl, _⟩ | ⟨_, _, _, _, ⟨_, _, rfl⟩ | ⟨_, _, rfl⟩⟩ <;>
        exact ih
    | clear h => obtain ⟨_, _, rfl⟩ := clear_ok h; exact ih
    | stepping => exact ih
    | reset h => obtain ⟨_, _, rfl⟩ := reset_ok h; exact h0

theorem reach_code {p : Program} {Q : List Instr → List BreakPoint → Prop} (h0 : Q p.code [])
    (hon : ∀ {code en c b sites}, Q code en → p.sitesOf b = some sites →
      setOps code sites .brk = .ok c → Q c (sortedInsert BreakPoint.lt false b en))
    (hoff : ∀ {code en c b sites}, Q code en → p.sitesOf b = some sites →
      setOps code sites .potBreak = .ok c → Q c (sortedErase BreakPoint.lt b en))
    (hclear : ∀ {code en c}, Q code en → restoreAll p code en = .ok c → Q c [])
    {vm : VM} (hr : Reach p vm) : Q vm.code vm.enabled := by
  induction hr with
  | init => exact h0
  | call _ hc ih =>
    cases hc with
    | single h => rw [(step_frame h).1, (step_frame h).2.1]; exact ih
    | exec h => rw [(execTo_frame h).1, (execTo_frame h).2.1]; exact ih
    | bp h =>
      rcases setBreakPoint_spec h with ⟨_, rfl, _⟩ | ⟨_, _, hs, _, ⟨_, hc, rfl⟩ | ⟨_, hc, rfl⟩⟩
      · exact ih
      · exact hon ih hs hc
      · exact hoff ih hs hc
    | clear h => obtain ⟨_, hc, rfl⟩ := clear_ok h; exact hclear ih hc
    | stepping => exact ih
    | reset h => obtain ⟨_, hc, rfl⟩ := reset_ok h; exact hclear ih hc

/-- the enabled set is strictly sorted (it is a `std::set`) -/
def Sorted (l : List BreakPoint) : Prop := l.Pairwise (fun a b => BreakPoint.lt a b = true)

theorem mem_insert {x b : BreakPoint} {l : List BreakPoint} :
    x ∈ sortedInsert BreakPoint.lt false b l ↔ x = b ∨ x ∈ l :=
  mem_sortedInsert_iff _ BreakPoint.lt_tri b x l

theorem sorted_insert {b : BreakPoint} {l : List BreakPoint} (hl : Sorted l) :
    Sorted (sortedInsert BreakPoint.lt false b l) :=
  pairwise_sortedInsert _ _ (fun _ _ h => h) BreakPoint.lt_trans false nofun b l hl

theorem erase_sublist (b : BreakPoint) (l : List BreakPoint) :
    (sortedErase BreakPoint.lt b l).Sublist l := by
  induction l with
  | nil => exact List.Sublist.refl _
  | cons y ys ih =>
    unfold sortedErase
    split
    · exact ih.cons_cons y
    · exact List.sublist_cons_self y ys

theorem sorted_erase {b : BreakPoint} {l : List BreakPoint} (hl : Sorted l) :
    Sorted (sortedErase BreakPoint.lt b l) :=
  List.Pairwise.sublist (erase_sublist b l) hl

theorem mem_erase_of_ne {x b : BreakPoint} {l : List BreakPoint} (hne : x ≠ b) (h : x ∈ l) :
    x ∈ sortedErase BreakPoint.lt b l := by
  induction l with
  | nil => cases h
  | cons y ys ih =>
    unfold sortedErase
    split
    · exact (List.mem_cons.1 h).elim (· ▸ List.mem_cons_self) fun h => List.mem_cons_of_mem _ (ih h)
    · rename_i hy
      rw [Bool.or_eq_true, not_or, Bool.not_eq_true, Bool.not_eq_true] at hy
      exact (List.mem_cons.1 h).resolve_left fun e => hne (e ▸ (BreakPoint.lt_tri b y hy.1 hy.2).symm)

theorem mem_erase {x b : BreakPoint} {l : List BreakPoint} (hl : Sorted l) :
    x ∈ sortedErase BreakPoint.lt b l ↔ x ∈ l ∧ x ≠ b := by
  refine ⟨fun h => ⟨(erase_sublist b l).subset h, ?_⟩, fun h => mem_erase_of_ne h.2 h.1⟩
  rintro rfl
  unfold Sorted at hl
  induction l with
  | nil => cases h
  | cons y ys ih =>
    have hl' := List.pairwise_cons.1 hl
    unfold sortedErase at h
    split at h
    · rename_i hy
      rcases List.mem_cons.1 h with rfl | h
      · rw [BreakPoint.lt_irrefl] at hy; cases hy
      · exact ih hl'.2 h
    · rename_i hy
      rw [Bool.or_eq_true, not_or, Bool.not_eq_true, Bool.not_eq_true] at hy
      have := hl'.1 x h
      rw [BreakPoint.lt_tri x y hy.1 hy.2, BreakPoint.lt_irrefl] at this
      cases this

end InvB
end Theo
