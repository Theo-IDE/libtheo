/-
  Sanity check of the notion `KnuthLR1` (both lookahead readings): it is satisfiable.  For the
  one-rule grammar `S → a` all right sentential forms of the augmented grammar are `S'`, `S`, `a`;
  the condition holds in full and in prefix mode, and `knuth_no_conflicts` applies with every
  hypothesis discharged.
-/
import Theo.Proofs.LRConverseMain

namespace Theo
namespace LRConverse
namespace Sanity

/-- `S → a` (non-terminal 0, terminal 1; end marker 0) -/
def g0 : Grammar := Grammar.ofRules 1 [(0, [.t 1])]

def ga0 : Grammar := g0.augment 0 0

theorem ga0_alts0 : ga0.alts 0 = [[.t 1]] := by decide
theorem ga0_alts1 : ga0.alts 1 = [[.n 0]] := by decide

theorem form_handle {φ α β : List Sym} {A k : Nat} {w : List Nat}
    (hφ : φ = [.n 1] ∨ φ = [.n 0] ∨ φ = [.t 1]) (h : φ = α ++ Sym.n A :: tsyms w)
    (hk : (ga0.alts A)[k]? = some β) :
    α = [] ∧ w = [] ∧ ((A = 1 ∧ β = [.n 0]) ∨ (A = 0 ∧ β = [.t 1])) := by
  rcases hφ with rfl | rfl | rfl <;> obtain ⟨rfl, hA, rfl⟩ := singleton_split h <;> cases hA
  · rw [ga0_alts1] at hk
    exact ⟨rfl, rfl, Or.inl ⟨rfl, (getElem?_singleton hk).2⟩⟩
  · rw [ga0_alts0] at hk
    exact ⟨rfl, rfl, Or.inr ⟨rfl, (getElem?_singleton hk).2⟩⟩

theorem forms {φ : List Sym} (h : RDerives ga0 [.n 1] φ) :
    φ = [.n 1] ∨ φ = [.n 0] ∨ φ = [.t 1] := by
  induction h with
  | refl => exact Or.inl rfl
  | tail _ hstep ih =>
    obtain ⟨α, A, k, β, w, hk, rfl, rfl⟩ := rstep_inv hstep
    obtain ⟨rfl, rfl, ⟨_, rfl⟩ | ⟨_, rfl⟩⟩ := form_handle ih rfl hk
    · exact Or.inr (Or.inl rfl)
    · exact Or.inr (Or.inr rfl)

theorem handle {α β : List Sym} {A k : Nat} {w : List Nat}
    (h : RDerives ga0 [.n 1] (α ++ Sym.n A :: tsyms w)) (hk : (ga0.alts A)[k]? = some β) :
    α = [] ∧ w = [] ∧ ((A = 1 ∧ β = [.n 0]) ∨ (A = 0 ∧ β = [.t 1])) :=
  form_handle (forms h) rfl hk

theorem tsyms_eq_nil {y : List Nat} (h : tsyms y = []) : y = [] := by
  cases y with
  | nil => rfl
  | cons a y => simp [tsyms] at h

theorem g0_lr1 (pm : Bool) : KnuthLR1 ga0 1 0 pm := by
  intro α β γ ρ A kA B kB w x y h1 hk1 h2 hk2 heq _
  obtain ⟨rfl, rfl, hA⟩ := handle h1 hk1
  obtain ⟨rfl, rfl, hB⟩ := handle h2 hk2
  rcases hA with ⟨rfl, rfl⟩ | ⟨rfl, rfl⟩ <;> rcases hB with ⟨rfl, rfl⟩ | ⟨rfl, rfl⟩
  · simp only [List.nil_append, tsyms_nil, List.append_nil, List.singleton_append, List.cons.injEq,
      true_and] at heq
    exact ⟨rfl, rfl, (tsyms_eq_nil heq.symm).symm⟩
  · simp [tsyms] at heq
  · simp [tsyms] at heq
  · simp only [List.nil_append, tsyms_nil, List.append_nil, List.singleton_append, List.cons.injEq,
      true_and] at heq
    exact ⟨rfl, rfl, (tsyms_eq_nil heq.symm).symm⟩

/-- all hypotheses of `knuth_no_conflicts` hold together (here the conclusion is obtained from
    the theorem, not by evaluating the generator) -/
theorem g0_no_conflicts (pm : Bool) (fuel : Nat) : (genTables g0 0 0 pm fuel).1.conflicts = [] := by
  have hprods : g0.prods = [(0, [[.t 1]])] := by decide
  apply knuth_no_conflicts g0 0 0 pm fuel
  · simp [Grammar.Closed, hprods]
    decide
  · decide
  · decide
  · exact DetectorProofs.alts_nodup (by decide)
  · intro n hn
    obtain rfl : n = 0 := Nat.lt_one_iff.mp hn
    exact ⟨[1], .node 0 0 (.cons (.leaf 1) .nil), by decide, rfl, rfl⟩
  · exact g0_lr1 pm

end Sanity
end LRConverse
end Theo
