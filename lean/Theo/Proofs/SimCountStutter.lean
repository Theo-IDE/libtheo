/-
  C01 budget, lower bound: the exact number of consecutive instruction-free steps; the VM cannot
  finish early, and never finishes while the reference machine runs.

  The steps of the reference machine that cost no VM instruction (`cost cfg = 0`,
  SimStep.lean) are: entering `x := v`, passing a mark, descending into the first argument of
  a call, moving on to the next argument, storing a value in its variable.  `stut cfg` counts how
  many of them the configuration `cfg` is going to make in a row:
      marks*  [ `x :=` ( first-argument descents )* ]
  possibly preceded by one store / one move to the next argument.  It decreases by one with each
  such step (`stut_step`) and is bounded, on every reachable configuration, by the *stutter
  bound* of the source (`stut_le_bound`): the longest run of consecutive marks (followed by an
  assignment: plus one plus the depth of its chain of first arguments) plus one.  Hence between
  two VM instructions the reference machine makes at most `B` steps more than one, `B` a bound of
  `stut`: with `n` = reference steps, `m` = VM instructions so far the iteration keeps

      n + stut (stepN n) ≤ (B + 1) * m + B                    (`sim_iter_stut`)

  and determinism of the VM (`Steps.run`: the run from the initial state is unique and no state
  before the matched `HALT` is done) turns this into the two statements about `runFrom`.
-/
import Theo.Proofs.Simulation

namespace Theo
namespace Sim
open Sem WF
open LoopHalts (stepN stepN_succ step_fixed)

mutual
def leadV : Value → Nat
  | .call _ args => leadVs args
  | .var _ => 0
  | .num _ => 0
  | .inc _ _ => 0
  | .dec _ _ => 0
def leadVs : Values → Nat
  | .nil => 0
  | .cons a _ => leadV a + 1
end

def stutS : Stmts → Nat
  | .nil => 0
  | .cons (.mark _ _) ss => stutS ss + 1
  | .cons (.assign _ v _) _ => leadV v + 1
  | .cons (.loop _ _ _ _) _ => 0
  | .cons (.while_ _ _ _) _ => 0
  | .cons (.goto _ _) _ => 0
  | .cons (.ifGoto _ _ _ _) _ => 0
  | .cons (.stop _) _ => 0

def stutF (fr : Frame) : Nat :=
  match fr.ctrl with
  | .run => stutS fr.focus
  | .eval v _ _ => leadV v
  | .ret _ _ [] => stutS fr.focus + 1
  | .ret _ _ (c :: _) => leadVs c.todo
  | .wait _ _ => 0

def stut (cfg : Config) : Nat :=
  match cfg.stack with
  | fr :: _ => stutF fr
  | [] => 0

mutual
theorem leadV_le_vsize : ∀ v : Value, leadV v ≤ vsize v
  | .call _ args => by
    have := leadVs_le_vssize args
    simp only [leadV, vsize]
    omega
  | .var _ | .num _ | .inc .. | .dec .. => Nat.zero_le _
theorem leadVs_le_vssize : ∀ vs : Values, leadVs vs ≤ vssize vs
  | .nil => Nat.le_refl _
  | .cons a _ => by
    have := leadV_le_vsize a
    simp only [leadVs, vssize]
    omega
end

theorem stutS_le_fsize : ∀ ss : Stmts, stutS ss ≤ fsize ss
  | .nil => Nat.le_refl _
  | .cons (.mark _ _) ss => by
    have := stutS_le_fsize ss
    simp only [stutS, fsize, ssize1]
    omega
  | .cons (.assign _ v _) _ => by
    have := leadV_le_vsize v
    simp only [stutS, fsize, ssize1]
    omega
  | .cons (.loop ..) _ | .cons (.while_ ..) _ | .cons (.goto ..) _ | .cons (.ifGoto ..) _
  | .cons (.stop _) _ => Nat.zero_le _

theorem stut_le_cmeasure (cfg : Config) : stut cfg ≤ cmeasure cfg := by
  obtain ⟨stack, status⟩ := cfg
  cases stack with
  | nil => exact Nat.le_refl _
  | cons fr rest =>
    obtain ⟨r, env, ctrs, focus, k, ctrl⟩ := fr
    have hf := stutS_le_fsize focus
    cases ctrl with
    | run => exact hf
    | eval v x cs =>
      have := leadV_le_vsize v
      simp only [stut, stutF, cmeasure, fmeasure]
      omega
    | ret n x cs =>
      cases cs with
      | nil => simp only [stut, stutF, cmeasure, fmeasure, csize]; omega
      | cons c1 cs' =>
        have := leadVs_le_vssize c1.todo
        simp only [stut, stutF, cmeasure, fmeasure, csize]
        omega
    | wait x cs => exact Nat.le_refl _

theorem stut_step (src : Source) {cfg : Config} (hrun : cfg.status = .running)
    (hne : cfg.stack ≠ []) (hc0 : cost cfg = 0) (hrun' : (Sem.step src cfg).status = .running) :
    stut (Sem.step src cfg) < stut cfg := by
  obtain ⟨stack, status⟩ := cfg
  simp only at hrun
  subst hrun
  cases stack with
  | nil => exact absurd rfl hne
  | cons fr rest =>
  have hr := step_rule src fr rest
  generalize Sem.step src ⟨fr :: rest, .running⟩ = cfg' at hr hrun'
  cases hr with
  | assign | mark => simp only [stut, stutF, stutS]; omega
  | evalCallCons => simp only [stut, stutF, leadV, leadVs]; omega
  | retNil => simp only [stut, stutF]; omega
  | retMore => simp only [stut, stutF, leadVs]; omega
  | stop | waitStuck | endStuck => cases hrun'
  | evalSimple _ _ _ _ _ _ _ _ _ _ hv => cases hv <;> cases hc0
  | _ => cases hc0

/- The invariant and its preservation run parallel to those for `cmeasure` in SimCountWidth.lean
(`okStmt`, `okStmts`, `okKont`, `OkFrame`, `ok_step` there; here with `stutS` in place of `fsize`,
a `T` in the names, and `okV`/`okVs` for the argument positions of values). -/

mutual
def okV (W : Nat) : Value → Prop
  | .call _ args => leadVs args ≤ W ∧ okVs W args
  | .var _ => True
  | .num _ => True
  | .inc _ _ => True
  | .dec _ _ => True
def okVs (W : Nat) : Values → Prop
  | .nil => True
  | .cons a as => leadV a + 1 ≤ W ∧ okV W a ∧ okVs W as
end

mutual
def okStmtT (W : Nat) : Stmt → Prop
  | .assign _ v _ => okV W v
  | .loop _ _ body _ => okStmtsT W body
  | .while_ _ body _ => okStmtsT W body
  | .mark _ _ => True
  | .goto _ _ => True
  | .ifGoto _ _ _ _ => True
  | .stop _ => True
def okStmtsT (W : Nat) : Stmts → Prop
  | .nil => True
  | .cons s ss => stutS (.cons s ss) + 1 ≤ W ∧ okStmtT W s ∧ okStmtsT W ss
end

def okKontT (W : Nat) : Kont → Prop
  | .done => True
  | .loop _ body rest k => okStmtsT W body ∧ okStmtsT W rest ∧ okKontT W k
  | .while_ _ body rest k => okStmtsT W body ∧ okStmtsT W rest ∧ okKontT W k

theorem okV_lead {W : Nat} {v : Value} (h : okV W v) : leadV v ≤ W := by
  cases v with
  | call f args => exact h.1
  | var | num | inc | dec => exact Nat.zero_le _

theorem okVs_lead {W : Nat} {vs : Values} (h : okVs W vs) : leadVs vs ≤ W := by
  cases vs with
  | nil => exact Nat.zero_le _
  | cons a as => exact h.1

theorem okStmtsT_stutS {W : Nat} (hW : 1 ≤ W) {ss : Stmts} (h : okStmtsT W ss) : stutS ss + 1 ≤ W := by
  cases ss with
  | nil => exact hW
  | cons s ss => exact h.1

mutual
theorem okV_mono {W W' : Nat} (hw : W ≤ W') : ∀ v : Value, okV W v → okV W' v
  | .call _ args, h => ⟨Nat.le_trans h.1 hw, okVs_mono hw args h.2⟩
  | .var _, _ | .num _, _ | .inc .., _ | .dec .., _ => trivial
theorem okVs_mono {W W' : Nat} (hw : W ≤ W') : ∀ vs : Values, okVs W vs → okVs W' vs
  | .nil, _ => trivial
  | .cons a as, h => ⟨Nat.le_trans h.1 hw, okV_mono hw a h.2.1, okVs_mono hw as h.2.2⟩
end

mutual
theorem okStmtT_mono {W W' : Nat} (hw : W ≤ W') : ∀ s : Stmt, okStmtT W s → okStmtT W' s
  | .assign _ v _, h => okV_mono hw v h
  | .loop _ _ body _, h | .while_ _ body _, h => okStmtsT_mono hw body h
  | .mark .., _ | .goto .., _ | .ifGoto .., _ | .stop .., _ => trivial
theorem okStmtsT_mono {W W' : Nat} (hw : W ≤ W') : ∀ ss : Stmts, okStmtsT W ss → okStmtsT W' ss
  | .nil, _ => trivial
  | .cons s ss, h => ⟨Nat.le_trans h.1 hw, okStmtT_mono hw s h.2.1, okStmtsT_mono hw ss h.2.2⟩
end

mutual
def valueStut : Value → Nat
  | .call _ args => max (leadVs args) (valuesStut args)
  | .var _ => 0
  | .num _ => 0
  | .inc _ _ => 0
  | .dec _ _ => 0
def valuesStut : Values → Nat
  | .nil => 0
  | .cons a as => max (leadV a + 1) (max (valueStut a) (valuesStut as))
end

mutual
def stmtStut : Stmt → Nat
  | .assign _ v _ => valueStut v
  | .loop _ _ body _ => stmtsStut body
  | .while_ _ body _ => stmtsStut body
  | .mark _ _ => 0
  | .goto _ _ => 0
  | .ifGoto _ _ _ _ => 0
  | .stop _ => 0
def stmtsStut : Stmts → Nat
  | .nil => 0
  | .cons s ss => max (stutS (.cons s ss) + 1) (max (stmtStut s) (stmtsStut ss))
end

def progsStut : List ProgDef → Nat
  | [] => 0
  | pd :: pds => max (stmtsStut pd.body) (progsStut pds)

/-- the stutter bound of a source: 1 + the largest number of consecutive instruction-free steps
    a statement list of the source can start with (marks, then possibly `x :=` and the descent
    along first arguments), or, inside a value, the descent from an argument position -/
def srcStutter (src : Source) : Nat := max 1 (max (stmtsStut src.main) (progsStut src.progs))

mutual
theorem okV_stut : ∀ v : Value, okV (valueStut v) v
  | .call _ args => ⟨Nat.le_max_left _ _, okVs_mono (Nat.le_max_right _ _) args (okVs_stut args)⟩
  | .var _ | .num _ | .inc .. | .dec .. => trivial
theorem okVs_stut : ∀ vs : Values, okVs (valuesStut vs) vs
  | .nil => trivial
  | .cons a as =>
    ⟨Nat.le_max_left _ _,
     okV_mono (Nat.le_trans (Nat.le_max_left _ _) (Nat.le_max_right _ _)) a (okV_stut a),
     okVs_mono (Nat.le_trans (Nat.le_max_right _ _) (Nat.le_max_right _ _)) as (okVs_stut as)⟩
end

mutual
theorem okStmtT_stut : ∀ s : Stmt, okStmtT (stmtStut s) s
  | .assign _ v _ => okV_stut v
  | .loop _ _ body _ | .while_ _ body _ => okStmtsT_stut body
  | .mark .. | .goto .. | .ifGoto .. | .stop .. => trivial
theorem okStmtsT_stut : ∀ ss : Stmts, okStmtsT (stmtsStut ss) ss
  | .nil => trivial
  | .cons s ss =>
    ⟨Nat.le_max_left _ _,
     okStmtT_mono (Nat.le_trans (Nat.le_max_left _ _) (Nat.le_max_right _ _)) s (okStmtT_stut s),
     okStmtsT_mono (Nat.le_trans (Nat.le_max_right _ _) (Nat.le_max_right _ _)) ss
       (okStmtsT_stut ss)⟩
end

structure OkSrcT (W : Nat) (src : Source) : Prop where
  pos : 1 ≤ W
  main : okStmtsT W src.main
  progs : ∀ pd ∈ src.progs, okStmtsT W pd.body

theorem progsStut_ok : ∀ (pds : List ProgDef) (pd : ProgDef), pd ∈ pds →
    okStmtsT (progsStut pds) pd.body
  | [], _, h => nomatch h
  | pd0 :: pds, pd, h => by
    rcases List.mem_cons.1 h with rfl | h
    · exact okStmtsT_mono (Nat.le_max_left _ _) _ (okStmtsT_stut _)
    · exact okStmtsT_mono (Nat.le_max_right _ _) _ (progsStut_ok pds pd h)

theorem okSrcT_stutter (src : Source) : OkSrcT (srcStutter src) src :=
  ⟨Nat.le_max_left _ _,
   okStmtsT_mono (Nat.le_trans (Nat.le_max_left _ _) (Nat.le_max_right _ _)) _ (okStmtsT_stut _),
   fun pd h => okStmtsT_mono (Nat.le_trans (Nat.le_max_right _ _) (Nat.le_max_right _ _)) _
     (progsStut_ok _ pd h)⟩

theorem OkSrcT.body {W : Nat} {src : Source} (h : OkSrcT W src) (r : Nat) :
    okStmtsT W (bodyOf src r) := by
  unfold bodyOf
  split
  · rename_i pd hpd
    exact h.progs pd (List.mem_of_getElem? hpd)
  · exact h.main

theorem findLabel_okT {W : Nat} (m : Name) : ∀ (ss : Stmts) (K : Kont),
    okStmtsT W ss → okKontT W K → ∀ f k, findLabel m ss K = some (f, k) →
    okStmtsT W f ∧ okKontT W k :=
  findLabel_pres (fun _ _ h => h.2.2) (fun _ _ _ _ _ _ h hk => ⟨h.2.1, h.2.1, h.2.2, hk⟩)
    (fun _ _ _ _ _ h hk => ⟨h.2.1, h.2.1, h.2.2, hk⟩) m

theorem findLabelStmt_okT {W : Nat} (m : Name) : ∀ (s : Stmt) (rest : Stmts) (K : Kont),
    okStmtsT W (.cons s rest) → okKontT W K → ∀ f k, findLabelStmt m s rest K = some (f, k) →
    okStmtsT W f ∧ okKontT W k :=
  fun s rest K h hk f k he => findLabel_okT m (.cons s rest) K h hk f k (by rw [findLabel, he])

def okCtxs (W : Nat) : List ECtx → Prop
  | [] => True
  | c :: cs => okVs W c.todo ∧ okCtxs W cs

def okCtrl (W : Nat) : Ctrl → Prop
  | .run => True
  | .eval v _ cs => okV W v ∧ okCtxs W cs
  | .ret _ _ cs => okCtxs W cs
  | .wait _ cs => okCtxs W cs

structure OkFrameT (W : Nat) (fr : Frame) : Prop where
  focus : okStmtsT W fr.focus
  kont : okKontT W fr.k
  ctrl : okCtrl W fr.ctrl

def OkStackT (W : Nat) : List Frame → Prop
  | [] => True
  | fr :: rest => OkFrameT W fr ∧ OkStackT W rest

theorem OkFrameT.stut {W : Nat} (hW : 1 ≤ W) {fr : Frame} (h : OkFrameT W fr) : stutF fr ≤ W := by
  obtain ⟨r, env, ctrs, focus, k, ctrl⟩ := fr
  obtain ⟨hf, _, hc⟩ := h
  simp only at hf hc
  have hs := okStmtsT_stutS hW hf
  cases ctrl with
  | run => simp only [stutF]; omega
  | eval v x cs => simp only [stutF]; exact okV_lead hc.1
  | ret n x cs =>
    cases cs with
    | nil => simp only [stutF]; omega
    | cons c1 cs' => simp only [stutF]; exact okVs_lead hc.1
  | wait x cs => simp only [stutF]; omega

theorem OkStackT.stut {W : Nat} (hW : 1 ≤ W) {cfg : Config} (h : OkStackT W cfg.stack) :
    stut cfg ≤ W := by
  unfold Sim.stut
  split
  · rename_i fr rest he
    rw [he] at h
    exact h.1.stut hW
  · exact Nat.zero_le _

section
variable {W : Nat} {src : Source} (hsrc : OkSrcT W src)
include hsrc

theorem okT_doCall {fr : Frame} {rest : List Frame} (f : Name) (args : List Nat)
    (hfr : OkFrameT W fr) (hrest : OkStackT W rest) : OkStackT W (doCall src fr rest f args).stack := by
  unfold doCall
  split
  · rename_i i pd hl
    split
    · obtain ⟨_, hpd⟩ := lookupProg_spec hl
      have hb := hsrc.progs pd (List.mem_of_getElem? hpd)
      exact ⟨⟨hb, trivial, trivial⟩, hfr, hrest⟩
    · exact ⟨hfr, hrest⟩
  · exact ⟨hfr, hrest⟩

theorem okT_jumpTo {fr : Frame} {rest : List Frame} (m : Name) (hfr : OkFrameT W fr)
    (hrest : OkStackT W rest) : OkStackT W (jumpTo src fr rest m).stack := by
  unfold jumpTo
  split
  · rename_i f k2 he
    obtain ⟨h1, h2⟩ := findLabel_okT m _ .done (hsrc.body fr.routine) trivial f k2 he
    exact ⟨⟨h1, h2, hfr.ctrl⟩, hrest⟩
  · exact ⟨hfr, hrest⟩

theorem okT_step {cfg : Config} (h : OkStackT W cfg.stack) : OkStackT W (Sem.step src cfg).stack := by
  obtain ⟨stack, status⟩ := cfg
  cases status with
  | halted => exact h
  | stuck => exact h
  | running =>
  cases stack with
  | nil => exact h
  | cons fr rest =>
  obtain ⟨hfr, hrest⟩ := h
  obtain ⟨hf, hk, hc⟩ := hfr
  have hr := step_rule src fr rest
  generalize Sem.step src ⟨fr :: rest, .running⟩ = cfg' at hr
  cases hr with
  | assign => exact ⟨⟨hf.2.2, hk, hf.2.1, trivial⟩, hrest⟩
  | mark => exact ⟨⟨hf.2.2, hk, trivial⟩, hrest⟩
  | loop | while_ =>
    split
    · exact ⟨⟨hf.2.1, ⟨hf.2.1, hf.2.2, hk⟩, trivial⟩, hrest⟩
    · exact ⟨⟨hf.2.2, hk, trivial⟩, hrest⟩
  | goto => exact okT_jumpTo hsrc _ ⟨hf, hk, trivial⟩ hrest
  | ifGoto =>
    split
    · exact okT_jumpTo hsrc _ ⟨hf, hk, trivial⟩ hrest
    · exact ⟨⟨hf.2.2, hk, trivial⟩, hrest⟩
  | endLoop | endWhile =>
    split
    · exact ⟨⟨hk.1, hk, trivial⟩, hrest⟩
    · exact ⟨⟨hk.2.1, hk.2.2, trivial⟩, hrest⟩
  | endRet => exact ⟨⟨hrest.1.focus, hrest.1.kont, hrest.1.ctrl⟩, hrest.2⟩
  | evalSimple => exact ⟨⟨hf, hk, hc.2⟩, hrest⟩
  | evalCallNil => exact okT_doCall hsrc _ [] ⟨hf, hk, hc.2⟩ hrest
  | evalCallCons => exact ⟨⟨hf, hk, hc.1.2.2.1, hc.1.2.2.2, hc.2⟩, hrest⟩
  | retNil => exact ⟨⟨hf, hk, trivial⟩, hrest⟩
  | retCall => exact okT_doCall hsrc _ _ ⟨hf, hk, hc.2⟩ hrest
  | retMore => exact ⟨⟨hf, hk, hc.1.2.1, hc.1.2.2, hc.2⟩, hrest⟩
  | _ => exact ⟨⟨hf, hk, hc⟩, hrest⟩

theorem okT_iter (n : Nat) : OkStackT W (stepN src n (initial src)).stack := by
  induction n with
  | zero => exact ⟨⟨hsrc.main, trivial, trivial⟩, trivial⟩
  | succ n ih => rw [stepN_succ]; exact okT_step hsrc ih

end

theorem stut_le_bound (src : Source) (n : Nat) : stut (stepN src n (initial src)) ≤ srcStutter src :=
  (okT_iter (okSrcT_stutter src) n).stut (okSrcT_stutter src).pos

section
variable {src : Source} {p : Program} {V : Valid src p} {c : Cert} {R : PcInfo} {S : Nat}
  (hS : SiteBound p.code S) (hc : CertOK p c R) (hV : V.OK)
  (hsk : SkipsS p.code S src.progs.length 1 (V.start src.progs.length))
include hS hc hV hsk

theorem sim_iter_stut {B : Nat} (hB : ∀ n, stut (stepN src n (initial src)) ≤ B) : ∀ n,
    ((stepN src n (initial src)).status = .running →
      ∃ m vm, Steps (VM.mk' p) m vm ∧ Match V c R (stepN src n (initial src)) vm ∧
        n + stut (stepN src n (initial src)) ≤ (B + 1) * m + B) ∧
    ((stepN src n (initial src)).status = .halted →
      ∃ n0 m vm, (stepN src n0 (initial src)).status = .halted ∧ n0 ≤ (B + 1) * (m + 1) ∧
        Steps (VM.mk' p) m vm ∧ Final (p := p) (stepN src n0 (initial src)) vm) := by
  intro n
  induction n with
  | zero =>
    refine ⟨fun _ => ?_, fun h => ?_⟩
    · obtain ⟨vm, ⟨m, _, _, hs⟩, hm⟩ := init_match hc hV hsk
      have := hB 0
      exact ⟨m, vm, hs, hm, by omega⟩
    · cases h
  | succ n ih =>
    have e := stepN_succ src n (initial src)
    by_cases hr : (stepN src n (initial src)).status = .running
    · obtain ⟨m, vm, hs, hm, hle⟩ := ih.1 hr
      have hres := sim_step hS hc hV hm
      rw [← e] at hres
      have hB1 := hB (n + 1)
      refine ⟨fun h => ?_, fun h => ?_⟩
      · cases hres with
        | run vm' _ hs' hm' =>
          obtain ⟨j, hj1, _, hsj⟩ := hs'
          refine ⟨m + j, vm', hs.trans hsj, hm', ?_⟩
          have e1 : (B + 1) * (m + j) = (B + 1) * m + (B + 1) * j := Nat.mul_add _ _ _
          by_cases hc0 : cost (stepN src n (initial src)) = 0
          · have hne : (stepN src n (initial src)).stack ≠ [] := by
              obtain ⟨fr, rest, _, _, _, hcfg, _⟩ := hm.inv
              rw [hcfg]
              exact fun hh => nomatch hh
            have hlt := stut_step src hr hne hc0 (by rw [← e]; exact h)
            rw [← e] at hlt
            omega
          · have hj : 1 ≤ j := by omega
            have := Nat.mul_le_mul_left (B + 1) hj
            omega
        | halt vm' hh _ _ => rw [hh] at h; cases h
      · cases hres with
        | run vm' hh _ _ => rw [hh] at h; cases h
        | halt vm' hh hs' hf =>
          obtain ⟨j, _, hj⟩ := hs'
          refine ⟨n + 1, m + j, vm', hh, ?_, hs.trans hj, hf⟩
          have e1 : (B + 1) * (m + j + 1) = (B + 1) * m + (B + 1) * j + (B + 1) := by
            rw [Nat.mul_succ, Nat.mul_add]
          omega
    · rw [e, step_fixed src _ hr]
      exact ⟨fun h => absurd h hr, ih.2⟩

theorem diverges_sim (hd : ∀ n, (stepN src n (initial src)).status = .running) (m : Nat) :
    ∃ vt, runFrom (VM.mk' p) m = .ok vt ∧ vt.isDone = .ok false := by
  have hB := stut_le_bound src
  obtain ⟨k, vm, hs, _, hle⟩ :=
    (sim_iter_stut hS hc hV hsk hB ((srcStutter src + 1) * m + srcStutter src + 1)).1 (hd _)
  refine hs.run.2 m (Nat.lt_of_not_le fun hkm => ?_)
  have := Nat.mul_le_mul_left (srcStutter src + 1) hkm
  omega

theorem budget_sim_stut {B : Nat} (hB : ∀ n, stut (stepN src n (initial src)) ≤ B) {mm : Nat}
    {vmf : VM} (hrun : runFrom (VM.mk' p) mm = .ok vmf) (hd : vmf.isDone = .ok true) :
    ∃ n, n ≤ (B + 1) * (mm + 1) ∧ (stepN src n (initial src)).status = .halted := by
  by_cases hex : ∃ n, (stepN src n (initial src)).status = .halted
  · obtain ⟨n, hn⟩ := hex
    obtain ⟨n0, m, vm, h0, hle, hs, _⟩ := (sim_iter_stut hS hc hV hsk hB n).2 hn
    have hm : m ≤ mm := by
      apply Nat.le_of_not_lt
      intro hlt
      obtain ⟨vt, h1, h2⟩ := hs.run.2 mm hlt
      rw [hrun] at h1
      cases h1
      rw [hd] at h2
      cases h2
    exact ⟨n0, Nat.le_trans hle (Nat.mul_le_mul_left _ (by omega)), h0⟩
  · exfalso
    have hdiv : ∀ n, (stepN src n (initial src)).status = .running := by
      intro n
      have h1 := (pinv_iter hV n).1
      have h2 : (stepN src n (initial src)).status ≠ .halted := fun h => hex ⟨n, h⟩
      cases hst : (stepN src n (initial src)).status with
      | running => rfl
      | halted => exact absurd hst h2
      | stuck => exact absurd hst h1
    obtain ⟨vt, h1, h2⟩ := diverges_sim hS hc hV hsk hdiv mm
    rw [hrun] at h1
    cases h1
    rw [hd] at h2
    cases h2

end

end Sim
end Theo
