/-
  C04 (sugar) — scanner facts for the front end: the include phrase `include "__standards__"`
  prepended to the main file lexes as INCLUDE FNAME and leaves the lexing of the file's own text
  untouched (`lexBuffer_phrase`); the scanner only produces token kinds up to `WITH`
  (`scan_scanned`); a file without `include` is just labelled (`scanToksWith_noinc`).
-/
import Theo.Spec.Sugar
import Theo.Proofs.LexProofs
import Theo.Proofs.LocatedScan
import Theo.Proofs.Invariant

namespace Theo.Sugar

theorem lexFrom_fuel : ∀ (f1 f2 : Nat) (inp : Bytes) (line : Nat), inp.length < f1 → inp.length < f2 →
    lexFrom LexGen.rules f1 inp line = lexFrom LexGen.rules f2 inp line := by
  intro f1
  induction f1 with
  | zero => intro f2 inp line h; omega
  | succ f1 ih =>
    intro f2 inp line h1 h2
    obtain ⟨f2, rfl⟩ := pos_fuel h2
    cases inp with
    | nil => rfl
    | cons c cs =>
      simp only [lexFrom]
      cases hl : longest (LexGen.rules.map (·.1)) (c :: cs) with
      | none => rfl
      | some v =>
        obtain ⟨i, n⟩ := v
        obtain ⟨hn0, hn1⟩ := longest_some_bounds hl
        have hd : ((c :: cs).drop n).length < f1 ∧ ((c :: cs).drop n).length < f2 := by
          rw [List.length_drop]; simp only [List.length_cons] at h1 h2 hn1 ⊢; omega
        simp only [ih f2 _ _ hd.1 hd.2]

abbrev R : List Rx := LexGen.rules.map (·.1)

/-- one token of `lexFrom` when the longest match, the word `w`, is decided inside the known
    bytes `w ++ la`; `k` is the kind of the deciding rule (`none`: the word is skipped) -/
theorem lexFrom_known (w la q inp : Bytes) (f line : Nat) (k : Option Nat) (he : inp = w ++ la ++ q)
    (hw : w ≠ [])
    (h : (longest R (w ++ la)).map (fun x => ((LexGen.rules[x.1]?).bind (·.2), x.2)) = some (k, w.length) ∧
      spentAfter R (w ++ la) = true) :
    lexFrom LexGen.rules (f + 1) inp line =
      (k.map (fun k => (⟨k, w, line + countNl w⟩ : RawTok))).toList ++
        lexFrom LexGen.rules f (la ++ q) (line + countNl w) := by
  obtain ⟨⟨i, n⟩, hd, hx⟩ := Option.map_eq_some_iff.1 h.1
  obtain ⟨rfl, rfl⟩ := Prod.mk.inj hx
  have hl := longest_decided hd h.2 q
  rw [← he] at hl
  have ht : inp.take w.length = w := by rw [he, List.append_assoc, List.take_left' rfl]
  have hdr : inp.drop w.length = la ++ q := by rw [he, List.append_assoc, List.drop_left' rfl]
  cases inp with
  | nil => rw [List.take_nil] at ht; exact absurd ht.symm hw
  | cons c t =>
    simp only [lexFrom, hl, ht, hdr]
    cases (LexGen.rules[i]?).bind (·.2) <;> rfl

def incWord : Bytes := ConstGen.includePhrase.take 7
def incQuoted : Bytes := ConstGen.includePhrase.drop 8

/-- the include phrase `include "__standards__"` in front of a text: under the regenerated lexer
    rules `include` followed by a blank is the keyword, the blank is skipped, the quoted name is
    one FNAME token after which every rule is dead or completed (three closed runs of the rules
    over the phrase, by `decide +kernel`), and the text is lexed as on its own -/
theorem lexBuffer_phrase (content : Bytes) :
    lexBuffer (ConstGen.includePhrase ++ content) =
      ⟨Tok.INCLUDE, incWord, 1⟩ :: ⟨Tok.FNAME, incQuoted, 1⟩ :: lexBuffer content := by
  unfold lexBuffer
  rw [Loc.cstr_phrase]
  generalize cstr content = c'
  show lexFrom LexGen.rules ((ConstGen.includePhrase ++ c').length + 1) (ConstGen.includePhrase ++ c') 1 =
    ⟨Tok.INCLUDE, incWord, 1⟩ :: ⟨Tok.FNAME, incQuoted, 1⟩ :: lexFrom LexGen.rules (c'.length + 1) c' 1
  have hlen : (ConstGen.includePhrase ++ c').length + 1 = (c'.length + 21) + 1 + 1 + 1 := by
    rw [List.length_append, show ConstGen.includePhrase.length = 23 by decide]; omega
  rw [hlen,
    lexFrom_known incWord (32 :: incQuoted) c' (ConstGen.includePhrase ++ c') _ 1 (some Tok.INCLUDE)
      (by rw [show ConstGen.includePhrase = incWord ++ 32 :: incQuoted by decide]) (by decide)
      (by decide +kernel),
    lexFrom_known [32] incQuoted c' (32 :: incQuoted ++ c') _ _ none rfl (by decide) (by decide +kernel),
    lexFrom_known incQuoted [] c' (incQuoted ++ c') _ _ (some Tok.FNAME) (by simp) (by decide)
      (by decide +kernel),
    List.nil_append, lexFrom_fuel (c'.length + 21) (c'.length + 1) c' _ (by omega) (by omega)]
  rfl

theorem lexRules_kinds_le : ∀ r ∈ LexGen.rules, ∀ k, r.2 = some k → k ≤ Tok.WITH := by
  have h : LexGen.rules.all (fun r => match r.2 with | some k => decide (k ≤ Tok.WITH) | none => true) = true := by
    decide +kernel
  intro r hr k hk
  have := List.all_eq_true.1 h r hr
  rw [hk] at this
  simpa using this

theorem lexBuffer_kind_le (content : Bytes) : ∀ t ∈ lexBuffer content, t.kind ≤ Tok.WITH := by
  intro t ht
  apply Nat.le_of_not_lt
  intro hlt
  refine lexFrom_kind_ne LexGen.rules t.kind (fun r hr he => ?_) _ _ _ t ht rfl
  have := lexRules_kinds_le r hr _ he
  omega

theorem scanFile_kinds_le (files : Files) (d : Nat) (active : List Bytes) (fname content : Bytes) :
    ∀ t ∈ (scanFile d files active fname content).toks, t.kind ≤ Tok.WITH := by
  intro t ht
  obtain ⟨r, hr, hk, _⟩ := (scanFile_raw files (fun _ r => r.kind ≤ Tok.WITH)
    (fun _ c _ => lexBuffer_kind_le c) d active fname content (lexBuffer_kind_le content)).1 t ht
  rw [hk]; exact hr

theorem scan_kinds_le (files : Files) (main : Bytes) : ∀ t ∈ (scan files main).toks, t.kind ≤ Tok.WITH :=
  scan_toks_ind files main _ (fun c _ => scanFile_kinds_le files _ _ _ c)
    (by rw [scanEof_kind]; decide)

theorem scan_scanned (files : Files) (main : Bytes) : Scanned (scan files main).toks := by
  obtain ⟨body, eof, h, he, _⟩ := scan_one_eof files main
  exact ⟨scan_kinds_le files main, body, eof, h, he⟩

theorem scanToksWith_noinc {sub : List Bytes → Bytes → Bytes → ScanOut} {files : Files} {active : List Bytes}
    {fname : Bytes} {ts : List RawTok} : (∀ t ∈ ts, t.kind ≠ Tok.INCLUDE) →
    scanToksWith sub files active fname ts = ⟨ts.map (fun t => ⟨t.kind, t.text, fname, t.line⟩), [], false⟩ := by
  induction ts using scanToksWith.induct with
  | case1 => intro _; rfl
  | case2 t ht => intro h; exact absurd ht (h t (by simp))
  | case3 t ht => intro _; simp [scanToksWith, ht]
  | case4 t n rest ht hn ih => intro h; exact absurd ht (h t (by simp))
  | case5 t n rest ht hn ih => intro h; exact absurd ht (h t (by simp))
  | case6 t n rest ht ih =>
    intro h
    rw [scanToksWith, if_neg ht, ih (fun x hx => h x (List.mem_cons_of_mem _ hx))]
    simp [ScanOut.append]

end Theo.Sugar
