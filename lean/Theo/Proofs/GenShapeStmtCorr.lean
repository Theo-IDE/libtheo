/-
  C01 for the generator model: `stmt_corr` — the code of a statement tree passes `checkStmts` for the
  statements `stmtsOf` reads off the same tree.  The links of a generator state to the final program
  (`SLinks`) go backward along every step.
-/
import Theo.Proofs.GenShapeStmt
import Theo.Proofs.GenShapeValCorr

namespace Theo
namespace GenShape
open GS Sem Static

theorem checkStmts_append (e : VEnv) : ∀ (a b : Stmts) (w : Walk),
    checkStmts e (a.append b) w = (checkStmts e a w).bind (checkStmts e b)
  | .nil, b, w => by simp [Stmts.append, checkStmts]
  | .cons s ss, b, w => by
    simp only [Stmts.append, checkStmts]
    cases h : checkStmt e s w with
    | none => rfl
    | some w1 => simp only [checkStmts_append e ss b w1]

theorem checkStmts_single (e : VEnv) (s : Stmt) (w : Walk) : checkStmts e (.cons s .nil) w = checkStmt e s w := by
  simp only [checkStmts]
  cases checkStmt e s w <;> rfl

def Fin (L : List Int) (gs : GS) : Prop :=
  ∀ (l : Nat) (v : Int), gs.labels[l]? = some v → v ≠ -1 → (∀ e ∈ gs.top.marks, e.2 ≠ l) → (L[l]?).getD (-1) = v

structure SLinks (X : RC) (gs : GS) : Prop extends VLinks X gs where
  fin : Fin X.L gs

theorem SLinks.back_vq {X : RC} {P : Bytes → Prop} {gs gs' : GS} (h : SLinks X gs') (v : VQ P gs gs') : SLinks X gs :=
  ⟨h.toVLinks.back v.toGQ, fun l x hl hx hm => h.fin l x (by rw [v.labels]; exact hl) hx (by rw [v.marks]; exact hm)⟩

theorem SLinks.back {X : RC} {gs gs' : GS} (h : SLinks X gs') (q : GQ gs gs')
    (hnew : ∀ e ∈ gs'.top.marks, e ∈ gs.top.marks ∨ gs.labels.length ≤ e.2)
    (hkeep : ∀ (l : Nat) (v : Int), gs.labels[l]? = some v → v ≠ -1 → (∀ e ∈ gs'.top.marks, e.2 ≠ l) →
      gs'.labels[l]? = some v) : SLinks X gs := by
  refine ⟨h.toVLinks.back q, ?_⟩
  intro l v hl hv hm
  have hlt : l < gs.labels.length := (List.getElem?_eq_some_iff.1 hl).1
  have hm' : ∀ e ∈ gs'.top.marks, e.2 ≠ l := by
    intro e he
    rcases hnew e he with h1 | h1
    · exact hm e h1
    · omega
  exact h.fin l v (hkeep l v hl hv hm') hv hm'

theorem SLinks.back_sq {X : RC} {gs gs' : GS} {n : Node} (h : SLinks X gs') (s : SQ gs gs' n) (st : Step gs gs') :
    SLinks X gs := by
  refine h.back s.gq st.new ?_
  intro l v hl _ hm
  rw [s.frame l (List.getElem?_eq_some_iff.1 hl).1 (fun m _ hin => hm _ hin rfl)]
  exact hl

/-- the code starts with an instruction that is not a site (the root `PREPARE`) -/
def Head (gs : GS) : Prop := ∃ i, gs.code[0]? = some i ∧ i ≠ Instr.potBreak

theorem Head.mono {gs gs' : GS} (h : Head gs) (hp : gs.code <+: gs'.code) : Head gs' := by
  obtain ⟨i, h1, h2⟩ := h
  exact ⟨i, prefix_getElem? hp h1, h2⟩

/-- where the validator's walk stands behind the statements of the tree `n` (`w` before, `w'`
    behind, `gs'` the generator state behind).  `marks`: one mark was recorded per label definition
    of `n`, and the LAST position recorded for a name has the anchor of the value of the generator's
    label of that name (`setLabel` overwrites: the generator keeps the last definition too).
    `gotos`: one goto was recorded per reference of `n`, and instruction position plus offset is
    what the final label table `X.L` holds for the generator's label of that name. -/
structure SRes (X : RC) (gs' : GS) (n : Node) (w w' : Walk) : Prop where
  at_ : At X w'.pc gs'
  marks : ∃ nm, w'.marks = w.marks ++ nm ∧ nm.map (·.1) = defsOf n ∧
    ∀ m pc, (nm.filter (fun e => e.1 = m)).getLast? = some (m, pc) →
      ∃ (lab : Nat) (v : Int), (m, lab) ∈ gs'.top.marks ∧ gs'.labels[lab]? = some v ∧ 0 ≤ v ∧
        skipc X.C v.toNat = skipc X.C pc
  gotos : ∃ ng, w'.gotos = w.gotos ++ ng ∧ ng.map (·.2.2) = refsOf n ∧
    ∀ g ∈ ng, ∃ lab : Nat, (g.2.2, lab) ∈ gs'.top.marks ∧ (X.L[lab]?).getD (-1) = (g.1 : Int) + g.2.1

def SCorr (X : RC) (gs gs' : GS) (n : Node) (ss : Stmts) : Prop :=
  ∀ w : Walk, At X w.pc gs → ∃ w', checkStmts X.e ss w = some w' ∧ SRes X gs' n w w'

theorem SRes.empty {X : RC} {gs' : GS} {n : Node} {w w' : Walk} (hat : At X w'.pc gs') (hm : w'.marks = w.marks)
    (hg : w'.gotos = w.gotos) (hd : defsOf n = []) (hr : refsOf n = []) : SRes X gs' n w w' :=
  ⟨hat, ⟨[], by simp [hm], by simp [hd], fun m pc h => by simp at h⟩,
   ⟨[], by simp [hg], by simp [hr], fun g h => by cases h⟩⟩

theorem patch_jmp (L : List Int) (p : Nat) (lab : Nat) :
    patch L p (.jmp (lab : Int)) = .jmp ((L[lab]?).getD (-1) - (p : Int)) := by
  simp [patch]
theorem patch_jmpc (L : List Int) (p : Nat) (lab : Nat) (s : Int) :
    patch L p (.jmpc (lab : Int) s) = .jmpc ((L[lab]?).getD (-1) - (p : Int)) s := by
  simp [patch]

theorem assign_corr {X : RC} (ok : X.OK) (gs0 : GS) (tok file : Bytes) (line : Int) (l r : Node)
    (hnil : isNil r = false) (hsr : valShape false r = true) (hnr : valNames r = true)
    (hx : PV l.tok) (hv : valueOK X.src X.rt (valueOf r) = true) (pos : Pos)
    (lk : SLinks X (genV (gs0.fetchVar l.tok).1 r (gs0.fetchVar l.tok).2)) :
    SCorr X gs0 (genV (gs0.fetchVar l.tok).1 r (gs0.fetchVar l.tok).2)
      (.mk NodeT.ASSIGN tok file line l r) (.cons (.assign l.tok (valueOf r) pos) .nil) := by
  intro w hat
  have fv := fetchVar_spec PV gs0 l.tok hx
  have vk := vk_value (gs0.fetchVar l.tok).1 r (gs0.fetchVar l.tok).2 hnr
  have hat1 : At X w.pc (gs0.fetchVar l.tok).1 := ⟨by rw [fv.code]; exact hat.eq, by rw [fv.code]; exact hat.pos⟩
  obtain ⟨i, rg, e1, e2, e3⟩ := fv.reg
  obtain ⟨pc', cv, at'⟩ := (value_corr ok r).1 (gs0.fetchVar l.tok).1 (gs0.fetchVar l.tok).2 [] w.pc hnil hsr hnr hv
    lk.toVLinks (LiveOK.nil _) rfl hat1
  have hreg := regOf_of_links ok (vk.vq.regs.trans lk.regs) e2 e3 hx
  rw [e1] at cv
  exact ⟨{ w with pc := pc' }, by rw [checkStmts_single]; exact Sim.checkStmt_assign_iff.2 ⟨_, _, cv, hreg, rfl⟩, SRes.empty at' rfl rfl rfl rfl⟩

theorem stop_corr {X : RC} (gs0 : GS) (tok file : Bytes) (line : Int) (l r : Node) (pos : Pos)
    (lk : SLinks X (gs0.emit .halt)) :
    SCorr X gs0 (gs0.emit .halt) (.mk NodeT.STOP tok file line l r) (.cons (.stop pos) .nil) := by
  intro w hat
  obtain ⟨a1, _⟩ := hat.instr (i := .halt) (t := []) (List.prefix_refl _) lk.agree (by nofun)
  exact ⟨{ w with pc := X.e.next w.pc }, by rw [checkStmts_single]; exact Sim.checkStmt_stop_iff.2 ⟨by rw [a1]; rfl, rfl⟩,
    SRes.empty (hat.emit (t := []) (List.prefix_refl _) lk.agree (by nofun)) rfl rfl rfl rfl⟩

theorem goto_corr {X : RC} (gs0 : GS) (tok file : Bytes) (line : Int) (l r : Node) (pos : Pos)
    (lk : SLinks X ((gs0.markLabel l.tok).1.emitBackpatched (.jmp (gs0.markLabel l.tok).2))) :
    SCorr X gs0 ((gs0.markLabel l.tok).1.emitBackpatched (.jmp (gs0.markLabel l.tok).2))
      (.mk NodeT.GOTO tok file line l r) (.cons (.goto l.tok pos) .nil) := by
  intro w hat
  have ms := markLabel_spec gs0 l.tok
  have hcode : ((gs0.markLabel l.tok).1.emitBackpatched (.jmp (gs0.markLabel l.tok).2)).code =
      gs0.code ++ [.jmp ((gs0.markLabel l.tok).2 : Int)] := by rw [emitBackpatched_code, ms.code]
  obtain ⟨a1, a2, a3⟩ := hat.instr (t := []) (by rw [hcode]; exact List.prefix_refl _) lk.agree (by nofun)
  rw [patch_jmp] at a1
  refine ⟨_, by rw [checkStmts_single]; exact Sim.checkStmt_goto_iff.2 ⟨_, a1, rfl⟩, ?_, ?_, ?_⟩
  · show At X (X.e.next w.pc) _
    rw [a2]
    exact ⟨by rw [hcode]; simp, by rw [hcode]; simp⟩
  · exact ⟨[], by simp, rfl, fun m pc h => by simp at h⟩
  · refine ⟨[(skipc X.C w.pc, (X.L[(gs0.markLabel l.tok).2]?).getD (-1) - (gs0.code.length : Int), l.tok)], rfl, ?_, ?_⟩
    · rfl
    · intro g hg
      simp at hg
      subst hg
      refine ⟨(gs0.markLabel l.tok).2, ms.mem, ?_⟩
      simp only
      rw [a3]; omega

/-- the position a label is set to: the site in front of the statement if there is one; it
    anchors where the next instruction will stand -/
theorem markPos_anchor {X : RC} {g : GS} {code : List Instr} (hd : Head g) (hp : g.code <+: code)
    (ha : Agree X.L code X.C) : 0 ≤ g.markPos ∧ skipc X.C g.markPos.toNat = skipc X.C g.code.length := by
  obtain ⟨i0, hi1, hi2⟩ := hd
  have hpos : 0 < g.code.length := (List.getElem?_eq_some_iff.1 hi1).1
  unfold markPos nextPos
  split
  · rename_i hl
    have hl' : g.code[g.code.length - 1]? = some Instr.potBreak := by
      rw [← List.getLast?_eq_getElem?]; simpa [lastIsSite] using hl
    have h1 : 0 < g.code.length - 1 := by
      refine Nat.pos_of_ne_zero fun h0 => ?_
      rw [h0, hi1] at hl'
      exact hi2 (Option.some.inj hl')
    have hC : X.C[g.code.length - 1]? = some Instr.potBreak := by
      rw [ha _ _ h1 (prefix_getElem? hp hl')]; rfl
    have : ((g.code.length : Int) - 1).toNat = g.code.length - 1 := by omega
    rw [this, skipc_pb hC]
    exact ⟨by omega, by congr 1; omega⟩
  · exact ⟨by omega, by rw [Int.toNat_natCast]⟩

theorem mark_corr {X : RC} (gs0 : GS) (tok file : Bytes) (line : Int) (l r : Node) (pos : Pos) (w0 : MarksWF gs0)
    (hd : Head gs0)
    (lk : SLinks X ((gs0.markLabel l.tok).1.setLabel (gs0.markLabel l.tok).2 (gs0.markLabel l.tok).1.markPos)) :
    SCorr X gs0 ((gs0.markLabel l.tok).1.setLabel (gs0.markLabel l.tok).2 (gs0.markLabel l.tok).1.markPos)
      (.mk NodeT.MARK tok file line l r) (.cons (.mark l.tok pos) .nil) := by
  intro w hat
  have ms := markLabel_spec gs0 l.tok
  have hlt := ms.lt w0
  obtain ⟨a1, a2⟩ := markPos_anchor (X := X) (g := (gs0.markLabel l.tok).1) (by rw [Head, ms.code]; exact hd)
    (List.prefix_refl _) lk.agree
  generalize (gs0.markLabel l.tok).1 = g1 at *
  generalize (gs0.markLabel l.tok).2 = lab at *
  refine ⟨{ w with marks := w.marks ++ [(l.tok, w.pc)] }, by rw [checkStmts_single]; simp only [checkStmt],
    ⟨(congrArg (skipc X.C) (congrArg List.length ms.code)).symm ▸ hat.eq, ms.code ▸ hat.pos⟩, ?_, ?_⟩
  · refine ⟨[(l.tok, w.pc)], rfl, rfl, ?_⟩
    intro m pc h
    have hm : m = l.tok ∧ pc = w.pc := by
      by_cases hml : l.tok = m
      · simp [hml] at h; exact ⟨hml.symm, h.symm⟩
      · simp [hml] at h
    obtain ⟨rfl, rfl⟩ := hm
    exact ⟨lab, g1.markPos, ms.mem, setLabel_get_eq _ _ _ hlt, a1, by rw [a2, ms.code]; exact hat.eq.symm⟩
  · exact ⟨[], by simp, rfl, fun g h => by cases h⟩

theorem sameAnchor_jump (C : List Instr) (j : Nat) {tgt : Int} {b : Nat} (h : tgt = (b : Int)) :
    Sim.Anch C ((j : Int) + (tgt - (j : Int))) b := .of_eq (by omega)

theorem sameAnchor_of {C : List Instr} {a : Int} {b : Nat} (h0 : 0 ≤ a) (h : skipc C a.toNat = skipc C b) :
    sameAnchor C a b = true := by
  simp [sameAnchor, h0, h]

theorem ifPost_marks (g : GS) (cond op1 op2 : Int) (m : Bytes) :
    (ifPost g cond op1 op2 m).top.marks = ((g.emit (.test cond op1 op2)).markLabel m).1.top.marks := by
  unfold ifPost
  dsimp only
  rw [(quiet_releaseTemporary _ _).marks, (quiet_releaseTemporary _ _).marks, (quiet_releaseTemporary _ _).marks]
  rfl

theorem if_corr {X : RC} (ok : X.OK) (gs0 : GS) (tok file : Bytes) (line : Int) (l r : Node) (pos : Pos)
    (hl1 : nilOr NodeT.NAME l.left = true) (hl2 : nilOr NodeT.NUMBER l.right = true)
    (hn1 : isNil l.left = false) (hn2 : isNil l.right = false)
    (hx : PV l.left.tok) (hc : genRangeBad (decVal l.right.tok) = false)
    (lk : SLinks X (ifPost (genV (genV (ifPre gs0).1 l.left (ifPre gs0).2.2.1) l.right
      (ifPre gs0).2.2.2) (ifPre gs0).2.1 (ifPre gs0).2.2.1 (ifPre gs0).2.2.2 r.left.tok)) :
    SCorr X gs0 (ifPost (genV (genV (ifPre gs0).1 l.left (ifPre gs0).2.2.1) l.right
      (ifPre gs0).2.2.2) (ifPre gs0).2.1 (ifPre gs0).2.2.1 (ifPre gs0).2.2.2 r.left.tok)
      (.mk NodeT.IF tok file line l r) (.cons (.ifGoto l.left.tok (decVal l.right.tok) r.left.tok pos) .nil) := by
  intro w hat
  obtain ⟨tkx, fa, la, a1, a2, hl⟩ := nameNode hn1 hl1
  obtain ⟨tkc, fb, lb, b1, b2, hr⟩ := numberNode hn2 hl2
  rw [hl, hr] at lk ⊢
  have hx : PV tkx := by rw [hl] at hx; exact hx
  have hc : genRangeBad (decVal tkc) = false := by rw [hr] at hc; exact hc
  have sp := ifPre_spec gs0
  generalize (ifPre gs0).1 = p1 at *
  generalize (ifPre gs0).2.1 = cond at *
  generalize (ifPre gs0).2.2.1 = op1 at *
  generalize (ifPre gs0).2.2.2 = op2 at *
  have v1 := vk_value p1 (.mk NodeT.NAME tkx fa la a1 a2) op1 hx
  have n1 := name_corr ok p1 tkx fa la a1 a2 op1 hx
  generalize genV p1 (.mk NodeT.NAME tkx fa la a1 a2) op1 = g1 at *
  have v2 := vk_value g1 (.mk NodeT.NUMBER tkc fb lb b1 b2) op2 rfl
  have n2 := number_corr (X := X) g1 tkc fb lb b1 b2 op2
  generalize genV g1 (.mk NodeT.NUMBER tkc fb lb b1 b2) op2 = g2 at *
  obtain ⟨q, _, _⟩ := ifPost_gq g2 cond op1 op2 r.left.tok
  have hcode := ifPost_code g2 cond op1 op2 r.left.tok
  have hmarks := ifPost_marks g2 cond op1 op2 r.left.tok
  have ms := markLabel_spec (g2.emit (.test cond op1 op2)) r.left.tok
  generalize ((g2.emit (.test cond op1 op2)).markLabel r.left.tok).2 = lab at *
  generalize ifPost g2 cond op1 op2 r.left.tok = res at *
  have lk2 : VLinks X g2 := lk.toVLinks.back q
  have lk1 : VLinks X g1 := lk2.back v2.vq.toGQ
  have hat1 : At X w.pc p1 := ⟨by rw [sp.code]; exact hat.eq, by rw [sp.code]; exact hat.pos⟩
  obtain ⟨ry, c1, c2, c3⟩ := n1 lk1 hat1
  obtain ⟨d1, d2⟩ := n2 lk2 c3
  obtain ⟨k1, k2⟩ := lit_ok hc
  rw [k1] at d1
  have hpre1 : g2.code ++ .test cond op1 op2 :: [.jmpc (lab : Int) cond] <+: res.code := by rw [hcode]; exact List.prefix_refl _
  obtain ⟨e1, e2, _⟩ := d2.instr hpre1 lk.agree (by nofun)
  have at3 := d2.emit hpre1 lk.agree (by nofun)
  have hpre2 : (g2.emit (.test cond op1 op2)).code ++ .jmpc (lab : Int) cond :: [] <+: res.code := by
    rw [hcode, emit_code]; simp
  obtain ⟨f1, f2, f3⟩ := at3.instr hpre2 lk.agree (by nofun)
  rw [patch_jmpc] at f1
  obtain ⟨i1, i2, i3, r1, r2, r3, q1, q2, q3, t1, t2, t3, u1, u2, u3, hne⟩ := sp.regs
  have hext : RegsExt p1.top.regs X.R := ((v1.vq.regs.trans v2.vq.regs).trans q.regs).trans lk.regs
  have nn0 := notNamed_of_links (X := X) hext t1 u1
  have nn1 := notNamed_of_links (X := X) hext t2 u2
  have nn2 := notNamed_of_links (X := X) hext t3 u3
  rw [← q1] at nn0
  rw [← q2] at nn1
  rw [← q3] at nn2
  refine ⟨_, by rw [checkStmts_single]; exact Sim.checkStmt_ifGoto_iff.2 ⟨_, _, _, _, _, c1, c2, nn1, d1, nn2, hne, k2, by rw [e1]; rfl, nn0, f1, rfl⟩, ?_, ?_, ?_⟩
  · show At X (X.e.next (X.e.next (X.e.next (X.e.next w.pc)))) res
    rw [f2]
    have : (g2.emit (.test cond op1 op2)).code.length + 1 = res.code.length := by rw [hcode, emit_code]; simp
    rw [this]
    exact At.exact (by rw [hcode]; simp)
  · exact ⟨[], by simp, rfl, fun m pc h => by simp at h⟩
  · refine ⟨[(skipc X.C (X.e.next (X.e.next (X.e.next w.pc))),
        (X.L[lab]?).getD (-1) - ((g2.emit (.test cond op1 op2)).code.length : Int), r.left.tok)], rfl, ?_, ?_⟩
    · rfl
    · intro g hg
      simp at hg
      subst hg
      refine ⟨lab, by rw [hmarks]; exact ms.mem, ?_⟩
      have hh := f3
      simp only [emit_code, List.length_append, List.length_cons, List.length_nil] at hh ⊢
      omega

section
variable {X : RC} {gs0 p1 v m1 b res : GS} {c : Int} {s e back k : Nat} {tl : List Instr} {r : Node}

/-- The two labels of a frame.  Before the body they are the two newest labels, `s` set and `e`
    open, and no mark of the function carries them; so the body leaves them alone and the end piece
    sets `e`.  Hence both hold their final values, the links go back to `b`, and the labels of the
    marks are the same in `b` and `res`. -/
theorem frame_labels (F : Frame gs0 p1 v m1 b res c s e back k tl) (w0 : MarksWF gs0) (sb : SQ m1 b r)
    (stb : Step m1 b) (lk : SLinks X res) :
    SLinks X b ∧ (X.L[s]?).getD (-1) = back ∧ (X.L[e]?).getD (-1) = res.code.length ∧
      ∀ x ∈ b.top.marks, res.labels[x.2]? = b.labels[x.2]? := by
  have hs := F.startL
  have he := F.endL
  have hlen : m1.labels.length = gs0.labels.length + 2 := by rw [F.mlabels]; simp
  have hbl := stb.lablen
  have hnm : ∀ x ∈ b.top.marks, x.2 ≠ s ∧ x.2 ≠ e := by
    intro x hin
    rcases stb.new x hin with h | h
    · have := w0.lt x (F.mmarks ▸ h); omega
    · omega
  have hbs : b.labels[s]? = some (back : Int) := by
    rw [sb.frame s (by omega) (fun m _ hin => (hnm _ hin).1 rfl), F.mlabels, List.getElem?_set_self (by simp; omega)]
  have hbe : b.labels[e]? = some (-1) := by
    rw [sb.frame e (by omega) (fun m _ hin => (hnm _ hin).2 rfl), F.mlabels, List.getElem?_set_ne (by omega), he,
      List.getElem?_append_right (by simp)]
    simp
  have hrm : ∀ x ∈ res.top.marks, x.2 ≠ s ∧ x.2 ≠ e := fun x hin => hnm x (F.rmarks ▸ hin)
  refine ⟨lk.back F.rq (fun x hin => Or.inl (F.rmarks ▸ hin)) ?_, ?_, ?_, ?_⟩
  · intro x y hxy hy _
    rw [F.rlabels]
    by_cases hxe : x = e
    · subst hxe; rw [hbe] at hxy; exact absurd (Option.some.inj hxy).symm hy
    · rw [List.getElem?_set_ne (fun h => hxe h.symm)]; exact hxy
  · refine lk.fin s _ ?_ (by omega) (fun x hin => (hrm x hin).1)
    rw [F.rlabels, List.getElem?_set_ne (by omega)]; exact hbs
  · refine lk.fin e _ ?_ (by omega) (fun x hin => (hrm x hin).2)
    rw [F.rlabels, List.getElem?_set_self (by omega)]
  · intro x hin
    rw [F.rlabels, List.getElem?_set_ne (hnm x hin).2.symm]

theorem frame_front (ok : X.OK) {tkx fa : Bytes} {la : Int} {a1 a2 : Node} {body : Stmts}
    (F : Frame gs0 p1 v m1 b res c s e back k tl)
    (hv : genV p1 (.mk NodeT.NAME tkx fa la a1 a2) c = v) (hx : PV tkx)
    (w0 : MarksWF gs0) (hd : Head gs0) (sb : SQ m1 b r) (stb : Step m1 b) (lk : SLinks X res)
    (hb : SLinks X b → MarksWF m1 → Head m1 → SCorr X m1 b r body) {w : Walk} (hat : At X w.pc gs0) :
    ∃ ry w1, X.e.me.regOf tkx = some ry ∧ X.e.at w.pc = some (.add c ry 0) ∧
      X.e.at (X.e.next w.pc) = some (.jmpc ((X.L[e]?).getD (-1) - (v.code.length : Int)) c) ∧
      skipc X.C (X.e.next w.pc) = v.code.length ∧
      checkStmts X.e body { w with pc := X.e.next (X.e.next w.pc) } = some w1 ∧
      SRes X b r { w with pc := X.e.next (X.e.next w.pc) } w1 := by
  subst hv
  have lkb := (frame_labels F w0 sb stb lk).1
  have lkm : SLinks X m1 := lkb.back_sq sb stb
  obtain ⟨ry, c1, c2, c3⟩ := name_corr ok p1 tkx fa la a1 a2 c hx (lkm.toVLinks.back F.mq) (pc := w.pc)
    ⟨by rw [F.pcode]; exact hat.eq, by rw [F.pcode]; exact hat.pos⟩
  obtain ⟨d1, d2, d3⟩ := c3.instr (t := []) (by rw [F.mcode]; exact List.prefix_refl _) lkm.agree (by nofun)
  rw [patch_jmpc] at d1
  have hml : m1.labels.length = gs0.labels.length + 2 := by rw [F.mlabels]; simp
  obtain ⟨w1, cs, sr⟩ := hb lkb (w0.congr (by omega) F.mmarks) (hd.mono ((F.pq.trans F.vq).trans F.mq).code)
    { w with pc := X.e.next (X.e.next w.pc) } (by rw [d2]; exact ⟨by rw [F.mcode]; simp, by rw [F.mcode]; simp⟩)
  exact ⟨ry, w1, c1, c2, d1, d3, cs, sr⟩

end

theorem SRes.loop {X : RC} {b res : GS} {n r : Node} {w w0 w1 w2 : Walk} (sr : SRes X b r w0 w1)
    (hm0 : w0.marks = w.marks) (hg0 : w0.gotos = w.gotos)
    (hat : At X w2.pc res) (hm : w2.marks = w1.marks) (hg : w2.gotos = w1.gotos)
    (hd : defsOf n = defsOf r) (hr : refsOf n = refsOf r) (rmarks : res.top.marks = b.top.marks)
    (hl : ∀ e ∈ b.top.marks, res.labels[e.2]? = b.labels[e.2]?) : SRes X res n w w2 := by
  obtain ⟨nm, h1, h2, h3⟩ := sr.marks
  obtain ⟨ng, g1, g2, g3⟩ := sr.gotos
  refine ⟨hat, ⟨nm, by rw [hm, h1, hm0], hd ▸ h2, ?_⟩, ⟨ng, by rw [hg, g1, hg0], hr ▸ g2, ?_⟩⟩
  · intro m pc hmp
    obtain ⟨lab, y, k1, k2, k3, k4⟩ := h3 m pc hmp
    exact ⟨lab, y, rmarks ▸ k1, (hl _ k1).trans k2, k3, k4⟩
  · intro g hg'
    obtain ⟨lab, k1, k2⟩ := g3 g hg'
    exact ⟨lab, rmarks ▸ k1, k2⟩

theorem defsOf_loop {t : Nat} (ht : t = NodeT.LOOP ∨ t = NodeT.WHILE) (tok file : Bytes) (line : Int) (l r : Node) :
    defsOf (.mk t tok file line l r) = defsOf r ∧ refsOf (.mk t tok file line l r) = refsOf r := by
  rw [defsOf_mk, refsOf_mk, if_neg (by rcases ht with rfl | rfl <;> decide), if_pos ht,
    if_neg (by rcases ht with rfl | rfl <;> decide), if_pos ht]
  exact ⟨rfl, rfl⟩

theorem loop_corr {X : RC} (ok : X.OK) {gs0 p1 v m1 b res : GS} {c : Int} {s e : Nat} {r : Node}
    {tkx fa : Bytes} {la : Int} {a1 a2 : Node} {body : Stmts}
    (F : Frame gs0 p1 v m1 b res c s e v.code.length 1 [.add c c (-1)])
    (hv : genV p1 (.mk NodeT.NAME tkx fa la a1 a2) c = v) (hx : PV tkx)
    (hreg : ∃ (i : Nat) (rg : VReg), c = (i : Int) ∧ p1.top.regs[i]? = some rg ∧
      rg.name = ctrName gs0.fsName gs0.fsLine (gs0.loops + 1))
    (w0 : MarksWF gs0) (hd : Head gs0) (sb : SQ m1 b r) (stb : Step m1 b) (lk : SLinks X res)
    (hb : m1.loops = gs0.loops + 1 → SLinks X b → MarksWF m1 → Head m1 → SCorr X m1 b r body)
    (tok file : Bytes) (line : Int) (pos : Pos) :
    SCorr X gs0 res (.mk NodeT.LOOP tok file line (.mk NodeT.NAME tkx fa la a1 a2) r)
      (.cons (.loop (gs0.loops + 1) tkx body pos) .nil) := by
  intro w hat
  obtain ⟨ry, w1, c1, c2, d1, d3, cs, sr⟩ := frame_front ok F hv hx w0 hd sb stb lk (hb F.mloops) hat
  obtain ⟨_, Ls, Le, hkeep⟩ := frame_labels F w0 sb stb lk
  have hpre2 : b.code ++ .add c c (-1) :: [.jmp (s : Int)] <+: res.code := by
    rw [F.rcode]; exact List.prefix_refl _
  obtain ⟨e1, e2, _⟩ := sr.at_.instr hpre2 lk.agree (by nofun)
  have at5 := sr.at_.emit hpre2 lk.agree (by nofun)
  obtain ⟨g1, g2, g3⟩ := at5.instr (i := .jmp (s : Int)) (t := []) (by rw [F.rcode, emit_code]; simp) lk.agree (by nofun)
  have hel : (b.emit (.add c c (-1))).code.length = b.code.length + 1 := by rw [emit_code]; simp
  have hrl : res.code.length = b.code.length + 2 := by rw [F.rcode]; simp
  rw [patch_jmp] at g1
  obtain ⟨i, rg, q1, q2, q3⟩ := hreg
  obtain ⟨r', x1, x2, x3⟩ := ((((F.vq.trans F.mq).trans sb.gq).trans F.rq).regs.trans lk.regs) i rg q2
  have hnt : r'.isTemp = false := by
    cases ht : r'.isTemp with
    | false => rfl
    | true =>
      have := ok.tn r' (List.mem_iff_getElem?.2 ⟨i, x1⟩) ht
      rw [x2, q3] at this
      exact absurd this (ctrName_ne_temp _ _ _)
  obtain ⟨n, hn⟩ := ok.ctr
  have hctr : X.e.me.ctrOf (gs0.loops + 1) = some (i : Int) :=
    ctrOf_smap hn x1 hnt (by rw [x2, q3]; exact ctrName_hasId _ _ _) _ _
  subst q1
  have hd := defsOf_loop (Or.inl rfl) tok file line (.mk NodeT.NAME tkx fa la a1 a2) r
  refine ⟨{ w1 with pc := skipc X.C (X.e.next w1.pc) + 1 }, ?_,
    sr.loop rfl rfl ?_ rfl rfl hd.1 hd.2 F.rmarks hkeep⟩
  · rw [checkStmts_single]
    refine Sim.checkStmt_loop_iff.2 ⟨_, _, _, _, _, hctr, c1, c2, d1, cs, by rw [e1]; rfl, g1, ?_, ?_, rfl⟩
    · show Sim.Anch X.C (((skipc X.C (X.e.next w1.pc) : Nat) : Int) + _) (skipc X.C (X.e.next w.pc))
      rw [g3, d3]; exact sameAnchor_jump _ _ Ls
    · show Sim.Anch X.C (((skipc X.C (X.e.next w.pc) : Nat) : Int) + _) (skipc X.C (X.e.next w1.pc) + 1)
      rw [g3, d3]; exact sameAnchor_jump _ _ (by rw [Le, hrl, hel])
  · show At X (skipc X.C (X.e.next w1.pc) + 1) _
    rw [g3, hel, ← hrl]; exact At.exact (by omega)

theorem while_corr {X : RC} (ok : X.OK) {gs0 p1 v m1 b res : GS} {c : Int} {s e : Nat} {r : Node}
    {tkx fa : Bytes} {la : Int} {a1 a2 : Node} {body : Stmts}
    (F : Frame gs0 p1 v m1 b res c s e gs0.code.length 0 [])
    (hv : genV p1 (.mk NodeT.NAME tkx fa la a1 a2) c = v) (hx : PV tkx)
    (hreg : ∃ (i : Nat) (rg : VReg), c = (i : Int) ∧ p1.top.regs[i]? = some rg ∧ rg.isTemp = true)
    (w0 : MarksWF gs0) (hd : Head gs0) (sb : SQ m1 b r) (stb : Step m1 b) (lk : SLinks X res)
    (hb : m1.loops = gs0.loops + 0 → SLinks X b → MarksWF m1 → Head m1 → SCorr X m1 b r body)
    (tok file : Bytes) (line : Int) (pos : Pos) :
    SCorr X gs0 res (.mk NodeT.WHILE tok file line (.mk NodeT.NAME tkx fa la a1 a2) r)
      (.cons (.while_ tkx body pos) .nil) := by
  intro w hat
  obtain ⟨ry, w1, c1, c2, d1, d3, cs, sr⟩ := frame_front ok F hv hx w0 hd sb stb lk (hb F.mloops) hat
  obtain ⟨_, Ls, Le, hkeep⟩ := frame_labels F w0 sb stb lk
  obtain ⟨g1, g2, g3⟩ := sr.at_.instr (i := .jmp (s : Int)) (t := []) (by rw [F.rcode]; exact List.prefix_refl _) lk.agree (by nofun)
  have hrl : res.code.length = b.code.length + 1 := by rw [F.rcode]; simp
  rw [patch_jmp] at g1
  obtain ⟨i, rg, q1, q2, q3⟩ := hreg
  have hnn := notNamed_of_links (X := X) ((((F.vq.trans F.mq).trans sb.gq).trans F.rq).regs.trans lk.regs) q2 q3
  rw [← q1] at hnn
  have hd := defsOf_loop (Or.inr rfl) tok file line (.mk NodeT.NAME tkx fa la a1 a2) r
  refine ⟨{ w1 with pc := skipc X.C w1.pc + 1 }, ?_, sr.loop rfl rfl ?_ rfl rfl hd.1 hd.2 F.rmarks hkeep⟩
  · rw [checkStmts_single]
    refine Sim.checkStmt_while_iff.2 ⟨_, _, _, _, _, c1, hnn, c2, d1, cs, g1, ⟨?_, ?_⟩, ?_, rfl⟩
    · show 0 ≤ ((skipc X.C w1.pc : Nat) : Int) + _
      rw [g3, Ls]; omega
    · show skipc X.C (((skipc X.C w1.pc : Nat) : Int) + _).toNat = _
      rw [g3, Ls]
      have : ((b.code.length : Int) + ((gs0.code.length : Int) - (b.code.length : Int))).toNat = gs0.code.length := by omega
      rw [this]; exact hat.eq.symm
    · show Sim.Anch X.C (((skipc X.C (X.e.next w.pc) : Nat) : Int) + _) (skipc X.C w1.pc + 1)
      rw [g3, d3]; exact sameAnchor_jump _ _ (by rw [Le, hrl])
  · show At X (skipc X.C w1.pc + 1) _
    rw [g3, ← hrl]; exact At.exact (by omega)

theorem advanceLine_fs (gs : GS) (line : Int) (file : Bytes) (h : file ≠ ConstGen.genStdFileName) :
    (gs.advanceLine line file).fsName = file ∧ (gs.advanceLine line file).fsLine = line := by
  by_cases hm : file = gs.fsName ∧ line = gs.fsLine
  · rw [GS.advanceLine_same gs line file hm.1 hm.2]; exact ⟨hm.1.symm, hm.2.symm⟩
  · rw [GS.advanceLine_move gs line file h hm]; exact ⟨rfl, rfl⟩

theorem advanceLine_idem (gs : GS) (line : Int) (file : Bytes) :
    (gs.advanceLine line file).advanceLine line file = gs.advanceLine line file := by
  rcases GS.advanceLine_cases gs line file with h | ⟨_, h⟩
  · rw [h, h]
  · rw [h]; exact GS.advanceLine_same _ line file rfl rfl

theorem dispatchVoid_adv (gs : GS) (t : Nat) (tok file : Bytes) (line : Int) (l r : Node) :
    genS (gs.advanceLine line file) (.mk t tok file line l r) = genS gs (.mk t tok file line l r) := by
  rw [genS_mk, genS_mk, advanceLine_idem]

/-- A statement walk leaves the label of a mark it does not define where it was (labels carry one mark each). -/
theorem SQ.keeps {g1 g2 : GS} {r : Node} (sq : SQ g1 g2 r) (st : Step g1 g2) (wf : MarksWF g2) {m : Name} {lab : Nat} {v}
    (hm : (m, lab) ∈ g1.top.marks) (hl : g1.labels[lab]? = some v) (hno : m ∉ defsOf r) : g2.labels[lab]? = some v := by
  rw [sq.frame lab (List.getElem?_eq_some_iff.1 hl).1 fun m' hm' hin => ?_]
  · exact hl
  · have e : m' = m := congrArg Prod.fst (inj_of_nodup_map wf.vals hin (st.ext _ hm) rfl)
    exact hno (e ▸ hm')

theorem SRes.split {X : RC} {g1 gs' : GS} {l r : Node} (tok file : Bytes) (line : Int) {w w1 w2 : Walk}
    (r1 : SRes X g1 l w w1) (r2 : SRes X gs' r w1 w2) (st2 : Step g1 gs') (s2 : SQ g1 gs' r) (wf' : MarksWF gs') :
    SRes X gs' (.mk NodeT.SPLIT tok file line l r) w w2 := by
  obtain ⟨nm1, a1, a2, a3⟩ := r1.marks
  obtain ⟨nm2, b1, b2, b3⟩ := r2.marks
  obtain ⟨ng1, c1, c2, c3⟩ := r1.gotos
  obtain ⟨ng2, d1, d2, d3⟩ := r2.gotos
  refine ⟨r2.at_, ⟨nm1 ++ nm2, by rw [b1, a1, List.append_assoc], ?_, ?_⟩, ⟨ng1 ++ ng2, by rw [d1, c1, List.append_assoc], ?_, ?_⟩⟩
  · rw [List.map_append, a2, b2, defsOf_mk, if_pos rfl]
  · intro m pc h
    rcases getLast?_filter_append (fun e => e.1 = m) nm1 nm2 with e | ⟨hno, e⟩ <;> rw [e] at h
    · exact b3 m pc h
    · obtain ⟨lab, v, k1, k2, k3, k4⟩ := a3 m pc h
      refine ⟨lab, v, st2.ext _ k1, s2.keeps st2 wf' k1 k2 fun hm' => ?_, k3, k4⟩
      rw [← b2] at hm'
      obtain ⟨e, he, hem⟩ := List.mem_map.1 hm'
      simpa [hem] using hno e he
  · rw [List.map_append, c2, d2, refsOf_mk, if_pos rfl]
  · intro g hg
    rcases List.mem_append.1 hg with hg | hg
    · obtain ⟨lab, k1, k2⟩ := c3 g hg
      exact ⟨lab, st2.ext _ k1, k2⟩
    · exact d3 g hg

theorem stmts1 (s : Stmt) (n : Nat) (ps : List ProgDef) : ((Stmts.cons s .nil, n, ps) : Stmts × Nat × List ProgDef).1 = .cons s .nil := rfl

theorem SCorr.of_node {X : RC} {gs : GS} {t : Nat} {tok file : Bytes} {line : Int} {l r : Node} {ss : Stmts}
    (hs : stmtShape (.mk t tok file line l r) = true)
    (hn : stmtNames (.mk t tok file line l r) = true) (lk : SLinks X (genS gs (.mk t tok file line l r)))
    (h : SCorr X (gs.advanceLine line file) (genS gs (.mk t tok file line l r)) (.mk t tok file line l r) ss) :
    SCorr X gs (genS gs (.mk t tok file line l r)) (.mk t tok file line l r) ss := by
  have sq0 := sq_void (gs.advanceLine line file) _ hs hn
  rw [dispatchVoid_adv] at sq0
  obtain ⟨k0, hk0⟩ := advanceLine_code gs line file
  exact fun w hat => h w (hat.sites hk0 sq0.gq.code lk.agree)

theorem Head.advanceLine {gs : GS} (h : Head gs) (line : Int) (file : Bytes) : Head (gs.advanceLine line file) := by
  obtain ⟨k0, hk0⟩ := advanceLine_code gs line file
  exact h.mono (by rw [hk0]; exact prefix_append_self _ _)

theorem stmt_corr {X : RC} (ok : X.OK) : ∀ (gs : GS) (n : Node), stmtShape n = true → stmtNames n = true →
    ∀ (ps : List ProgDef) (body : Stmts),
    stmtsOK X.src X.rt body (stmtsOf n gs.loops ps).1 = true →
    SLinks X (genS gs n) → MarksWF gs → Head gs →
    SCorr X gs (genS gs n) n (stmtsOf n gs.loops ps).1 := by
  suffices h : ∀ n, stmtShape n = true → stmtNames n = true → ∀ (gs : GS) (ps : List ProgDef) (body : Stmts),
      stmtsOK X.src X.rt body (stmtsOf n gs.loops ps).1 = true →
      SLinks X (genS gs n) → MarksWF gs → Head gs →
      SCorr X gs (genS gs n) n (stmtsOf n gs.loops ps).1 from
    fun gs n hs hn ps body hv lk w0 hd => h n hs hn gs ps body hv lk w0 hd
  apply stmtShape_induction
  case nil =>
    intro _ gs ps body _ lk _ _ w hat
    rw [genS_nil] at lk ⊢
    rw [stmtsOf_nil]
    exact ⟨w, by simp only [checkStmts], SRes.empty hat rfl rfl (by rw [defsOf]) (by rw [refsOf])⟩
  case split =>
    intro tok file line l r hsl hsr ihl ihr hn gs ps body hv lk w0 hd
    refine SCorr.of_node (Bool.and_eq_true_iff.2 ⟨hsl, hsr⟩) hn lk ?_
    have hn := Bool.and_eq_true_iff.1 (show (stmtNames l && stmtNames r) = true from hn)
    rw [← advanceLine_loops gs line file] at hv ⊢
    rw [genS_split] at lk ⊢
    rw [stmtsOf_mk_split] at hv ⊢
    have w0' := (quiet_advanceLine gs line file).wf w0
    have hd' := hd.advanceLine line file
    generalize gs.advanceLine line file = gs0 at *
    rw [stmtsOK_append, Bool.and_eq_true] at hv
    have s1 := sq_void gs0 l hsl hn.1
    have st1 := step_void gs0 l
    have s2 := sq_void (genS gs0 l) r hsr hn.2
    have st2 := step_void (genS gs0 l) r
    have hk1 : (stmtsOf l gs0.loops ps).2.1 = (genS gs0 l).loops := by rw [stmtsOf_loops, s1.loops]
    rw [hk1] at hv ⊢
    have c1 := ihl hn.1 gs0 ps body hv.1 (lk.back_sq s2 st2) w0' hd'
    have c2 := ihr hn.2 (genS gs0 l) (stmtsOf l gs0.loops ps).2.2 body hv.2 lk (st1.wf w0')
      (hd'.mono s1.gq.code)
    intro w hat
    obtain ⟨w1, e1, r1⟩ := c1 w hat
    obtain ⟨w2, e2, r2⟩ := c2 w1 r1.at_
    refine ⟨w2, ?_, SRes.split tok file line r1 r2 st2 s2 (st2.wf (st1.wf w0'))⟩
    rw [checkStmts_append, e1]
    exact e2
  case assign =>
    intro tok file line l r hsr hn gs ps body hv lk w0 hd
    refine SCorr.of_node hsr hn lk ?_
    have hn : (varOK l.tok && !isNil r && valNames r) = true := hn
    simp only [Bool.and_eq_true, Bool.not_eq_true'] at hn
    rw [genS_assign] at lk ⊢
    rw [stmtsOf_mk_assign] at hv ⊢
    have hvv : valueOK X.src X.rt (valueOf r) = true := by
      simp only [stmtsOK, stmtOK, Bool.and_true] at hv; exact hv
    exact assign_corr ok _ tok file line l r hn.1.2 hsr hn.2 hn.1.1 hvv (file, line) lk
  case loop =>
    intro tok file line l r hl hsr ih hn gs ps body hv lk w0 hd
    refine SCorr.of_node (Bool.and_eq_true_iff.2 ⟨hl, hsr⟩) hn lk ?_
    have hn : (!isNil l && varOK l.tok && stmtNames r) = true := hn
    simp only [Bool.and_eq_true, Bool.not_eq_true'] at hn
    rw [← advanceLine_loops gs line file] at hv ⊢
    rw [genS_loop] at lk ⊢
    rw [stmtsOf_mk_loop] at hv ⊢
    have hbody : stmtsOK X.src X.rt body (stmtsOf r ((gs.advanceLine line file).loops + 1) ps).1 = true := by
      simp only [stmtsOK, stmtOK, Bool.and_true] at hv; exact hv
    obtain ⟨tkx, fa, la, a1, a2, rfl⟩ := nameNode hn.1.1 hl
    refine loop_corr ok (loop_frame _ (vk_value _ (.mk NodeT.NAME tkx fa la a1 a2) _ hn.1.2).vq _) rfl hn.1.2 (loopPre_spec _).reg
      ((quiet_advanceLine gs line file).wf w0) (hd.advanceLine line file) (sq_void _ r hsr hn.2) (step_void _ r) lk
      (fun hm lkb wm hdm => ?_) tok file line (file, line)
    have := ih hn.2 _ ps body (by rw [hm]; exact hbody) lkb wm hdm
    rwa [hm] at this
  case while_ =>
    intro tok file line l r hl hsr ih hn gs ps body hv lk w0 hd
    refine SCorr.of_node (Bool.and_eq_true_iff.2 ⟨hl, hsr⟩) hn lk ?_
    have hn : (!isNil l && varOK l.tok && stmtNames r) = true := hn
    simp only [Bool.and_eq_true, Bool.not_eq_true'] at hn
    rw [← advanceLine_loops gs line file] at hv ⊢
    rw [genS_while] at lk ⊢
    rw [stmtsOf_mk_while] at hv ⊢
    have hbody : stmtsOK X.src X.rt body (stmtsOf r (gs.advanceLine line file).loops ps).1 = true := by
      simp only [stmtsOK, stmtOK, Bool.and_true] at hv; exact hv
    obtain ⟨tkx, fa, la, a1, a2, rfl⟩ := nameNode hn.1.1 hl
    refine while_corr ok (while_frame _ (vk_value _ (.mk NodeT.NAME tkx fa la a1 a2) _ hn.1.2).vq _) rfl hn.1.2 (whilePre_spec' _).reg
      ((quiet_advanceLine gs line file).wf w0) (hd.advanceLine line file) (sq_void _ r hsr hn.2) (step_void _ r) lk
      (fun hm lkb wm hdm => ?_) tok file line (file, line)
    have := ih hn.2 _ ps body (by rw [hm]; exact hbody) lkb wm hdm
    rwa [hm] at this
  case mark =>
    intro tok file line l r hn gs ps body hv lk w0 hd
    refine SCorr.of_node rfl hn lk ?_
    rw [genS_mark] at lk ⊢
    rw [stmtsOf_mk_mark]
    exact mark_corr _ tok file line l r (file, line) ((quiet_advanceLine gs line file).wf w0) (hd.advanceLine line file) lk
  case goto =>
    intro tok file line l r hn gs ps body hv lk w0 hd
    refine SCorr.of_node rfl hn lk ?_
    rw [genS_goto] at lk ⊢
    rw [stmtsOf_mk_goto]
    exact goto_corr _ tok file line l r (file, line) lk
  case if_ =>
    intro tok file line l r hl1 hl2 hn gs ps body hv lk w0 hd
    refine SCorr.of_node (Bool.and_eq_true_iff.2 ⟨hl1, hl2⟩) hn lk ?_
    have hn : (!isNil l.left && !isNil l.right && varOK l.left.tok) = true := hn
    simp only [Bool.and_eq_true, Bool.not_eq_true'] at hn
    rw [genS_if] at lk ⊢
    rw [stmtsOf_mk_if] at hv ⊢
    have hc : genRangeBad (decVal l.right.tok) = false := by
      simp only [stmtsOK, stmtOK, Bool.and_true, Bool.and_eq_true, Bool.not_eq_true'] at hv
      exact hv.1
    exact if_corr ok _ tok file line l r (file, line) hl1 hl2 hn.1.1 hn.1.2 hn.2 hc lk
  case stop =>
    intro tok file line l r hn gs ps body hv lk w0 hd
    refine SCorr.of_node rfl hn lk ?_
    rw [genS_stop] at lk ⊢
    rw [stmtsOf_mk_stop]
    exact stop_corr _ tok file line l r (file, line) lk

end GenShape
end Theo
