/-
  Executions of the VM on a certified program, counted in real instructions and breakpoint
  sites (`SA`, `SC`, `Run`), and positions up to sites (`Anch`, `SiteBound`); `skipc`, the first
  position from `pc` on that holds no site, is determined by `skipc_spec` (`skipc_unique`).
-/
import Theo.Spec.Shape
import Theo.Proofs.WFProofs

namespace Theo
namespace Sim
open Sem WF InvB

def runFrom (vm : VM) : Nat → Except Fault VM
  | 0 => .ok vm
  | m + 1 => (runFrom vm m).bind (fun v => (step v).map (·.1))

theorem runFrom_succ' (vm : VM) (m : Nat) :
    runFrom vm (m + 1) = (step vm).bind (fun r => runFrom r.1 m) := by
  induction m with
  | zero =>
    show (Except.ok vm).bind (fun v => (step v).map (·.1)) = _
    show (step vm).map (·.1) = _
    cases step vm <;> rfl
  | succ m ih =>
    show (runFrom vm (m + 1)).bind (fun v => (step v).map (·.1)) = _
    rw [ih]
    cases step vm with
    | error e => rfl
    | ok r => rfl

/-- `k` successful instructions, none of them executed at a `HALT` -/
inductive Steps : VM → Nat → VM → Prop where
  | refl (vm : VM) : Steps vm 0 vm
  | cons {vm vm1 vm' : VM} {r : Bool} {k : Nat} : vm.isDone = .ok false →
      step vm = .ok (vm1, r) → Steps vm1 k vm' → Steps vm (k + 1) vm'

theorem Steps.trans {a b c : VM} {k l : Nat} (h1 : Steps a k b) (h2 : Steps b l c) :
    Steps a (k + l) c := by
  induction h1 with
  | refl vm => rw [Nat.zero_add]; exact h2
  | cons hd hs _ ih =>
    rw [Nat.add_right_comm]
    exact Steps.cons hd hs (ih h2)

theorem Steps.run {a b : VM} {k : Nat} (h : Steps a k b) :
    runFrom a k = .ok b ∧ ∀ t, t < k → ∃ vt, runFrom a t = .ok vt ∧ vt.isDone = .ok false := by
  induction h with
  | refl vm => exact ⟨rfl, fun t ht => absurd ht (Nat.not_lt_zero t)⟩
  | @cons vm vm1 vm' r k hd hs _ ih =>
    refine ⟨?_, ?_⟩
    · rw [runFrom_succ', hs]; exact ih.1
    · intro t ht
      cases t with
      | zero => exact ⟨vm, rfl, hd⟩
      | succ t =>
        obtain ⟨vt, h1, h2⟩ := ih.2 t (by omega)
        exact ⟨vt, by rw [runFrom_succ', hs]; exact h1, h2⟩

def SS (a b : VM) : Prop := ∃ k, Steps a k b

theorem SS.refl (a : VM) : SS a a := ⟨0, Steps.refl a⟩
theorem SS.trans {a b c : VM} (h1 : SS a b) (h2 : SS b c) : SS a c := by
  obtain ⟨k, h1⟩ := h1; obtain ⟨l, h2⟩ := h2; exact ⟨k + l, h1.trans h2⟩

/-- at most `S` instructions (used for runs of sites) -/
def SA (S : Nat) (a b : VM) : Prop := ∃ j, j ≤ S ∧ Steps a j b

/-- `k` real instructions, each after at most `S` sites: between `k` and `(S + 1) * k` instructions
    (`POTENTIAL_BREAK` is an instruction of the VM: it is fetched, it advances `ip`) -/
def SC (S k : Nat) (a b : VM) : Prop := ∃ j, k ≤ j ∧ j ≤ (S + 1) * k ∧ Steps a j b

theorem SA.refl (S : Nat) (a : VM) : SA S a a := ⟨0, Nat.zero_le _, Steps.refl a⟩

theorem SC.refl (S : Nat) (a : VM) : SC S 0 a a := ⟨0, Nat.le_refl _, Nat.zero_le _, Steps.refl a⟩

theorem SC.trans {S k l : Nat} {a b c : VM} (h1 : SC S k a b) (h2 : SC S l b c) : SC S (k + l) a c := by
  obtain ⟨i, i1, i2, hi⟩ := h1
  obtain ⟨j, j1, j2, hj⟩ := h2
  refine ⟨i + j, by omega, ?_, hi.trans hj⟩
  rw [Nat.mul_add]
  omega

theorem SC.cast {S k l : Nat} {a b : VM} (h : SC S k a b) (e : k = l) : SC S l a b := e ▸ h

theorem SA.one {S : Nat} {a b c : VM} (h1 : SA S a b) (h2 : Steps b 1 c) : SC S 1 a c := by
  obtain ⟨j, hj, hs⟩ := h1
  exact ⟨j + 1, by omega, by omega, hs.trans h2⟩

theorem SC.zero_eq {S : Nat} {a b : VM} (h : SC S 0 a b) : b = a := by
  obtain ⟨j, _, hj, hs⟩ := h
  have : j = 0 := by omega
  subst this
  cases hs
  rfl

theorem SC.ss {S k : Nat} {a b : VM} (h : SC S k a b) : SS a b := by
  obtain ⟨j, _, _, hs⟩ := h
  exact ⟨j, hs⟩

theorem SA.ss {S : Nat} {a b : VM} (h : SA S a b) : SS a b := by
  obtain ⟨j, _, hs⟩ := h
  exact ⟨j, hs⟩

theorem skipPB_spec (code : List Instr) : ∀ f pc, code.length ≤ pc + f →
    pc ≤ skipPB code f pc ∧ (∀ i, pc ≤ i → i < skipPB code f pc → code[i]? = some Instr.potBreak) ∧
      code[skipPB code f pc]? ≠ some Instr.potBreak := by
  intro f
  induction f with
  | zero =>
    intro pc h
    refine ⟨Nat.le_refl _, fun i h1 h2 => absurd h2 (Nat.not_lt.2 h1), ?_⟩
    show code[pc]? ≠ _
    rw [List.getElem?_eq_none (by omega)]
    exact nofun
  | succ f ih =>
    intro pc h
    unfold skipPB
    split
    · rename_i hpb
      obtain ⟨h1, h2, h3⟩ := ih (pc + 1) (by omega)
      refine ⟨Nat.le_of_succ_le h1, fun i g1 g2 => ?_, h3⟩
      rcases Nat.eq_or_lt_of_le g1 with rfl | g1
      · exact hpb
      · exact h2 i g1 g2
    · rename_i hn
      exact ⟨Nat.le_refl _, fun i h1 h2 => absurd h2 (Nat.not_lt.2 h1), fun hc => hn hc⟩

theorem skipc_spec (code : List Instr) (pc : Nat) :
    pc ≤ skipc code pc ∧ (∀ i, pc ≤ i → i < skipc code pc → code[i]? = some Instr.potBreak) ∧
      code[skipc code pc]? ≠ some Instr.potBreak :=
  skipPB_spec code code.length pc (Nat.le_add_left _ _)

theorem skipc_unique {code : List Instr} {pc r : Nat} (h1 : pc ≤ r)
    (h2 : ∀ i, pc ≤ i → i < r → code[i]? = some Instr.potBreak)
    (h3 : code[r]? ≠ some Instr.potBreak) : skipc code pc = r := by
  obtain ⟨g1, g2, g3⟩ := skipc_spec code pc
  rcases Nat.lt_trichotomy (skipc code pc) r with h | h | h
  · exact absurd (h2 _ g1 h) g3
  · exact h
  · exact absurd (g2 _ h1 h) h3

theorem le_skipc (code : List Instr) (pc : Nat) : pc ≤ skipc code pc := (skipc_spec code pc).1

theorem skipc_not_pb (code : List Instr) (pc : Nat) : code[skipc code pc]? ≠ some Instr.potBreak :=
  (skipc_spec code pc).2.2

theorem skipc_of_not_pb {code : List Instr} {pc : Nat} (h : code[pc]? ≠ some Instr.potBreak) :
    skipc code pc = pc :=
  skipc_unique (Nat.le_refl _) (fun _ h1 h2 => absurd h2 (Nat.not_lt.2 h1)) h

theorem skipc_run {code : List Instr} (k pc : Nat)
    (h : ∀ i, i < k → code[pc + i]? = some Instr.potBreak) : skipc code pc = skipc code (pc + k) := by
  obtain ⟨g1, g2, g3⟩ := skipc_spec code (pc + k)
  refine skipc_unique (Nat.le_trans (Nat.le_add_right _ _) g1) (fun i h1 h2 => ?_) g3
  rcases Nat.lt_or_ge i (pc + k) with hi | hi
  · rw [← Nat.add_sub_cancel' h1]
    exact h _ (by omega)
  · exact g2 i hi h2

theorem skipc_succ_of_pb {code : List Instr} {pc : Nat} (h : code[pc]? = some Instr.potBreak) :
    skipc code pc = skipc code (pc + 1) :=
  skipc_run 1 pc (fun i hi => by rw [Nat.lt_one_iff.1 hi]; exact h)

theorem skipc_idem (code : List Instr) (pc : Nat) : skipc code (skipc code pc) = skipc code pc :=
  skipc_of_not_pb (skipc_not_pb code pc)

theorem skipc_eq_of_run {code : List Instr} {k pc : Nat}
    (h : ∀ i, i < k → code[pc + i]? = some Instr.potBreak)
    (hn : code[pc + k]? ≠ some Instr.potBreak) : skipc code pc = pc + k := by
  rw [skipc_run k pc h, skipc_of_not_pb hn]

theorem skipc_ge_of_run {code : List Instr} {k pc : Nat}
    (h : ∀ i, i < k → code[pc + i]? = some Instr.potBreak) : pc + k ≤ skipc code pc := by
  rw [skipc_run k pc h]
  exact le_skipc _ _

def plain : Instr → Bool
  | .halt | .potBreak | .brk => false
  | _ => true

/-- `k` plain instructions, each after at most `S` others (the sites in front of it).  `Run 0 k` is
    a run of plain instructions alone: it passes no site. -/
inductive Run (S : Nat) : Nat → VM → VM → Prop where
  | refl (a : VM) : Run S 0 a a
  | cons {a b c d : VM} {i : Instr} {k : Nat} : SA S a b → fetch b.code b.ip = .ok i →
      plain i = true → Steps b 1 c → Run S k c d → Run S (k + 1) a d

theorem Run.trans {S k l : Nat} {a b c : VM} (h1 : Run S k a b) (h2 : Run S l b c) :
    Run S (k + l) a c := by
  induction h1 with
  | refl a => rw [Nat.zero_add]; exact h2
  | cons hs hf hp h1 _ ih => rw [Nat.add_right_comm]; exact .cons hs hf hp h1 (ih h2)

theorem Run.cast {S k l : Nat} {a b : VM} (h : Run S k a b) (e : k = l) : Run S l a b := e ▸ h

theorem Run.sc {S k : Nat} {a b : VM} (h : Run S k a b) : SC S k a b := by
  induction h with
  | refl a => exact SC.refl S a
  | cons hs _ _ h1 _ ih => exact ((hs.one h1).trans ih).cast (Nat.add_comm 1 _)

theorem SA.then {S : Nat} {a b c : VM} (h1 : SA S a b) (h2 : Run 0 1 b c) : Run S 1 a c := by
  cases h2 with
  | cons h0 hf hp hs hr =>
    obtain ⟨j, hj, h0⟩ := h0
    obtain rfl : j = 0 := Nat.le_zero.1 hj
    cases h0
    cases hr
    exact .cons h1 hf hp hs (.refl _)

theorem rd_eq {d : List Int} {i v : Int} (h0 : 0 ≤ i) (h : d[i.toNat]? = some v) : rd d i = .ok v := by
  unfold rd
  rw [if_neg (by omega), h]

theorem wr_eq {d : List Int} {i : Int} (v : Int) (h0 : 0 ≤ i) (h1 : i.toNat < d.length) :
    wr d i v = .ok (d.set i.toNat v) := by
  unfold wr
  rw [if_neg (by omega), if_pos h1]

theorem wr_eq' {d : List Int} {b : Nat} {t : Int} (v : Int) (h0 : 0 ≤ t) (h1 : b + t.toNat < d.length) :
    wr d ((b : Int) + t) v = .ok (d.set (b + t.toNat) v) := by
  have h := wr_eq (d := d) (i := (b : Int) + t) v (by omega) (by omega)
  rwa [show ((b : Int) + t).toNat = b + t.toNat by omega] at h

theorem isDone_of_fetch {vm : VM} {i : Instr} (h : fetch vm.code vm.ip = .ok i) :
    vm.isDone = .ok (decide (i = .halt)) := by
  unfold VM.isDone
  rw [h]; rfl

structure Good (p : Program) (c : Cert) (root : Nat) (vm : VM) : Prop where
  code : vm.code = p.code
  winv : WInv p c root vm

section
variable {p : Program} {c : Cert} {R : PcInfo}

theorem codeInv_self (hc : CertOK p c R) : CodeInv p p.code := CodeInv.init p hc.sites

theorem Good.init (p : Program) (c : Cert) (root : Nat) : Good p c root (VM.mk' p) :=
  ⟨rfl, winv_init p c root⟩

theorem Good.fetch {vm : VM} (hg : Good p c R.rid vm) {pc : Nat} {ins : Instr}
    (hip : vm.ip = (pc : Int)) (hins : p.code[pc]? = some ins) : fetch vm.code vm.ip = .ok ins := by
  rw [hg.code, hip]
  exact fetch_of_get (by omega) (by simpa using hins)

theorem Good.step (hc : CertOK p c R) {vm : VM} (hg : Good p c R.rid vm) :
    ∃ r, step vm = .ok r ∧ Good p c R.rid r.1 := by
  have hci : CodeInv p vm.code := by rw [hg.code]; exact codeInv_self hc
  obtain ⟨r, h1, h2⟩ := step_sound hc hci hg.winv
  refine ⟨r, h1, ⟨?_, h2⟩⟩
  obtain ⟨r1, r2⟩ := r
  rw [(step_frame h1).1, hg.code]

theorem Good.exec1 (hc : CertOK p c R) {vm vm' : VM} {b : Bool} (hg : Good p c R.rid vm) {pc : Nat}
    {ins : Instr} (hip : vm.ip = (pc : Int)) (hins : p.code[pc]? = some ins) (hnh : ins ≠ .halt)
    (hs : Theo.step vm = .ok (vm', b)) : Steps vm 1 vm' ∧ Good p c R.rid vm' := by
  have hf := hg.fetch hip hins
  obtain ⟨r, h1, h2⟩ := hg.step hc
  rw [hs] at h1
  cases h1
  refine ⟨Steps.cons ?_ hs (Steps.refl _), h2⟩
  rw [isDone_of_fetch hf]
  simp [hnh]

theorem Good.run1 (hc : CertOK p c R) {vm : VM} (hg : Good p c R.rid vm) {pc : Nat} {ins : Instr}
    (hip : vm.ip = (pc : Int)) (hins : p.code[pc]? = some ins) (hpl : plain ins = true) {c' : Core}
    (he : Eff vm.core ins c') :
    Run 0 1 vm { vm with ip := c'.ip, data := c'.data, stack := c'.stack } ∧
      Good p c R.rid { vm with ip := c'.ip, data := c'.data, stack := c'.stack } := by
  obtain ⟨h1, h2⟩ := hg.exec1 hc hip hins (by rintro rfl; cases hpl) (he.step (hg.fetch hip hins))
  exact ⟨.cons (SA.refl 0 vm) (hg.fetch hip hins) hpl h1 (.refl _), h2⟩

theorem Good.info {vm : VM} (hg : Good p c R.rid vm) {a : Act} {rest : List Act}
    (hst : vm.stack = a :: rest) :
    ∃ I, c.info vm.ip = some I ∧ StackOK p c R.rid I vm.stack ∧ Tiles vm.stack vm.data.length := by
  rcases hg.winv with ⟨_, h, _⟩ | h
  · rw [hst] at h; cases h
  · exact h

theorem Good.chk (hc : CertOK p c R) {vm : VM} (hg : Good p c R.rid vm) {a : Act} {rest : List Act}
    (hst : vm.stack = a :: rest) {pc : Nat} {ins : Instr}
    (hip : vm.ip = (pc : Int)) (hins : p.code[pc]? = some ins) :
    ∃ I, Chk p c R.rid pc I ins ∧ StackOK p c R.rid I vm.stack ∧
      Tiles vm.stack vm.data.length := by
  obtain ⟨I, hi, hs, ht⟩ := hg.info hst
  exact ⟨I, hc.rule pc I ins (by rw [← hip]; exact hi) hins, hs, ht⟩

theorem Good.tiles {vm : VM} (hg : Good p c R.rid vm) : Tiles vm.stack vm.data.length :=
  winv_tiles hg.winv

theorem top_of {root : Nat} {I : PcInfo} {st : List Act} {a : Act} {rest : List Act}
    (hs : StackOK p c root I st) (hp : I.pend = none) (hst : st = a :: rest) :
    a.segSize = (I.frame : Int) := by
  obtain ⟨a', rest', h, hseg, _, _⟩ := hs.1 hp
  rw [hst] at h
  cases h
  exact hseg

theorem pend_of {root : Nat} {I : PcInfo} {st : List Act} {a : Act} {rest : List Act} {cf j : Nat}
    (hs : StackOK p c root I st) (hp : I.pend = some (cf, j)) (hst : st = a :: rest) :
    ∃ b rest', rest = b :: rest' ∧ a.segSize = (cf : Int) ∧ b.segSize = (I.frame : Int) ∧
      0 ≤ a.retTarget ∧ a.retTarget < (I.frame : Int) := by
  obtain ⟨callee, rest0, h, hcs, _, h0, h1, _, htop⟩ := hs.2 cf j hp
  rw [hst] at h
  cases h
  obtain ⟨b, rest', rfl, hseg, _, _⟩ := htop
  exact ⟨b, rest', rfl, hcs, hseg, h0, h1⟩

theorem x_pb (hc : CertOK p c R) {vm : VM} (hg : Good p c R.rid vm) {pc : Nat}
    (hip : vm.ip = (pc : Int)) (hins : p.code[pc]? = some .potBreak) :
    ∃ vm', Steps vm 1 vm' ∧ Good p c R.rid vm' ∧ vm'.ip = (pc : Int) + 1 ∧
      vm'.stack = vm.stack ∧ vm'.data = vm.data := by
  obtain ⟨h1, h2⟩ := hg.exec1 hc hip hins (by decide) (Eff.potBreak.step (hg.fetch hip hins))
  exact ⟨_, h1, h2, by show vm.ip + 1 = _; rw [hip], rfl, rfl⟩

theorem Act.reg_lt {a : Act} {r : Int} {n : Nat} (h0 : 0 ≤ r) (h1 : r < a.segSize)
    (hn : a.dataStart + a.segSize.toNat ≤ n) : a.dataStart + r.toNat < n := by
  omega

theorem reg_lt {a : Act} {r : Int} {f n : Nat} (hr : regOK r f = true) (hseg : a.segSize = (f : Int))
    (hn : a.dataStart + a.segSize.toNat ≤ n) : 0 ≤ r ∧ r < a.segSize ∧ a.dataStart + r.toNat < n := by
  obtain ⟨h0, h1⟩ := regOK_iff.1 hr
  rw [← hseg] at h1
  exact ⟨h0, h1, Act.reg_lt h0 h1 hn⟩

theorem tiles_two {a b : Act} {rest : List Act} {n : Nat} (h : Tiles (a :: b :: rest) n) :
    a.dataStart + a.segSize.toNat = n ∧ b.dataStart + b.segSize.toNat = a.dataStart ∧
      b.dataStart + b.segSize.toNat ≤ n :=
  ⟨h.2.1, h.2.2.2.1, by have := h.2.1; have := h.2.2.2.1; omega⟩

theorem Good.chk_top (hc : CertOK p c R) {vm : VM} (hg : Good p c R.rid vm) {a : Act} {rest : List Act}
    (hst : vm.stack = a :: rest) {pc : Nat} {ins : Instr}
    (hip : vm.ip = (pc : Int)) (hins : p.code[pc]? = some ins) :
    ∃ I, Chk p c R.rid pc I ins ∧ StackOK p c R.rid I vm.stack ∧
      (I.pend = none → a.segSize = (I.frame : Int)) ∧
      a.dataStart + a.segSize.toNat ≤ vm.data.length := by
  obtain ⟨I, hk, hs, ht⟩ := hg.chk hc hst hip hins
  rw [hst] at ht
  exact ⟨I, hk, hs, fun hp => top_of hs hp hst, Nat.le_of_eq ht.2.1⟩

theorem pb_steps (hc : CertOK p c R) : ∀ (k pc : Nat) (vm : VM), Good p c R.rid vm →
    vm.ip = (pc : Int) → (∀ i, i < k → p.code[pc + i]? = some Instr.potBreak) →
    ∃ vm', Steps vm k vm' ∧ Good p c R.rid vm' ∧ vm'.ip = ((pc + k : Nat) : Int) ∧
      vm'.stack = vm.stack ∧ vm'.data = vm.data := by
  intro k
  induction k with
  | zero => exact fun pc vm hg hip _ => ⟨vm, .refl _, hg, hip, rfl, rfl⟩
  | succ k ih =>
    intro pc vm hg hip h
    obtain ⟨vm1, h1, hg1, hip1, hs1, hd1⟩ := x_pb hc hg hip (h 0 (Nat.succ_pos k))
    obtain ⟨vm2, h2, hg2, hip2, hs2, hd2⟩ := ih (pc + 1) vm1 hg1 hip1
      (fun i hi => by rw [Nat.add_right_comm, Nat.add_assoc]; exact h (i + 1) (Nat.succ_lt_succ hi))
    exact ⟨vm2, Nat.add_comm 1 k ▸ h1.trans h2, hg2, by rw [hip2, Nat.add_right_comm, Nat.add_assoc],
      hs2.trans hs1, hd2.trans hd1⟩

/-- `ip` reaches the same real instruction as position `pc` through sites only -/
def Anch (code : List Instr) (ip : Int) (pc : Nat) : Prop :=
  0 ≤ ip ∧ skipc code ip.toNat = skipc code pc

theorem Anch.self (code : List Instr) (pc : Nat) : Anch code (pc : Int) pc :=
  ⟨by omega, by simp⟩

theorem sameAnchor_iff {code : List Instr} {a : Int} {b : Nat} :
    sameAnchor code a b = true ↔ Anch code a b := by
  unfold sameAnchor Anch
  rw [Bool.and_eq_true, decide_eq_true_eq, beq_iff_eq]

theorem Anch.of_eq {code : List Instr} {ip : Int} {pc : Nat} (h : ip = (pc : Int)) : Anch code ip pc :=
  h ▸ Anch.self code pc

theorem Anch.skip {code : List Instr} {ip : Int} {pc : Nat} (h : Anch code ip (skipc code pc)) :
    Anch code ip pc := ⟨h.1, by rw [h.2, skipc_idem]⟩

def SiteBound (code : List Instr) (S : Nat) : Prop := ∀ pc, skipc code pc ≤ pc + S

def SiteBoundIn (code : List Instr) (S lo hi : Nat) : Prop :=
  ∀ x, lo ≤ x → x < hi → skipc code x ≤ x + S

theorem SiteBound.within {code : List Instr} {S : Nat} (h : SiteBound code S) (lo hi : Nat) :
    SiteBoundIn code S lo hi := fun x _ _ => h x

theorem SiteBound.anch {code : List Instr} {S : Nat} (h : SiteBound code S) {ip : Int} {pc : Nat}
    (ha : Anch code ip pc) : skipc code pc ≤ ip.toNat + S := ha.2 ▸ h _

theorem SiteBound.at {code : List Instr} {S : Nat} (h : SiteBound code S) {ip : Int} {x : Nat}
    (hip : ip = (x : Int)) : skipc code x ≤ ip.toNat + S := hip ▸ h x

theorem SiteBoundIn.mono {code : List Instr} {S lo hi lo' hi' : Nat} (h : SiteBoundIn code S lo hi)
    (h1 : lo ≤ lo') (h2 : hi' ≤ hi) : SiteBoundIn code S lo' hi' :=
  fun x g1 g2 => h x (Nat.le_trans h1 g1) (Nat.lt_of_lt_of_le g2 h2)

theorem SiteBoundIn.at {code : List Instr} {S lo hi : Nat} (h : SiteBoundIn code S lo hi) {ip : Int}
    {x : Nat} (hip : ip = (x : Int)) (h1 : lo ≤ x) (h2 : x < hi) : skipc code x ≤ ip.toNat + S := by
  subst hip
  exact h x h1 h2

theorem SiteBoundIn.anch {code : List Instr} {S lo hi : Nat} (h : SiteBoundIn code S lo hi) {ip : Int}
    {pc : Nat} (ha : Anch code ip pc) (h1 : lo ≤ ip.toNat) (h2 : ip.toNat < hi) :
    skipc code pc ≤ ip.toNat + S := ha.2 ▸ h _ h1 h2

theorem to_anchor (hc : CertOK p c R) {vm : VM} (hg : Good p c R.rid vm) {pc : Nat}
    (ha : Anch p.code vm.ip pc) {S : Nat} (hS : skipc p.code pc ≤ vm.ip.toNat + S) :
    ∃ vm', SA S vm vm' ∧ Good p c R.rid vm' ∧ vm'.ip = ((skipc p.code pc : Nat) : Int) ∧
      vm'.stack = vm.stack ∧ vm'.data = vm.data := by
  obtain ⟨h0, h1⟩ := ha
  obtain ⟨g1, g2, _⟩ := skipc_spec p.code vm.ip.toNat
  obtain ⟨vm', hs, hg', hip, h⟩ := pb_steps hc (skipc p.code pc - vm.ip.toNat) vm.ip.toNat vm hg
    (by omega) (fun i hi => g2 _ (Nat.le_add_right _ _) (by omega))
  exact ⟨vm', ⟨_, by omega, hs⟩, hg', by rw [hip]; congr 1; omega, h⟩

variable {S : Nat} (hS : SiteBound p.code S)
include hS

theorem to_anchor_c (hc : CertOK p c R) {vm : VM} (hg : Good p c R.rid vm) {pc : Nat}
    (ha : Anch p.code vm.ip pc) :
    ∃ vm', SA S vm vm' ∧ Good p c R.rid vm' ∧ vm'.ip = ((skipc p.code pc : Nat) : Int) ∧
      vm'.stack = vm.stack ∧ vm'.data = vm.data :=
  to_anchor hc hg ha (hS.anch ha)

end

def Holds (d : List Int) (a : Act) (r : Int) (n : Nat) : Prop :=
  0 ≤ r ∧ r < a.segSize ∧ d[a.dataStart + r.toNat]? = some (n : Int) ∧ n ≤ WORD_MAX

def SameBelow (N : Nat) (d d' : List Int) : Prop := ∀ i, i < N → d'[i]? = d[i]?

theorem SameBelow.refl (N : Nat) (d : List Int) : SameBelow N d d := fun _ _ => rfl

theorem SameBelow.trans {N : Nat} {d d' d'' : List Int} (h1 : SameBelow N d d')
    (h2 : SameBelow N d' d'') : SameBelow N d d'' := fun i hi => (h2 i hi).trans (h1 i hi)

theorem SameBelow.mono {N M : Nat} {d d' : List Int} (h : SameBelow N d d') (hm : M ≤ N) :
    SameBelow M d d' := fun i hi => h i (by omega)

theorem SameBelow.set {N : Nat} (d : List Int) {i : Nat} (v : Int) (h : N ≤ i) :
    SameBelow N d (d.set i v) := by
  intro j hj
  rw [List.getElem?_set_ne (by omega)]

theorem SameBelow.append {N : Nat} (d e : List Int) (h : N ≤ d.length) :
    SameBelow N d (d ++ e) := by
  intro j hj
  rw [List.getElem?_append_left (by omega)]

theorem SameBelow.take {N : Nat} (d : List Int) {M : Nat} (h : N ≤ M) :
    SameBelow N d (d.take M) := by
  intro j hj
  rw [List.getElem?_take_of_lt (by omega)]

theorem Holds.below {d d' : List Int} {a : Act} {r : Int} {n N : Nat} (h : Holds d a r n)
    (hN : a.dataStart + a.segSize.toNat ≤ N) (hs : SameBelow N d d') : Holds d' a r n := by
  obtain ⟨h0, h1, h2, h3⟩ := h
  exact ⟨h0, h1, by rw [hs _ (by omega)]; exact h2, h3⟩

theorem Holds.set_same {d : List Int} {a : Act} {t : Int} {n : Nat} (h0 : 0 ≤ t)
    (h1 : t < a.segSize) (hl : a.dataStart + a.segSize.toNat ≤ d.length) (hn : n ≤ WORD_MAX) :
    Holds (d.set (a.dataStart + t.toNat) (n : Int)) a t n :=
  ⟨h0, h1, List.getElem?_set_self (by omega), hn⟩

theorem Holds.set_other {d : List Int} {a : Act} {r t : Int} {n : Nat} (v : Int)
    (h : Holds d a r n) (hne : r ≠ t) (h0 : 0 ≤ t) :
    Holds (d.set (a.dataStart + t.toNat) v) a r n := by
  obtain ⟨g0, g1, g2, g3⟩ := h
  refine ⟨g0, g1, ?_, g3⟩
  rw [List.getElem?_set_ne (by omega)]
  exact g2

theorem clamp_inc {n k : Nat} : addClamp (n : Int) (k : Int) = ((addSat n k : Nat) : Int) := by
  unfold addClamp INT_MAX addSat WORD_MAX
  omega

theorem clamp_dec {n k : Nat} (h : n ≤ WORD_MAX) :
    addClamp (n : Int) (-(k : Int)) = ((n - k : Nat) : Int) := by
  unfold WORD_MAX at h
  unfold addClamp INT_MAX
  omega

theorem clamp_zero {n : Nat} (h : n ≤ WORD_MAX) : addClamp (n : Int) 0 = (n : Int) :=
  clamp_dec (k := 0) h

theorem clamp_pred {n : Nat} (h : n ≤ WORD_MAX) :
    addClamp (n : Int) (-1) = ((n - 1 : Nat) : Int) := clamp_dec (k := 1) h

theorem addSat_le (n k : Nat) : addSat n k ≤ WORD_MAX := by
  unfold addSat; omega

end Sim
end Theo
