/-
  C04 (static rules): program definitions, the whole tree, backpatching, `gen`.
  Result: `gen_errors_iff` — for a tree of parser shape, `gen` records no error iff `topOK`
  (the static rules read off the tree) holds.  `backpatch` is described once (`backpatch_eq`:
  which positions change and to what, and when an error is added); the verdict reads the errors
  off it (`backpatch_ok`), C01 the code (`GenShape.backpatch_code`).
-/
import Theo.Proofs.StaticChar

namespace Theo
namespace Static
open GS
open GenShape (patch)

/-- the mark states after statements that define the marks `D` and jump to the marks `R` -/
def updBy (D R : List Bytes) (σ : Bytes → Option Bool) (m : Bytes) : Option Bool :=
  if m ∈ D then some true else if m ∈ R then some ((σ m).getD false) else σ m

theorem updBy_append (D1 R1 D2 R2 : List Bytes) (σ : Bytes → Option Bool) :
    updBy D2 R2 (updBy D1 R1 σ) = updBy (D1 ++ D2) (R1 ++ R2) σ := by
  funext m
  unfold updBy
  by_cases c : m ∈ D1
  · simp [c]
  by_cases d : m ∈ R1 <;> simp [c, d]

theorem upd_closed (n : Node) : ∀ σ, upd n σ = updBy (defsOf n) (refsOf n) σ := by
  have leaf : ∀ σ, σ = updBy [] [] σ := fun σ => funext fun m => by simp [updBy]
  have jump : ∀ σ (x : Bytes), (fun m => if m = x then some ((σ x).getD false) else σ m) = updBy [] [x] σ :=
    fun σ x => funext fun m => by by_cases hm : m = x <;> simp [updBy, hm]
  -- at a given node type `upd`, `defsOf` and `refsOf` compute
  induction n using stmtInduction with
  | nil => exact leaf
  | split tok file line l r ihl ihr =>
    intro σ
    show upd r (upd l σ) = updBy (defsOf l ++ defsOf r) (refsOf l ++ refsOf r) σ
    rw [ihr, ihl, updBy_append]
  | program => exact leaf
  | assign => exact leaf
  | loop tok file line l r ih => exact ih
  | while_ tok file line l r ih => exact ih
  | mark tok file line l r =>
    exact fun σ => funext fun m => show (if m = l.tok then some true else σ m) = updBy [l.tok] [] σ m by simp [updBy]
  | goto tok file line l r => exact fun σ => jump σ l.tok
  | if_ tok file line l r => exact fun σ => jump σ r.left.tok
  | stop => exact leaf
  | other t tok file line l r h =>
    obtain ⟨h1, _, _, h4, h5, h6, h7, h8, _⟩ := not_mem_stmtTypes.1 h
    intro σ
    rw [upd, defsOf, refsOf]
    simp only [if_neg h1, if_neg (not_or.2 ⟨h4, h5⟩), if_neg h6, if_neg h7, if_neg h8]
    exact leaf σ

theorem mstate_nil {gs : GS} (h : gs.top.marks = []) (m : Bytes) : mstate gs m = none := by
  unfold mstate mlab; rw [h]; rfl

theorem marks_set_iff {gs : GS} (w : MarksWF gs) :
    (∀ e ∈ gs.top.marks, isSet gs e.2) ↔ ∀ m, mstate gs m ≠ some false := by
  unfold mstate
  constructor
  · intro h m
    cases hl : mlab gs m with
    | none => exact fun h => nomatch h
    | some x => rw [Option.map_some, (isSetB_iff gs x).2 (h _ (mlab_some_mem hl))]; exact fun h => nomatch h
  · intro h e he
    have := h e.1
    rw [mlab_of_mem w (show (e.1, e.2) ∈ gs.top.marks from he), Option.map_some] at this
    exact (isSetB_iff gs e.2).1 (Bool.not_eq_false _ ▸ fun hb => this (congrArg some hb))

/-- the mark check of `popSymbols` after a body that started without marks -/
theorem body_marks (gs : GS) (n : Node) (hs : stmtShape n = true) (hm : gs.top.marks = []) :
    (∀ e ∈ (genS gs n).top.marks, isSet (genS gs n) e.2) ↔ ∀ m ∈ refsOf n, m ∈ defsOf n := by
  have w := MarksWF.of_nil hm
  have hst : ∀ m, mstate (genS gs n) m =
      if m ∈ defsOf n then some true else if m ∈ refsOf n then some false else none := by
    intro m
    rw [(stmt_char n hs gs w).mstate, upd_closed, updBy, mstate_nil hm]; rfl
  rw [marks_set_iff ((step_void gs n).wf w)]
  constructor
  · intro h m hr
    refine Classical.byContradiction fun hd => h m ?_
    rw [hst, if_neg hd, if_pos hr]
  · intro h m
    rw [hst]
    by_cases hd : m ∈ defsOf n
    · rw [if_pos hd]; exact fun h => nomatch h
    · rw [if_neg hd, if_neg (fun hr => hd (h m hr))]; exact fun h => nomatch h

structure ProgSpec (gs res : GS) (nm : Bytes) (params : List Bytes) (body : Node) : Prop where
  errs : res.errors = [] ↔
    gs.errors = [] ∧ params.Nodup ∧ nStmtOK (look gs) body = true ∧ ∀ m ∈ refsOf body, m ∈ defsOf body
  look : ∀ g, look res g = if g = nm then some params.length else look gs g
  marks : res.top.marks = gs.top.marks

theorem prog_char (gs : GS) (tok file : Bytes) (line : Int) (l r : Node) (hs : stmtShape r = true) :
    ProgSpec gs (genS gs (.mk NodeT.PROGRAM tok file line l r)) l.left.tok (namesOf l.right.left) r := by
  rw [genS_program]
  dsimp only
  have q0 := quiet_advanceLine gs line file
  have e0 := advanceLine_errors gs line file
  generalize gs.advanceLine line file = gs0 at q0 e0
  have q := quiet_removeTopPotBreak gs0
  have sp := progPre_spec gs0 l.left.tok
  generalize (progPre gs0 l.left.tok).1 = p1 at sp
  generalize (progPre gs0 l.left.tok).2 = after at sp
  have aq := argsQuiet_args p1 l.right.left
  obtain ⟨ae, _, an⟩ := args_char p1 l.right.left
  generalize genArgs p1 l.right.left = g at aq ae an
  have hgm : g.top.marks = [] := by rw [aq.marks, sp.top]
  have hb := step_void g r
  have sb := stmt_char r hs g (MarksWF.of_nil hgm)
  have bm := body_marks g r hs hgm
  have so := progPost_spec (genS g r) (outNameOf l.right.right) g.nextPos after
  generalize genS g r = b at hb sb bm so
  generalize progPost b (outNameOf l.right.right) g.nextPos after = res at so
  have hsym : res.symbols = gs0.removeTopPotBreak.symbols := by
    rw [so.symbols, hb.outer, aq.outer, sp.outer]
  have hlook : look g = look gs := by
    rw [look_eq aq.funcAddrs, look_eq sp.funcAddrs, look_eq q0.funcAddrs]
  refine ⟨?_, ?_, ?_⟩
  · rw [so.errs, bm, sb.errs, ae, sp.errors, e0, hlook]
    have : regNames p1 = [] := by unfold regNames; rw [sp.top]; rfl
    rw [this]
    constructor
    · rintro ⟨⟨⟨h1, h2, _⟩, h3⟩, h4⟩; exact ⟨h1, h2, h3, h4⟩
    · rintro ⟨h1, h2, h3, h4⟩; exact ⟨⟨⟨h1, h2, fun _ _ h => by cases h⟩, h3⟩, h4⟩
  · intro x
    rw [so.look, hb.name, hb.argnum, an, aq.name, sp.top, look_eq sb.funcAddrs, hlook]
    simp
  · rw [top_congr hsym, q.marks, q0.marks]

def bodyOK (fa : Bytes → Option Nat) (b : Node) : Bool :=
  nStmtOK fa b && (refsOf b).all (fun m => decide (m ∈ defsOf b))

def topOK (fa : Bytes → Option Nat) : Node → Bool
  | .nil => true
  | .mk t tok file line l r =>
    if t = NodeT.SPLIT ∧ l.ty = NodeT.PROGRAM then
      decide (namesOf l.left.right.left).Nodup && bodyOK fa l.right &&
        topOK (fun g => if g = l.left.left.tok then some (namesOf l.left.right.left).length else fa g) r
    else bodyOK fa (.mk t tok file line l r)

theorem topOK_main (fa : Bytes → Option Nat) : ∀ n, stmtShape n = true → topOK fa n = bodyOK fa n
  | .nil, _ => rfl
  | .mk t tok file line l r, hs => by
    rw [topOK, if_neg]
    rintro ⟨rfl, hl⟩
    cases l with
    | nil => exact absurd hl (by decide)
    | mk t2 tok2 file2 line2 l2 r2 => obtain rfl : t2 = NodeT.PROGRAM := hl; cases hs

theorem bodyOK_iff (fa : Bytes → Option Nat) (b : Node) :
    bodyOK fa b = true ↔ nStmtOK fa b = true ∧ ∀ m ∈ refsOf b, m ∈ defsOf b := by
  unfold bodyOK; simp

theorem top_char : ∀ root, AstShape root = true → ∀ gs : GS, gs.top.marks = [] →
    (((genS gs root).errors = [] ∧ ∀ e ∈ (genS gs root).top.marks, isSet (genS gs root) e.2) ↔
      gs.errors = [] ∧ topOK (look gs) root = true) := by
  apply astShape_induction
  case main =>
    intro n hs gs hm
    rw [topOK_main _ n hs, body_marks gs n hs hm, (stmt_char n hs gs (MarksWF.of_nil hm)).errs, bodyOK_iff, and_assoc]
  case prog =>
    intro tok file line tok2 file2 line2 l2 r2 r hs2 _ ih gs hm
    rw [genS_split]
    have q0 := quiet_advanceLine gs line file
    have pc := prog_char (gs.advanceLine line file) tok2 file2 line2 l2 r2 hs2
    rw [ih _ (by rw [pc.marks, q0.marks, hm]), pc.errs, advanceLine_errors, funext pc.look, look_eq q0.funcAddrs]
    show _ ↔ _ ∧ (decide (namesOf l2.right.left).Nodup && bodyOK (look gs) r2 && topOK _ r) = true
    simp only [Bool.and_eq_true, decide_eq_true_eq, bodyOK_iff, and_assoc]
    exact Iff.rfl

theorem IsJump.inj {o : Option Instr} {a b : Nat} (ha : IsJump o a) (hb : IsJump o b) : a = b := by
  rcases ha with rfl | ⟨s, rfl⟩ <;> rcases hb with hb | ⟨t, hb⟩ <;> simp at hb <;> omega

theorem backpatchOne_eq {g : GS} {loc lab : Nat} (hj : IsJump g.code[loc]? lab) :
    ∃ i es, g.code[loc]? = some i ∧
      backpatchOne g loc = { g with code := g.code.set loc (patch g.labels loc i), errors := g.errors ++ es } ∧
      (es = [] ↔ isSet g lab) := by
  unfold backpatchOne isSet
  rcases hj with hj | ⟨s, hj⟩ <;>
  · rw [hj]
    dsimp only
    rw [Int.toNat_natCast]
    by_cases hs : (g.labels[lab]?).getD (-1) = -1
    · rw [if_pos hs]
      exact ⟨_, [_], rfl, rfl, iff_of_false (List.cons_ne_nil _ _) (fun h => h hs)⟩
    · rw [if_neg hs]
      exact ⟨_, [], rfl, by rw [List.append_nil]; rfl, iff_of_true rfl hs⟩

theorem backpatch_fold_eq : ∀ (T : List Nat) (h : GS), T.Nodup → (∀ loc ∈ T, ∃ lab, IsJump h.code[loc]? lab) →
    ∃ c es, T.foldl backpatchOne h = { h with code := c, errors := h.errors ++ es } ∧ c.length = h.code.length ∧
      (∀ p, c[p]? = if p ∈ T then (h.code[p]?).map (patch h.labels p) else h.code[p]?) ∧
      (es = [] ↔ ∀ loc ∈ T, ∃ lab, IsJump h.code[loc]? lab ∧ isSet h lab)
  | [], h, _, _ => ⟨h.code, [], by rw [List.append_nil]; rfl, rfl, fun p => by simp, by simp⟩
  | loc :: rest, h, hn, hj => by
    rw [List.nodup_cons] at hn
    obtain ⟨lab, hl⟩ := hj loc List.mem_cons_self
    obtain ⟨i, e1, hi, h1, he1⟩ := backpatchOne_eq hl
    have hlt : loc < h.code.length := (List.getElem?_eq_some_iff.1 hi).1
    have hne : ∀ l ∈ rest, (backpatchOne h loc).code[l]? = h.code[l]? := fun l hl => by
      rw [h1]; exact List.getElem?_set_ne fun e : loc = l => hn.1 (e ▸ hl)
    obtain ⟨c, es, h2, hc, hp, hes⟩ := backpatch_fold_eq rest (backpatchOne h loc) hn.2 fun l hl => by
      rw [hne l hl]; exact hj l (List.mem_cons_of_mem _ hl)
    refine ⟨c, e1 ++ es, ?_, ?_, fun p => ?_, ?_⟩
    · rw [List.foldl_cons, h2, h1, ← List.append_assoc]
    · rw [hc, h1]; exact List.length_set
    · rw [hp p, h1]
      by_cases hpr : p ∈ rest
      · rw [if_pos hpr, if_pos (List.mem_cons_of_mem _ hpr), List.getElem?_set_ne fun e : loc = p => hn.1 (e ▸ hpr)]
      · rw [if_neg hpr]
        by_cases hpl : p = loc
        · subst hpl
          rw [if_pos List.mem_cons_self, List.getElem?_set_self hlt, hi]; rfl
        · rw [if_neg (by simp [hpl, hpr]), List.getElem?_set_ne fun e : loc = p => hpl e.symm]
    · rw [List.append_eq_nil_iff, he1, hes, List.forall_mem_cons]
      refine and_congr ⟨fun h => ⟨lab, hl, h⟩, fun ⟨_, hl', hs⟩ => hl.inj hl' ▸ hs⟩
        (forall₂_congr fun l hl => ?_)
      rw [hne l hl, h1]; rfl

theorem backpatch_eq (g : GS) (ht : TodoOK g) :
    ∃ c es, backpatch g = { g with todo := [], code := c, errors := g.errors ++ es } ∧ c.length = g.code.length ∧
      (∀ p, c[p]? = if p ∈ g.todo then (g.code[p]?).map (patch g.labels p) else g.code[p]?) ∧
      (es = [] ↔ ∀ loc ∈ g.todo, ∃ lab, IsJump g.code[loc]? lab ∧ isSet g lab) :=
  backpatch_fold_eq g.todo { g with todo := [] } ht.nodup fun loc hloc =>
    let ⟨lab, _, h⟩ := ht.jumps loc hloc
    ⟨lab, h⟩

theorem backpatch_mono (g : GS) (h : (backpatch g).errors = []) : g.errors = [] :=
  List.prefix_nil.1 (h ▸ (errorsKept g.errors).backpatch (fun _ _ _ _ h => h) (fun h => h) (List.prefix_refl _))

theorem backpatch_ok (g : GS) (ht : TodoOK g) (hs : ∀ l, l < g.labels.length → isSet g l) :
    (backpatch g).errors = g.errors := by
  obtain ⟨c, es, h, _, _, hes⟩ := backpatch_eq g ht
  rw [h, hes.2 fun loc hloc => let ⟨lab, h1, h2⟩ := ht.jumps loc hloc; ⟨lab, h2, hs lab h1⟩]
  exact List.append_nil _

/-- `genState` before the tree is dispatched (its first three `let`s) -/
def gs1 : GS := (({} : GS).emit (.prepare (-1) (-1) 0)).pushSymbols bRoot

/-- the `match` of `genState`: the root frame size is patched into the first instruction -/
def fixHead (gs : GS) : GS :=
  match gs.lookupFunc bRoot, gs.code with
  | some p, .prepare _ _ t :: rest => { gs with code := .prepare p.stackSize p.mi t :: rest }
  | _, _ => gs

/-- `genState` of an AST flagged correct: the walk over the tree, then the tail.  `gen` hands the
    tree to `dispatchVoid` with one unit of fuel more than its size; this is where the fuel goes. -/
theorem genState_ok (errs : List SynErr) (root : Node) :
    genState ⟨true, errs, root⟩ = backpatch ((fixHead ((genS gs1 root).popSymbols 0)).emit .halt) := by
  rw [← dispatchVoid_eq (Nat.le_succ (nodeSize root))]; rfl

theorem gen_errors_eq (errs : List SynErr) (root : Node) :
    (gen ⟨true, errs, root⟩).errors = (backpatch ((fixHead ((genS gs1 root).popSymbols 0)).emit .halt)).errors := by
  rw [gen_eq, genState_ok]

theorem fixHead_spec (gs : GS) :
    (fixHead gs).errors = gs.errors ∧ (fixHead gs).labels = gs.labels ∧ (TodoOK gs → TodoOK (fixHead gs)) := by
  unfold fixHead
  split
  · rename_i p a b t rest hc
    refine ⟨rfl, rfl, ?_⟩
    intro h
    refine ⟨h.nodup, ?_⟩
    intro loc hloc
    obtain ⟨lab, h1, h2⟩ := h.jumps loc hloc
    refine ⟨lab, h1, ?_⟩
    rw [hc] at h2
    cases loc with
    | zero =>
      rcases h2 with h2 | ⟨s, h2⟩ <;> simp at h2
    | succ k => simpa [IsJump] using h2
  · exact ⟨rfl, rfl, id⟩

theorem gs1_facts : gs1.errors = [] ∧ gs1.top.marks = [] ∧ gs1.labels = [] ∧ gs1.todo = [] ∧ gs1.funcAddrs = [] :=
  ⟨rfl, rfl, rfl, rfl, rfl⟩

theorem walk_gs1 (root : Node) : TodoOK (genS gs1 root) ∧ LabAcc (fun _ => False) (genS gs1 root) := by
  obtain ⟨_, g2, g3, g4, _⟩ := gs1_facts
  have st := step_void gs1 root
  exact ⟨st.todoOK (MarksWF.of_nil g2) ⟨by rw [g4]; exact List.nodup_nil, by rw [g4]; nofun⟩,
    st.acc _ fun _ l hl => by rw [g3] at hl; cases hl⟩

theorem LabAcc.all_set {gs : GS} (a : LabAcc (fun _ => False) gs) (h0 : gs.errors = [])
    (hm : ∀ e ∈ gs.top.marks, isSet gs e.2) (l : Nat) (hl : l < gs.labels.length) : isSet gs l := by
  rcases a h0 l hl with h | h | ⟨e, he, hel⟩
  · exact h
  · exact h.elim
  · exact hel ▸ hm e he

/-- the steps of `genState` after the tree, from a state `b` as in `walk_gs1`: backpatching adds no
    error iff every label has its position; the labels left open by the statements are those of
    the marks, which `popSymbols` has checked -/
theorem finish_spec (b : GS) (tb : TodoOK b) (ab : LabAcc (fun _ => False) b) :
    TodoOK ((fixHead (b.popSymbols 0)).emit .halt) ∧
    ((fixHead (b.popSymbols 0)).emit .halt).labels = b.labels ∧
    ((backpatch ((fixHead (b.popSymbols 0)).emit .halt)).errors = [] ↔
      b.errors = [] ∧ ∀ e ∈ b.top.marks, isSet b e.2) := by
  have ps := popSymbols_spec b 0
  generalize b.popSymbols 0 = c at ps
  obtain ⟨f1, f2, f3⟩ := fixHead_spec c
  have td : TodoOK ((fixHead c).emit .halt) := (quiet_emit _ _).todoOK (f3 (ps.todoOK tb))
  have hce : ((fixHead c).emit .halt).errors = c.errors := f1
  have hlab : ((fixHead c).emit .halt).labels = b.labels := f2.trans ps.labels
  refine ⟨td, hlab, Iff.trans ⟨fun h => hce.symm.trans (backpatch_mono _ h), fun h => ?_⟩ ps.errs⟩
  obtain ⟨hb0, hall⟩ := ps.errs.1 h
  rw [backpatch_ok _ td, hce, h]
  intro l hl
  rw [hlab] at hl
  exact (isSet_congr hlab l).2 (ab.all_set hb0 hall l hl)

theorem gen_errors_iff (errs : List SynErr) (root : Node) (hs : AstShape root = true) :
    (gen ⟨true, errs, root⟩).errors = [] ↔ topOK (fun _ => none) root = true := by
  rw [gen_errors_eq]
  obtain ⟨tb, ab⟩ := walk_gs1 root
  exact (finish_spec _ tb ab).2.2.trans ((top_char root hs gs1 rfl).trans (and_iff_right rfl))

end Static
end Theo
