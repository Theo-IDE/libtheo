/-
  C04 (static rules): an error-free parse builds a tree of the shape `AstShape`
  (program definitions only on the top spine, statement types only where statements are
  dispatched, value types only where values are dispatched, argument lists as SPLIT spines).
-/
import Theo.Proofs.ParseProofs
import Theo.Spec.Static

namespace Theo
namespace Static
open C04

theorem valShape_leaf (a : Bool) (t : Nat) (tok file : Bytes) (line : Int) (ht : t = NodeT.NAME ∨ t = NodeT.NUMBER) :
    valShape a (.mk t tok file line .nil .nil) = true := by
  rw [valShape]
  rcases ht with rfl | rfl <;> simp [NodeT.NAME, NodeT.NUMBER, NodeT.SPLIT]

theorem valShape_call (a : Bool) (n : Node) (tok file : Bytes) (line : Int) (args : Node)
    (h : valShape true args = true) :
    valShape a (mkAt NodeT.CALL n (.mk NodeT.NAME tok file line .nil .nil) args) = true := by
  rw [mkAt, valShape]
  simp [NodeT.CALL, NodeT.SPLIT, NodeT.NAME, NodeT.NUMBER, Node.ty, h]

theorem valShape_split (n a b : Node) : valShape true (mkAt NodeT.SPLIT n a b) = (valShape true a && valShape true b) := by
  rw [mkAt, valShape]; simp

theorem stmtShape_split (n a b : Node) : stmtShape (mkAt NodeT.SPLIT n a b) = (stmtShape a && stmtShape b) := by
  rw [mkAt, stmtShape]; simp
theorem stmtShape_assign (n l v : Node) : stmtShape (mkAt NodeT.ASSIGN n l v) = valShape false v := by
  rw [mkAt, stmtShape]; simp [NodeT.ASSIGN, NodeT.SPLIT]
theorem stmtShape_mark (n a b : Node) : stmtShape (mkAt NodeT.MARK n a b) = true := by
  rw [mkAt, stmtShape]; simp [NodeT.MARK, NodeT.SPLIT, NodeT.ASSIGN, NodeT.LOOP, NodeT.WHILE, NodeT.IF]
theorem stmtShape_goto (n a b : Node) : stmtShape (mkAt NodeT.GOTO n a b) = true := by
  rw [mkAt, stmtShape]; simp [NodeT.GOTO, NodeT.SPLIT, NodeT.ASSIGN, NodeT.LOOP, NodeT.WHILE, NodeT.IF]
theorem stmtShape_stop (t : Token) : stmtShape (leaf NodeT.STOP t) = true := by
  rw [leaf, stmtShape]; simp [NodeT.STOP, NodeT.SPLIT, NodeT.ASSIGN, NodeT.LOOP, NodeT.WHILE, NodeT.IF]
theorem stmtShape_loop (t : Nat) (ht : t = NodeT.LOOP ∨ t = NodeT.WHILE) (n : Node) (tk : Token) (b : Node) :
    stmtShape (mkAt t n (leaf NodeT.NAME tk) b) = stmtShape b := by
  rw [leaf, mkAt, stmtShape]
  rcases ht with rfl | rfl <;> simp [NodeT.LOOP, NodeT.WHILE, NodeT.SPLIT, NodeT.ASSIGN, nilOr, Node.ty]
theorem stmtShape_if (n : Node) (t1 t2 : Token) (g : Node) :
    stmtShape (mkAt NodeT.IF n (mkAt NodeT.EQ n (leaf NodeT.NAME t1) (leaf NodeT.NUMBER t2)) g) = true := by
  rw [leaf, leaf, mkAt, stmtShape]
  simp [NodeT.IF, NodeT.SPLIT, NodeT.ASSIGN, NodeT.LOOP, NodeT.WHILE, nilOr, Node.ty, Node.left, Node.right, mkAt]

theorem stmtShape_not_prog {t : Nat} {tok file : Bytes} {line : Int} {l r : Node}
    (h : stmtShape (.mk t tok file line l r) = true) : ¬ (t = NodeT.SPLIT ∧ l.ty = NodeT.PROGRAM) := by
  rintro ⟨rfl, hl⟩
  rw [stmtShape, if_pos rfl, Bool.and_eq_true] at h
  cases l with
  | nil => cases hl
  | mk t2 tok2 f2 ln2 l2 r2 =>
    have : t2 = NodeT.PROGRAM := hl
    subst this
    cases h.1

theorem astShape_of_stmtShape : ∀ n : Node, stmtShape n = true → AstShape n = true
  | .nil, _ => by rw [AstShape]
  | .mk t tok file line l r, h => by rw [AstShape, if_neg (stmtShape_not_prog h)]; exact h

theorem astShape_prog (n nm hdr body more : Node) :
    AstShape (mkAt NodeT.SPLIT n (mkAt NodeT.PROGRAM nm hdr body) more) = (stmtShape body && AstShape more) := rfl

def ShapeOf : RK → Node → Prop
  | .VALUE, n => valShape false n = true ∧ valShape true n = true
  | .MVARGS, n => valShape true n = true
  | .P, n | .TAIL, n => stmtShape n = true
  | .S, n => AstShape n = true
  | _, _ => True

theorem built_shape {k : RK} {ts ts' : List Token} {n : Node} (h : Built k ts ts' n) : ShapeOf k n := by
  induction h with
  | s_prog _ _ _ _ _ _ _ _ ih2 ih3 =>
    have h2 : stmtShape _ = true := ih2
    have h3 : AstShape _ = true := ih3
    show AstShape _ = true
    rw [astShape_prog, stmtShape_split, stmtShape_mark, h2, h3]; rfl
  | s_p _ _ ih => exact astShape_of_stmtShape _ ih
  | ports_nil | ports_in | oports_nil | oports_out | args_one | args_more => trivial
  | p_assign _ _ _ _ ih1 ih2 =>
    have h1 : valShape false _ = true := ih1.1
    have h2 : stmtShape _ = true := ih2
    show stmtShape _ = true
    rw [stmtShape_split, stmtShape_assign, h1, h2]; rfl
  | p_label _ _ _ _ ih1 ih2 =>
    have h1 : stmtShape _ = true := ih1
    have h2 : stmtShape _ = true := ih2
    show stmtShape _ = true
    rw [stmtShape_split, stmtShape_split, stmtShape_mark, h1, h2]; rfl
  | p_loop _ _ _ _ _ _ ih1 ih2 =>
    have h1 : stmtShape _ = true := ih1
    have h2 : stmtShape _ = true := ih2
    show stmtShape _ = true
    rw [stmtShape_split, stmtShape_split, stmtShape_mark, stmtShape_loop _ (Or.inl rfl), h1, h2]; rfl
  | p_while _ _ _ _ _ _ _ ih1 ih2 =>
    have h1 : stmtShape _ = true := ih1
    have h2 : stmtShape _ = true := ih2
    show stmtShape _ = true
    rw [stmtShape_split, stmtShape_split, stmtShape_mark, stmtShape_loop _ (Or.inr rfl), h1, h2]; rfl
  | p_goto _ _ _ ih =>
    have h2 : stmtShape _ = true := ih
    show stmtShape _ = true
    rw [stmtShape_split, stmtShape_goto, h2]; rfl
  | p_if _ _ _ _ _ _ _ _ ih =>
    have h2 : stmtShape _ = true := ih
    show stmtShape _ = true
    rw [stmtShape_split, stmtShape_if, h2]; rfl
  | p_stop _ _ ih =>
    have h2 : stmtShape _ = true := ih
    show stmtShape _ = true
    rw [stmtShape_split, stmtShape_stop, h2]; rfl
  | tail_nil _ => show stmtShape .nil = true; rw [stmtShape]
  | tail_semi _ _ ih => exact ih
  | value_id _ => exact ⟨valShape_leaf _ _ _ _ _ (Or.inl rfl), valShape_leaf _ _ _ _ _ (Or.inl rfl)⟩
  | value_int _ => exact ⟨valShape_leaf _ _ _ _ _ (Or.inr rfl), valShape_leaf _ _ _ _ _ (Or.inr rfl)⟩
  | value_run0 _ _ _ _ =>
    exact ⟨valShape_call _ _ _ _ _ _ (by rw [valShape]), valShape_call _ _ _ _ _ _ (by rw [valShape])⟩
  | @value_runargs _ _ _ _ _ _ _ a1 re _ _ _ _ _ _ ih1 ih2 =>
    have : valShape true (mkAt NodeT.SPLIT a1 a1 re) = true := by
      rw [valShape_split, ih1.2, (ih2 : valShape true re = true)]; rfl
    exact ⟨valShape_call _ _ _ _ _ _ this, valShape_call _ _ _ _ _ _ this⟩
  | mv_nil _ => show valShape true .nil = true; rw [valShape]
  | mv_more _ _ _ ih1 ih2 =>
    show valShape true _ = true
    rw [valShape_split, ih1.2, (ih2 : valShape true _ = true)]; rfl

theorem parser_shape (ts : List Token) (he : (parseTokens ts).2 = []) : AstShape (parseTokens ts).1 = true :=
  let ⟨_, h, _⟩ := parseTokens_built ts he
  built_shape h

end Static
end Theo
