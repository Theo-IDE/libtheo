/-
  C07 for the generator model: one PROGRAM definition passes one round of `siteProgs`
  (`site_prog`): the header's line has no site (it is removed), the jump over the body stands
  exactly where the previous routine ended, the body's sites are the expected ones.
-/
import Theo.Proofs.GenSitesMain
import Theo.Proofs.SimSiteCheck

namespace Theo
namespace GenSites
open GS Sem Static GenShape Layout

theorem tinv_progPre {gs00 : GS} (h : TInv (fun _ => True) gs00.removeTopPotBreak) (nm : Bytes) :
    TInv (fun _ => True) (progPre gs00 nm).1 :=
  (TInv.genInv _).progPreTail h nm

theorem tinv_progRes {gs00 : GS} (h : TInv (fun _ => True) gs00.removeTopPotBreak) (l2 r2 : Node) :
    TInv (fun _ => True) (progRes gs00 l2 r2) :=
  (TInv.genInv _).progPost (tinv_void ((TInv.genInv _).genArgs (tinv_progPre h _) _) r2) _ _ _

theorem lineAt_of_mem (P : Program) (hLS : LiSorted P.lineInfo) {i : Int} {bp : BreakPoint} (h : (i, bp) ∈ P.lineInfo) :
    P.lineAt i = some bp := by
  unfold Program.lineAt
  exact (find_li_iff hLS i bp).2 h

theorem region_ok (P : Program) (L : List Int) (code : List Instr) (lo : Nat) (t : List Instr) (exp : List ESite) {hi : Nat}
    (hag : Agree L code P.code) (h0 : 0 < lo) (hhi : code.length = hi) (hcode : code.length = lo + t.length)
    (ht : ∀ i, i < t.length → code[lo + i]? = t[i]?)
    (hpbs : pbPos t lo = exp.map (·.1))
    (hLS : LiSorted P.lineInfo) (hli : ∀ e ∈ exp, liOf e ∈ P.lineInfo) :
    regionSitesOK P exp lo hi = true := by
  subst hhi
  refine Sim.regionSitesOK_iff.2 ⟨?_, ?_⟩
  · rw [← hpbs]
    refine sitePositions_eq P.code t lo _ hcode ?_
    intro i hi
    rw [agree_pb_iff hag (by omega) (by omega), ht i hi]
  · intro e he
    rw [lineAt_of_mem P hLS (hli e he)]; rfl

structure ProgOut (gs res : GS) (s2 : LSt) (exp : List ESite) : Prop where
  li : res.lineInfo = gs.lineInfo ++ exp.map liOf
  ctx : Ctx res s2

theorem site_prog (P : Program) (src : Source) (L : List Int) {gs gs00 : GS} {k0 : Nat}
    (l2 r2 : Node) (k : Nat) (infos : List RInfo) (ps rest : List ProgDef) (h0 : Sites gs gs00 k0) (hk0 : k0 ≤ 1)
    (ti : TopInv src gs k infos)
    (hs : stmtShape r2 = true) (hn : stmtNames r2 = true) (hlab : labelsOK r2 = true) (hpn : progNames l2 = true)
    (hpd : src.progs[k]? = some ⟨l2.left.tok, namesOf l2.right.left, outNameOf l2.right.right, (stmtsOf r2 gs.loops ps).1⟩)
    (hst : Static.routineOK src k = true) (hnd : (namesOf l2.right.left).Nodup)
    (F : Fits P L (progRes gs00 l2 r2))
    (hrli : gs00.removeTopPotBreak.lineInfo = gs.lineInfo)
    (hrt : TInv (fun _ => True) gs00.removeTopPotBreak)
    (s1 s2 : LSt) (hrctx : Ctx gs00.removeTopPotBreak s1) (hfresh : s1.kind = LKind.fresh)
    (hlay : stmtLay r2 s1 = some s2) :
    ∃ exp, ProgOut gs (progRes gs00 l2 r2) s2 exp ∧
      ∀ out, (progRes gs00 l2 r2).lineInfo <+: P.lineInfo → LiSorted P.lineInfo →
        siteProgs P src rest (k + 1) (infos ++ [progRi gs gs00 k0 l2 r2 k]) (progRes gs00 l2 r2).code.length = some out →
        siteProgs P src (⟨l2.left.tok, namesOf l2.right.left, outNameOf l2.right.right, (stmtsOf r2 gs.loops ps).1⟩ :: rest)
            k infos gs.code.length = some out := by
  unfold progRes progRi at *
  have hk01 : k0 - 1 = 0 := by omega
  obtain ⟨hPV, hPVout⟩ := progNames_iff hpn
  obtain ⟨bs, _⟩ := prog_start l2.left.tok l2.right.left h0 ti.last hnd
  have np := (nosite_inv _).progPreTail (.refl gs00.removeTopPotBreak) l2.left.tok
  have na : NoSite _ (genArgs (progPre gs00 l2.left.tok).1 l2.right.left) := (nosite_inv _).genArgs (.refl _) _
  have ta : TInv _ (genArgs (progPre gs00 l2.left.tok).1 l2.right.left) :=
    (TInv.genInv _).genArgs (tinv_progPre hrt l2.left.tok) _
  generalize (progPre gs00 l2.left.tok).2 = after at *
  generalize genArgs (progPre gs00 l2.left.tok).1 l2.right.left = g at *
  have hgli : g.lineInfo = gs.lineInfo := by rw [na.lineInfo, np.lineInfo, hrli]
  have hgctx : Ctx g s1 := ⟨by rw [na.fsName, np.fsName]; exact hrctx.file, by rw [na.fsLine, np.fsLine]; exact hrctx.line⟩
  have hg1 : g.code.length = gs.code.length + 1 := by rw [bs.len, hk01]
  have sq := sq_void g r2 hs hn
  have pq := progPost_full (genS g r2) (outNameOf l2.right.right) g.nextPos after
  have nq := (nosite_inv _).progPost (.refl (genS g r2)) (outNameOf l2.right.right) g.nextPos after
  obtain ⟨B, hsmap, _⟩ := prog_links (en := gs.code.length + (k0 - 1) + 1) bs ti hPV hPVout hnd hs hn pq hpd rfl hst F
  have hsb := site_body B hs hn hlab
  generalize hbb : genS g r2 = bb at *
  generalize hres : progPost bb (outNameOf l2.right.right) g.nextPos after = res at *
  generalize hX : (⟨P.code, L, (bb.fetchVar (outNameOf l2.right.right)).1.top.regs, src, k, infos, gs.code.length + (k0 - 1) + 1⟩ : RC) = X at *
  have hXC : X.C = P.code := by rw [← hX]
  have hXL : X.L = L := by rw [← hX]
  have hbpre : bb.code <+: res.code := by rw [pq.code]; exact prefix_append_self _ _
  have hag := F.agree
  have hagX : Agree X.L res.code X.C := by rw [hXL, hXC]; exact hag
  obtain ⟨exp, w, kk, t, bo⟩ := hsb ta s1 s2 hlay hgctx hfresh
  have hresli : res.lineInfo = gs.lineInfo ++ exp.map liOf := by rw [nq.lineInfo, bo.li, hgli]
  refine ⟨exp, ⟨hresli, ⟨by rw [nq.fsName]; exact bo.ctx.file, by rw [nq.fsLine]; exact bo.ctx.line⟩⟩, fun out hLI hLS hrest => ?_⟩
  have hgres : g.code <+: res.code := sq.gq.code.trans hbpre
  have hjmp : P.code[gs.code.length]? = some (.jmp ((L[after]?).getD (-1) - (gs.code.length : Int))) := by
    have := hag gs.code.length (.jmp (after : Int)) (head_pos ti.head)
      (prefix_getElem? hgres (by rw [bs.code, hk01]; simp))
    rw [this, patch_jmp]
  have atw : At X w.pc bb := bo.ex.at (List.prefix_refl _) (hagX.of_prefix hbpre)
  have hpre2 : bb.code ++ .ret (bb.fetchVar (outNameOf l2.right.right)).2 :: [] <+: res.code := by rw [pq.code]; exact List.prefix_refl _
  have r3 := atw.skip_eq hpre2 hagX (by intro h; cases h)
  rw [hXC] at r3
  have hlen : res.code.length = skipc P.code w.pc + 1 := by rw [r3, pq.code]; simp
  rw [hlen, hk01] at hrest
  refine Sim.siteProgs_cons_iff.2 ⟨_, _, exp, w, kk, prevOf s2, hjmp, hsmap, ?_, ?_, bo.jumps, hrest⟩
  · have := bo.walk
    rw [← hX] at this
    simp only [RC.e] at this
    rw [hk01, hg1, bs.loops] at this
    exact this
  · obtain ⟨tq, htq, _⟩ := nq.code
    refine region_ok P L res.code (gs.code.length + 1) (t ++ [.ret (bb.fetchVar (outNameOf l2.right.right)).2]) exp hag (by omega) hlen ?_ ?_ ?_ hLS ?_
    · rw [pq.code, bo.code]; simp only [List.length_append, List.length_cons, List.length_nil, hg1]; omega
    · intro i hi
      rw [pq.code, bo.code, List.append_assoc, ← hg1, List.getElem?_append_right (Nat.le_add_right _ _), Nat.add_sub_cancel_left]
    · rw [pbPos_append, ← hg1, bo.pbs, pbPos_one (by intro h; cases h), List.append_nil]
    · intro e he
      refine hLI.subset ?_
      rw [hresli]
      exact List.mem_append_right _ (List.mem_map_of_mem (f := liOf) he)

end GenSites
end Theo
