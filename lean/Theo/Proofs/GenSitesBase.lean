/-
  C07 for the generator model: vocabulary.
  Exact positions (`skipc` against real instructions), the sites of a piece of code (`pbPos`),
  `advanceLine` as "no-op or one site", and values: a value whose nodes lie on the current line (or
  in the hidden standard file) is generated without any site (`NoSite`).
-/
import Theo.Proofs.GenShapeValCorr
import Theo.Proofs.GenTables
import Theo.Proofs.SimSiteClauses
import Theo.Spec.Layout

namespace Theo
namespace GenSites
open GS Sem Static GenShape Layout
open Sim (Framed)

theorem skipc_le_of_real {C : List Instr} : ∀ (d p q : Nat), q = p + d → C[q]? ≠ some Instr.potBreak → skipc C p ≤ q := by
  intro d
  induction d with
  | zero =>
    intro p q hq hr
    subst hq
    rw [Sim.skipc_of_not_pb hr]
    exact Nat.le_refl _
  | succ d ih =>
    intro p q hq hr
    by_cases hp : C[p]? = some Instr.potBreak
    · rw [skipc_pb hp]
      exact ih (p + 1) q (by omega) hr
    · rw [Sim.skipc_of_not_pb hp]; omega

theorem skipc_le_real {C : List Instr} {p q : Nat} (hpq : p ≤ q) (hr : C[q]? ≠ some Instr.potBreak) : skipc C p ≤ q :=
  skipc_le_of_real (q - p) p q (by omega) hr

/-- the anchor of a position `p` is `skipc C p`, the first position from `p` on that holds a real
    instruction.  Of two positions with the same anchor, one directly behind a real instruction is
    the smaller -/
theorem anchor_le {C : List Instr} {a b : Nat} (h : skipc C a = skipc C b) (h0 : 0 < a)
    (ha : C[a - 1]? ≠ some Instr.potBreak) : a ≤ b := by
  refine Nat.le_of_not_lt fun hlt => ?_
  have := skipc_le_real (C := C) (p := b) (q := a - 1) (by omega) ha
  have := Sim.le_skipc C a
  omega

theorem pc_exact {C : List Instr} {pc len : Nat} (h : skipc C pc = skipc C len)
    (h1 : 0 < pc) (hpc : C[pc - 1]? ≠ some Instr.potBreak)
    (h2 : 0 < len) (hlen : C[len - 1]? ≠ some Instr.potBreak) : pc = len :=
  Nat.le_antisymm (anchor_le h h1 hpc) (anchor_le h.symm h2 hlen)

theorem pc_exact_clean {C : List Instr} {pc lo len : Nat} (h : skipc C pc = skipc C len)
    (hpc : C[pc - 1]? ≠ some Instr.potBreak) (hlo : lo < pc)
    (hclean : ∀ p, lo ≤ p → p < len → C[p]? ≠ some Instr.potBreak) : pc = len := by
  refine Nat.le_antisymm (anchor_le h (Nat.zero_lt_of_lt hlo) hpc) (Nat.le_of_not_lt fun hlt => ?_)
  have a := Sim.skipc_of_not_pb (hclean pc (Nat.le_of_lt hlo) hlt)
  have b := Sim.le_skipc C len
  omega

theorem real_before_next (e : VEnv) (q : Nat) : e.code[e.next q - 1]? ≠ some Instr.potBreak := by
  unfold VEnv.next
  rw [Nat.add_sub_cancel]
  exact Sim.skipc_not_pb e.code q

set_option linter.unusedVariables false in
theorem real_of_at {e : VEnv} {q : Nat} {i : Instr} (h : e.at q = some i) :
    e.code[e.next q - 1]? ≠ some Instr.potBreak := real_before_next e q

theorem checkValue_end {e : VEnv} : ∀ {v : Value} {live : List Int} {pc : Nat} {tgt : Int} {pc' : Nat},
    checkValue e v live pc = some (tgt, pc') → skipc e.code pc < pc' ∧ e.code[pc' - 1]? ≠ some Instr.potBreak := by
  intro v live pc tgt pc' h
  have hlt : skipc e.code pc < pc' := by
    rw [← Sim.checkValue_skipc] at h
    exact Sim.checkValue_lt h
  refine ⟨hlt, ?_⟩
  cases v with
  | var y =>
    obtain ⟨_, _, ha, _, rfl⟩ := Sim.checkValue_var_iff.1 h
    exact real_before_next _ _
  | num n =>
    obtain ⟨ha, _, _, rfl⟩ := Sim.checkValue_num_iff.1 h
    exact real_before_next _ _
  | inc y k =>
    have h' : checkIncDec e y k true live pc = some (tgt, pc') := by simpa only [checkValue] using h
    obtain ⟨_, _, _, _, _, _, _, _, _, _, ha, _, _, rfl⟩ := Sim.checkIncDec_iff.1 h'
    exact real_before_next _ _
  | dec y k =>
    have h' : checkIncDec e y k false live pc = some (tgt, pc') := by simpa only [checkValue] using h
    obtain ⟨_, _, _, _, _, _, _, _, _, _, ha, _, _, rfl⟩ := Sim.checkIncDec_iff.1 h'
    exact real_before_next _ _
  | call f args =>
    obtain ⟨temps, pc1, _, j, pd, ri, cnt, pc2, _, _, _, _, _, _, ha, rfl⟩ := Sim.checkValue_call_iff.1 h
    exact real_before_next _ _

theorem simple_end {e : VEnv} {s : Stmt} (hs : Sim.isSimple s = true) {w w' : Walk} (h : checkStmt e s w = some w') :
    skipc e.code w.pc < w'.pc ∧ e.code[w'.pc - 1]? ≠ some Instr.potBreak := by
  cases s with
  | assign x v pos =>
    obtain ⟨rx, pc1, h1, _, rfl⟩ := Sim.checkStmt_assign_iff.1 h
    exact checkValue_end h1
  | goto m pos =>
    obtain ⟨off, ha, rfl⟩ := Sim.checkStmt_goto_iff.1 h
    exact ⟨by show _ < e.next w.pc; unfold VEnv.next; omega, real_before_next _ _⟩
  | ifGoto x cst m pos =>
    obtain ⟨rx, t1, t2, t0, off, _, _, _, _, _, _, _, _, _, ha, rfl⟩ := Sim.checkStmt_ifGoto_iff.1 h
    refine ⟨?_, real_before_next _ _⟩
    show _ < e.next (e.next (e.next (e.next w.pc)))
    have l1 : skipc e.code w.pc < e.next w.pc := by unfold VEnv.next; omega
    have l2 := Sim.lt_next e (e.next w.pc)
    have l3 := Sim.lt_next e (e.next (e.next w.pc))
    have l4 := Sim.lt_next e (e.next (e.next (e.next w.pc)))
    omega
  | stop pos =>
    obtain ⟨ha, rfl⟩ := Sim.checkStmt_stop_iff.1 h
    exact ⟨by show _ < e.next w.pc; unfold VEnv.next; omega, real_before_next _ _⟩
  | mark _ _ => cases hs
  | loop _ _ _ _ => cases hs
  | while_ _ _ _ => cases hs

def pbPos : List Instr → Nat → List Nat
  | [], _ => []
  | i :: is, b => if i = Instr.potBreak then b :: pbPos is (b + 1) else pbPos is (b + 1)

theorem pbPos_append : ∀ (a b : List Instr) (base : Nat), pbPos (a ++ b) base = pbPos a base ++ pbPos b (base + a.length)
  | [], b, base => by simp [pbPos]
  | i :: is, b, base => by
    simp only [List.cons_append, pbPos, List.length_cons]
    rw [pbPos_append is b (base + 1)]
    have : base + 1 + is.length = base + (is.length + 1) := by omega
    rw [this]
    split <;> simp

theorem pbPos_clean : ∀ (t : List Instr) (base : Nat), (∀ i ∈ t, i ≠ Instr.potBreak) → pbPos t base = []
  | [], _, _ => rfl
  | i :: is, base, h => by
    simp only [pbPos]
    rw [if_neg (h i List.mem_cons_self)]
    exact pbPos_clean is (base + 1) (fun x hx => h x (List.mem_cons_of_mem _ hx))

theorem pbPos_site (base : Nat) : pbPos [Instr.potBreak] base = [base] := by simp [pbPos]

theorem pbPos_one {i : Instr} (h : i ≠ Instr.potBreak) (base : Nat) : pbPos [i] base = [] := by simp [pbPos, h]

theorem sitePositions_eq (C : List Instr) : ∀ (t : List Instr) (lo hi : Nat), hi = lo + t.length →
    (∀ i, i < t.length → (C[lo + i]? = some Instr.potBreak ↔ t[i]? = some Instr.potBreak)) →
    sitePositions C lo hi = pbPos t lo
  | [], lo, hi, hhi, _ => Sim.sitePositions_nil (fun x h1 h2 => by rw [hhi] at h2; exact absurd h2 (Nat.not_lt.2 h1))
  | x :: xs, lo, hi, hhi, h => by
    have h0 : C[lo]? = some Instr.potBreak ↔ x = Instr.potBreak := by simpa using h 0 (Nat.succ_pos _)
    have hlt : lo + 1 ≤ hi := by rw [hhi]; exact Nat.succ_le_succ (Nat.le_add_right _ _)
    have ih := sitePositions_eq C xs (lo + 1) hi (by rw [hhi, List.length_cons]; omega) (fun i hi => by
      rw [Nat.add_assoc, Nat.add_comm 1 i]
      simpa using h (i + 1) (Nat.succ_lt_succ hi))
    rw [pbPos]
    by_cases hx : x = Instr.potBreak
    · rw [if_pos hx, Sim.sitePositions_cons_self C (h0.2 hx) hlt, ih]
    · rw [if_neg hx, Sim.sitePositions_split C (Nat.le_succ lo) hlt, ih, Sim.sitePositions_nil, List.nil_append]
      intro y h1 h2
      rw [Nat.le_antisymm (Nat.le_of_lt_succ h2) h1]
      exact fun hc => hx (h0.1 hc)

theorem agree_pb_iff {L : List Int} {code C : List Instr} (ha : Agree L code C) {p : Nat} (h0 : 0 < p) (hp : p < code.length) :
    C[p]? = some Instr.potBreak ↔ code[p]? = some Instr.potBreak := by
  have hc : code[p]? = some code[p] := List.getElem?_eq_getElem hp
  rw [ha p _ h0 hc, hc]
  simp only [Option.some.injEq]
  exact patch_pb_iff L p _

theorem advanceLine_std (gs : GS) (line : Int) (file : Bytes) (h : file = ConstGen.genStdFileName) :
    gs.advanceLine line file = gs := GS.advanceLine_std gs line file h

theorem advanceLine_same (gs : GS) (line : Int) (file : Bytes) (hf : file = gs.fsName) (hl : line = gs.fsLine) :
    gs.advanceLine line file = gs := GS.advanceLine_same gs line file hf hl

theorem advanceLine_onLine (gs : GS) (line : Int) (file : Bytes) (h : onLine gs.fsName gs.fsLine file line = true) :
    gs.advanceLine line file = gs := by
  unfold onLine isStd at h
  simp only [Bool.or_eq_true, Bool.and_eq_true, decide_eq_true_eq] at h
  rcases h with h | ⟨h1, h2⟩
  · exact advanceLine_std gs line file h
  · exact advanceLine_same gs line file h1 h2

structure Moved (gs gs0 : GS) (file : Bytes) (line : Int) : Prop where
  code : gs0.code = gs.code ++ [Instr.potBreak]
  lineInfo : gs0.lineInfo = gs.lineInfo ++ [((gs.code.length : Int), ⟨file, line⟩)]
  fsName : gs0.fsName = file
  fsLine : gs0.fsLine = line

theorem moved_of (gs : GS) (line : Int) (file : Bytes) (hs : file ≠ ConstGen.genStdFileName)
    (hm : ¬ (file = gs.fsName ∧ line = gs.fsLine)) (ht : TInv (fun _ => True) gs) :
    Moved gs (gs.advanceLine line file) file line := by
  rw [advanceLine_move gs line file hs hm]
  refine ⟨rfl, ?_, rfl, rfl⟩
  show sortedInsert liLt true (_, _) gs.lineInfo = _
  exact insert_li_append _ _ _ (fun e he => (ht.1.rng e he).2)

theorem sitesStmts_nil (e : VEnv) (w : Walk) (k : Nat) (prev : Prev) : sitesStmts e .nil w k prev = some ([], w, k, prev) := by
  rw [sitesStmts.eq_def]

theorem sitesStmts_single {e : VEnv} {s : Stmt} {w w1 : Walk} {k k1 : Nat} {prev prev1 : Prev} {l1 : List ESite}
    (h1 : sitesStmt e s w k prev = some (l1, w1, k1, prev1)) :
    sitesStmts e (.cons s .nil) w k prev = some (l1, w1, k1, prev1) := by
  have := Sim.sitesStmts_cons_iff.2 ⟨_, _, _, _, _, h1, sitesStmts_nil e w1 k1 prev1, rfl⟩
  simpa using this

theorem sitesStmts_append_ok {e : VEnv} {b : Stmts} {w1 w2 : Walk} {k1 k2 : Nat} {prev1 prev2 : Prev} {l2 : List ESite}
    (h2 : sitesStmts e b w1 k1 prev1 = some (l2, w2, k2, prev2)) :
    ∀ (a : Stmts) {w : Walk} {k : Nat} {prev : Prev} {l1 : List ESite},
      sitesStmts e a w k prev = some (l1, w1, k1, prev1) →
      sitesStmts e (a.append b) w k prev = some (l1 ++ l2, w2, k2, prev2)
  | .nil, _, _, _, _, h1 => by
    obtain ⟨rfl, rfl, rfl, rfl⟩ := Sim.sitesStmts_nil_inv h1
    exact h2
  | .cons s ss, _, _, _, _, h1 => by
    obtain ⟨la, wa, ka, pa, lb, ha, hb, rfl⟩ := Sim.sitesStmts_cons_iff.1 h1
    rw [List.append_assoc]
    exact Sim.sitesStmts_cons_iff.2 ⟨_, _, _, _, _, ha, sitesStmts_append_ok h2 ss hb, rfl⟩

theorem sitesStmt_loop_ok {e : VEnv} {id : Nat} {x : Name} {body : Stmts} {q : Pos} {w w' wb : Walk} {k kb : Nat}
    {prev pb : Prev} {lb : List ESite}
    (hc : (Sim.sameLine prev (.loop id x body q) && !Sim.afterMk prev) = false)
    (hb : sitesStmts e body { w with pc := w.pc + Sim.kOf k prev (.loop id x body q) + 2 } 0 (some (q, false)) = some (lb, wb, kb, pb))
    (h : checkStmt e (.loop id x body q) w = some w')
    (hj : loopJumpsExact e.code (w.pc + Sim.kOf k prev (.loop id x body q) + 1) (w.pc + Sim.kOf k prev (.loop id x body q) + 1) w'.pc = true) :
    sitesStmt e (.loop id x body q) w k prev = some (Sim.hereOf w k prev (.loop id x body q) ++ lb, w', 0, none) :=
  (Sim.sitesStmt_frame (.loop id x body q)).2 ⟨hc, _, _, _, _, hb, h, hj, rfl, rfl, rfl⟩

theorem sitesStmt_while_ok {e : VEnv} {x : Name} {body : Stmts} {q : Pos} {w w' wb : Walk} {k kb : Nat}
    {prev pb : Prev} {lb : List ESite}
    (hc : (Sim.sameLine prev (.while_ x body q) && !Sim.afterMk prev) = false)
    (hb : sitesStmts e body { w with pc := w.pc + Sim.kOf k prev (.while_ x body q) + 2 } 0 (some (q, false)) = some (lb, wb, kb, pb))
    (h : checkStmt e (.while_ x body q) w = some w')
    (hj : loopJumpsExact e.code (w.pc + Sim.kOf k prev (.while_ x body q) + 1) (w.pc + Sim.kOf k prev (.while_ x body q)) w'.pc = true) :
    sitesStmt e (.while_ x body q) w k prev = some (Sim.hereOf w k prev (.while_ x body q) ++ lb, w', 0, none) :=
  (Sim.sitesStmt_frame (.while_ x body q)).2 ⟨hc, _, _, _, _, hb, h, hj, rfl, rfl, rfl⟩

theorem frame_end {e : VEnv} {st : Stmt} {body : Stmts} {q : Pos} {d : Nat} (hf : Framed st body q d) {w w' : Walk}
    (h : checkStmt e st w = some w') : 0 < w'.pc ∧ e.code[w'.pc - 1]? ≠ some Instr.potBreak := by
  cases hf with
  | loop id x body q =>
    obtain ⟨_, _, _, _, w1, _, _, _, _, _, _, hjmp, _, _, rfl⟩ := Sim.checkStmt_loop_iff.1 h
    exact ⟨Nat.succ_pos _, real_before_next _ _⟩
  | while_ x body q =>
    obtain ⟨_, _, _, _, w1, _, _, _, _, _, hjmp, _, _, rfl⟩ := Sim.checkStmt_while_iff.1 h
    exact ⟨Nat.succ_pos _, real_before_next _ _⟩

structure NoSite (gs gs' : GS) : Prop where
  code : ∃ t, gs'.code = gs.code ++ t ∧ ∀ i ∈ t, i ≠ Instr.potBreak
  lineInfo : gs'.lineInfo = gs.lineInfo
  fsName : gs'.fsName = gs.fsName
  fsLine : gs'.fsLine = gs.fsLine

theorem NoSite.refl (gs : GS) : NoSite gs gs :=
  ⟨⟨[], (List.append_nil _).symm, fun _ h => (List.not_mem_nil h).elim⟩, rfl, rfl, rfl⟩

theorem NoSite.trans {a b c : GS} (h1 : NoSite a b) (h2 : NoSite b c) : NoSite a c := by
  obtain ⟨t1, e1, c1⟩ := h1.code
  obtain ⟨t2, e2, c2⟩ := h2.code
  refine ⟨⟨t1 ++ t2, by rw [e2, e1, List.append_assoc], ?_⟩, h2.lineInfo.trans h1.lineInfo,
    h2.fsName.trans h1.fsName, h2.fsLine.trans h1.fsLine⟩
  intro i hi
  rcases List.mem_append.1 hi with h | h
  · exact c1 i h
  · exact c2 i h

theorem NoSite.prefix {a b : GS} (h : NoSite a b) : a.code <+: b.code := by
  obtain ⟨t, e, _⟩ := h.code
  exact e ▸ List.prefix_append _ _

theorem NoSite.otherFields (gs : GS) (er : List GErr) (sy : List FGS) (la : List Int) (lo : Nat) (sm : List StackMap)
    (fa : List (Bytes × ProgRec)) (td : List Nat) :
    NoSite gs { gs with errors := er, symbols := sy, labels := la, loops := lo, stackMaps := sm, funcAddrs := fa, todo := td } :=
  ⟨⟨[], (List.append_nil _).symm, fun _ h => (List.not_mem_nil h).elim⟩, rfl, rfl, rfl⟩

theorem nosite_emit (gs : GS) {i : Instr} (h : i ≠ Instr.potBreak) : NoSite gs (gs.emit i) :=
  ⟨⟨[i], rfl, fun x hx => by rw [List.mem_singleton.1 hx]; exact h⟩, rfl, rfl, rfl⟩

theorem nosite_emitBackpatched (gs : GS) {i : Instr} (h : i ≠ Instr.potBreak) : NoSite gs (gs.emitBackpatched i) :=
  (nosite_emit gs h).trans (NoSite.otherFields ..)

theorem nosite_setTop (gs : GS) (f : FGS) : NoSite gs (gs.setTop f) := NoSite.otherFields ..
theorem nosite_releaseTemporary (gs : GS) (i : Int) : NoSite gs (gs.releaseTemporary i) := NoSite.otherFields ..
theorem nosite_setLabel (gs : GS) (l : Nat) (p : Int) : NoSite gs (gs.setLabel l p) := NoSite.otherFields ..
theorem nosite_createLabel (gs : GS) : NoSite gs gs.createLabel.1 := NoSite.otherFields ..

theorem nosite_inv (g0 : GS) : StmtInv (fun file line => onLine g0.fsName g0.fsLine file line = true) (NoSite g0) where
  aux _ _ _ _ _ h := h.trans (NoSite.otherFields ..)
  err _ h := h.trans (NoSite.otherFields ..)
  emit hi h := h.trans (nosite_emit _ (by rintro rfl; cases hi))
  advanceLine hA h := by rw [advanceLine_onLine _ _ _ (by rw [h.fsName, h.fsLine]; exact hA)]; exact h
  emitBackpatched hi _ h := h.trans (nosite_emitBackpatched _ hi)

theorem nosite_fetchTemporary (gs : GS) : NoSite gs gs.fetchTemporary.1 := (nosite_inv gs).fetchTemporary (.refl gs)
theorem nosite_fetchVar (gs : GS) (n : Bytes) : NoSite gs (gs.fetchVar n).1 := (nosite_inv gs).fetchVar (.refl gs) n
theorem nosite_markLabel (gs : GS) (n : Bytes) : NoSite gs (gs.markLabel n).1 := (nosite_inv gs).markLabel (.refl gs) n
theorem nosite_popSymbols (gs : GS) (a : Int) : NoSite gs (gs.popSymbols a) := (nosite_inv gs).popSymbols (.refl gs) a

theorem valLay_mk (cf : Bytes) (cl : Int) (args : Bool) (t : Nat) (tok f : Bytes) (ln : Int) (l r : Node) :
    valLay cf cl args (.mk t tok f ln l r) =
      if args ∧ t = NodeT.SPLIT then valLay cf cl true l && valLay cf cl true r
      else onLine cf cl f ln && (if t = NodeT.CALL then valLay cf cl true r else true) := by
  rw [valLay]

/-- clause 4 of the layout is `ValP` for "on the line" -/
theorem valLay_valP (cf : Bytes) (cl : Int) : ∀ (n : Node) (args : Bool), valLay cf cl args n = true →
    Loc.ValP (fun file line => onLine cf cl file line = true) args n
  | .nil, _, _ => by rw [Loc.ValP]; trivial
  | .mk t tok f ln l r, args, h => by
    rw [valLay_mk] at h
    rw [Loc.ValP]
    by_cases hc : args = true ∧ t = NodeT.SPLIT
    · rw [if_pos hc, Bool.and_eq_true] at h
      rw [if_pos hc]
      exact ⟨valLay_valP cf cl l true h.1, valLay_valP cf cl r true h.2⟩
    · rw [if_neg hc, Bool.and_eq_true] at h
      rw [if_neg hc]
      exact ⟨h.1, fun ht => valLay_valP cf cl r true (by rw [if_pos ht] at h; exact h.2)⟩

theorem nosite_value (gs : GS) (n : Node) (tgt : Int) (h : valLay gs.fsName gs.fsLine false n = true) :
    NoSite gs (genV gs n tgt) :=
  ((nosite_inv gs).values _).1 gs n tgt (valLay_valP _ _ n false h) (.refl gs)

theorem name_code (gs : GS) (tok file : Bytes) (line : Int) (l r : Node) (tgt : Int)
    (h : onLine gs.fsName gs.fsLine file line = true) :
    ∃ i, (genV gs (.mk NodeT.NAME tok file line l r) tgt).code = gs.code ++ [i] := by
  rw [dispatchValue_name, advanceLine_onLine gs line file h]
  refine ⟨Instr.add tgt (gs.fetchVar tok).2 0, ?_⟩
  rw [emit_code, (fetchVar_spec (fun _ => True) gs tok trivial).code]

end GenSites
end Theo
