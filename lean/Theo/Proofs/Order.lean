/-
  The two orders of the model are the lexicographic ones: `bytesLt` (byte strings; `std::string`
  comparison) is core's order on lists, `BreakPoint.lt` (`operator<` of program.cpp) the order on
  (file, line).  Both are strict total orders.
-/
import Theo.Model.VM

namespace Theo

theorem bytesLt_iff : ∀ {a b : Bytes}, bytesLt a b = true ↔ a < b
  | [], [] => by simp [bytesLt]
  | [], _ :: _ => by simp [bytesLt]
  | _ :: _, [] => by simp [bytesLt]
  | x :: xs, y :: ys => by
    rw [List.cons_lt_cons_iff, ← bytesLt_iff (a := xs), bytesLt]
    by_cases h1 : x < y
    · simp [h1]
    · by_cases h2 : y < x
      · have : x ≠ y := fun e => h1 (e ▸ h2)
        simp [h1, h2, this]
      · have : x = y := UInt8.le_antisymm (UInt8.not_lt.1 h2) (UInt8.not_lt.1 h1)
        simp [this]

theorem bytesLt_tri (a b : Bytes) (h1 : bytesLt a b = false) (h2 : bytesLt b a = false) :
    a = b := by
  rw [← Bool.not_eq_true, bytesLt_iff] at h1 h2
  exact List.le_antisymm (List.not_lt.1 h2) (List.not_lt.1 h1)

theorem BreakPoint.lt_iff {a b : BreakPoint} :
    a.lt b = true ↔ a.file < b.file ∨ (a.file = b.file ∧ a.line < b.line) := by
  unfold BreakPoint.lt
  by_cases h1 : a.file < b.file
  · simp [bytesLt_iff.2 h1, h1]
  · rw [if_neg (mt bytesLt_iff.1 h1)]
    by_cases h2 : b.file < a.file
    · rw [if_pos (bytesLt_iff.2 h2)]
      exact ⟨nofun, fun h => h.elim (absurd · h1) fun h => absurd (h.1 ▸ h2) (List.lt_irrefl _)⟩
    · rw [if_neg (mt bytesLt_iff.1 h2), decide_eq_true_iff]
      have e : a.file = b.file := List.le_antisymm (List.not_lt.1 h2) (List.not_lt.1 h1)
      exact ⟨fun h => .inr ⟨e, h⟩, fun h => h.elim (absurd · h1) (·.2)⟩

theorem BreakPoint.lt_irrefl (a : BreakPoint) : a.lt a = false :=
  Bool.eq_false_iff.2 fun h =>
    (BreakPoint.lt_iff.1 h).elim (List.lt_irrefl _) fun h => Int.lt_irrefl _ h.2

theorem BreakPoint.lt_trans (a b c : BreakPoint) (h1 : a.lt b = true) (h2 : b.lt c = true) :
    a.lt c = true := by
  rw [BreakPoint.lt_iff] at h1 h2 ⊢
  rcases h1 with h1 | ⟨f1, l1⟩ <;> rcases h2 with h2 | ⟨f2, l2⟩
  · exact .inl (List.lt_trans h1 h2)
  · exact .inl (f2 ▸ h1)
  · exact .inl (f1 ▸ h2)
  · exact .inr ⟨f1.trans f2, Int.lt_trans l1 l2⟩

theorem BreakPoint.lt_tri (a b : BreakPoint) (h1 : BreakPoint.lt a b = false)
    (h2 : BreakPoint.lt b a = false) : a = b := by
  rw [← Bool.not_eq_true, BreakPoint.lt_iff] at h1 h2
  have e : a.file = b.file :=
    List.le_antisymm (List.not_lt.1 fun h => h2 (.inl h)) (List.not_lt.1 fun h => h1 (.inl h))
  have l1 : ¬ a.line < b.line := fun h => h1 (.inr ⟨e, h⟩)
  have l2 : ¬ b.line < a.line := fun h => h2 (.inr ⟨e.symm, h⟩)
  cases a; cases b
  simp only at e l1 l2
  rw [e, show _ = _ from Int.le_antisymm (Int.not_lt.1 l2) (Int.not_lt.1 l1)]

end Theo
