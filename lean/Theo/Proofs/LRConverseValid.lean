/-
  Converse of C12/C13, part 2: validity of items.
  Every item `[A → α . β, a]` of the state reached along a path `γ` of the automaton is *valid*
  for `γ`: there is a rightmost derivation `S' ⇒*rm δ A w ⇒rm δ α β w` with `γ = δ α` and
  `a = FIRST₁(w·eof)` (`pathItems_valid`).  Every state of the collection is reached along some
  path (`collection_path`).
-/
import Theo.Proofs.LRConverseDeriv
import Theo.Proofs.LRComplete

namespace Theo
namespace LRConverse
open LRSound LRComplete FirstProofs

def laOf (eof : Nat) (w : List Nat) : Nat := (w.head?).getD eof

theorem laOf_nil (eof : Nat) : laOf eof [] = eof := rfl
theorem laOf_cons (eof a : Nat) (w : List Nat) : laOf eof (a :: w) = a := rfl

section Valid
variable (g : Grammar) (start eof : Nat)

def ValidFor (γ : List Sym) (it : Item) : Prop :=
  ∃ (δ : List Sym) (w : List Nat),
    RDerives (g.augment start eof) [.n g.numNT] (δ ++ Sym.n it.left :: tsyms w) ∧
    γ = δ ++ ((g.augment start eof).rhs it).take it.dot ∧
    it.follow = .t (laOf eof w)

structure VItem (γ : List Sym) (it : Item) : Prop where
  good : Good g start eof it
  valid : ValidFor g start eof γ it

theorem initial_vitem (hg : g.Closed) :
    VItem g start eof [] ⟨g.numNT, 0, 0, .t eof⟩ := by
  refine ⟨⟨by simp [augment_alts_S g start eof hg], Or.inr ⟨rfl, rfl⟩⟩, ?_⟩
  exact ⟨[], [], by simpa [tsyms] using RDerives.refl, by simp, rfl⟩

theorem vitem_close (hg : g.Closed) (hs : start < g.numNT) (hp : g.Productive) (γ : List Sym)
    {it : Item} (h : VItem g start eof γ it) :
    ∀ x ∈ closeItem (g.augment start eof) (firstSets (g.augment start eof)) it,
      VItem g start eof γ x := by
  intro x hx
  refine ⟨(good_close g start eof _ hg hs h.good x hx).1, ?_⟩
  obtain ⟨δ, w, hder, hγ, hfol⟩ := h.valid
  obtain ⟨B, hB, ri, hri, la, hla, rfl⟩ := mem_closeItem_iff.1 hx
  have hget := afterDot_some _ it (.n B) (by simp) hB
  have hsplit := rhs_split (g.augment start eof) it (.n B) hget
  generalize hα : ((g.augment start eof).rhs it).take it.dot = α at hsplit hγ
  generalize hβ : ((g.augment start eof).rhs it).drop (it.dot + 1) = β at hsplit hla
  -- the lookahead is a terminal `c` in FIRST(β a)
  obtain ⟨c, rfl, hc⟩ := close_follow (g.augment start eof) it _ hfol la (by rw [hβ]; exact hla)
  rw [hβ, hfol] at hc
  obtain ⟨β'', hsd⟩ := (fos_sound (firstSets_sound (g.augment start eof)) _).1 c hc
  -- `fos_sound` gives `β a ⇒* c β''` with non-terminals left in `β''`, but the new right context
  -- has to be a terminal string: every symbol is productive, so take trees for `β''`
  -- (`trees_of_syms`), pull them back along the derivation to trees for `β a` (`sd_trees`), and
  -- read those as a rightmost derivation of their yield (`trees_rd`)
  have hrhs := good_rhs_sym g start eof hg hs h.good
  have hβok : ∀ s ∈ β ++ [Sym.t (laOf eof w)], NTOK g s := by
    intro s hsm
    rcases List.mem_append.mp hsm with hsm | hsm
    · apply hrhs; rw [hsplit]; simp [hsm]
    · simp only [List.mem_singleton] at hsm; subst hsm
      exact ⟨by simp, fun k hk => by cases hk⟩
  have hψok := sd_ntOK g start eof hg hsd hβok
  obtain ⟨ts, hroots, hvalid⟩ := trees_of_syms (g.augment start eof) g.numNT
    (productive_aug g start eof hg hp) _ hψok
  obtain ⟨ts', hroots', hvalid', hy⟩ := sd_trees hsd ts hroots hvalid
  obtain ⟨tβ, tl, e1, r1, r2⟩ := List.map_eq_append_iff.mp hroots'
  have htl : tl = [Tree.leaf (laOf eof w)] := by
    cases tl with
    | nil => simp at r2
    | cons t0 tl =>
      simp only [List.map_cons, List.cons.injEq, List.map_eq_nil_iff] at r2
      rw [leaf_of_root r2.1, r2.2]
  cases ts with
  | nil => simp at hroots
  | cons t0 ts0 =>
    simp only [List.map_cons, List.cons.injEq] at hroots
    have ht0 := leaf_of_root hroots.1
    subst e1 htl ht0
    have hy' : yields tβ ++ [laOf eof w] = c :: yields ts0 := by
      simpa [yields, Tree.yield] using hy
    have hvβ : ∀ t ∈ tβ, t.Valid (g.augment start eof) := fun t ht => hvalid' t (by simp [ht])
    have h1 : RDerives (g.augment start eof) [.n g.numNT]
        (δ ++ (g.augment start eof).rhs it ++ tsyms w) :=
      RDerives.tail hder (RStep.mk δ it.left it.alt _ w (rhs_get h.good.alt_lt))
    have h2 := trees_rd (g.augment start eof) tβ hvβ (δ ++ α ++ [Sym.n B]) w
    rw [r1] at h2
    refine ⟨δ ++ α, yields tβ ++ w, ?_, by simp [hγ], ?_⟩
    · rw [hsplit] at h1
      have := rd_trans (by simpa [List.append_assoc] using h1) h2
      simpa [tsyms_append, List.append_assoc] using this
    · show Sym.t c = Sym.t (laOf eof (yields tβ ++ w))
      cases hz : yields tβ with
      | nil =>
        rw [hz] at hy'
        simp only [List.nil_append, List.cons.injEq] at hy'
        rw [← hy'.1]; rfl
      | cons c' z' =>
        rw [hz] at hy'
        simp only [List.cons_append, List.cons.injEq] at hy'
        rw [← hy'.1]; rfl

theorem vitem_adv (γ : List Sym) {it : Item} {X : Sym} (h : VItem g start eof γ it)
    (hX : X ≠ .eps) (ha : (g.augment start eof).afterDot it = X) :
    VItem g start eof (γ ++ [X]) (adv it) := by
  have hget := afterDot_some _ it X hX ha
  refine ⟨good_adv g start eof h.good, ?_⟩
  obtain ⟨δ, w, hder, hγ, hfol⟩ := h.valid
  refine ⟨δ, w, hder, ?_, hfol⟩
  rw [rhs_adv]
  simp only [adv]
  rw [List.take_add_one, hget, hγ]
  simp

/-- soundness of the item sets: the items of the set reached along `γ` are valid for `γ` -/
theorem path_valid (hg : g.Closed) (hs : start < g.numNT) (hp : g.Productive) :
    ∀ (γ π : List Sym) (I : ItemSet), (∀ it ∈ I, VItem g start eof π it) → (∀ s ∈ γ, s ≠ .eps) →
      ∀ it ∈ γ.foldl (jump (g.augment start eof) (firstSets (g.augment start eof))) I,
        VItem g start eof (π ++ γ) it := by
  intro γ
  induction γ with
  | nil => intro π I h _; rwa [List.append_nil]
  | cons X γ ih =>
    intro π I h hγ
    rw [List.append_cons]
    exact ih _ _ (jump_mem _ _ _
      (fun _ hit => vitem_close g start eof hg hs hp _ hit)
      _ _ fun it hit ha => vitem_adv g start eof π (h it hit) (hγ X List.mem_cons_self) ha)
      fun s hs' => hγ s (List.mem_cons_of_mem _ hs')

theorem pathItems_valid (hg : g.Closed) (hs : start < g.numNT) (hp : g.Productive) {γ : List Sym}
    (hγ : ∀ s ∈ γ, s ≠ .eps) : ∀ it ∈ pathItems g start eof γ, VItem g start eof γ it :=
  path_valid g start eof hg hs hp γ [] _ (hull_mem _ _ _
    (fun _ hit => vitem_close g start eof hg hs hp [] hit) _
    fun _ hx => List.mem_singleton.1 hx ▸ initial_vitem g start eof hg) hγ

end Valid

section Ind
variable (ga : Grammar) (fi : FirstInfo) (P : LRState → Prop)
  (hnew : ∀ (st : LRState) (x : Sym), P st → x ∈ befores ga st.items → P ⟨jump ga fi st.items x, []⟩)
  (htr : ∀ (st : LRState) (tr : List (Sym × Nat)), P st → (∀ p ∈ tr, p.1 ∈ befores ga st.items) →
    P { st with trans := tr })
include hnew htr

theorem expandState_ind (S : List LRState) (i : Nat) (h : ∀ (q : Nat) (st : LRState), S[q]? = some st → P st) :
    ∀ (q : Nat) (st : LRState), (expandState ga fi S i)[q]? = some st → P st := by
  cases hst : S[i]? with
  | none => rw [expandState_eq, hst]; exact h
  | some st =>
    obtain ⟨ext, tr, he, hext, htr', _⟩ := expandState_spec ga fi S i st hst
    intro q st' hq
    rw [he, List.getElem?_set] at hq
    split at hq
    · split at hq
      · cases hq; exact htr st tr (h i st hst) (fun p hp => (htr' p hp).1)
      · cases hq
    · rcases mem_of_getElem?_append hq with hq | hq
      · exact h q st' hq
      · obtain ⟨x, hx, rfl⟩ := hext st' hq
        exact hnew st x (h i st hst) hx

theorem collection_ind (sPrime eof fuel : Nat) (h0 : P ⟨hull ga fi [⟨sPrime, 0, 0, .t eof⟩], []⟩) :
    ∀ (q : Nat) (st : LRState), (collection ga fi sPrime eof fuel)[q]? = some st → P st := by
  refine collectAux_ind ga fi (fun S => ∀ (q : Nat) (st : LRState), S[q]? = some st → P st)
    (expandState_ind ga fi P hnew htr) fuel 0 _ (fun q st hq => ?_)
  cases q with
  | zero => simp at hq; subst hq; exact h0
  | succ q => simp at hq

end Ind

theorem collection_path (g : Grammar) (start eof fuel : Nat) : ∀ (q : Nat) (st : LRState),
    (collection (g.augment start eof) (firstSets (g.augment start eof)) g.numNT eof fuel)[q]? =
      some st → ∃ γ, (∀ s ∈ γ, s ≠ .eps) ∧ st.items = pathItems g start eof γ :=
  collection_ind _ _ (fun st => ∃ γ, (∀ s ∈ γ, s ≠ .eps) ∧ st.items = pathItems g start eof γ)
    (fun st x ⟨γ, hγ, e⟩ hx => ⟨γ ++ [x], forall_snoc hγ ((mem_befores_iff _ _ x).1 hx).1,
      by rw [pathItems_append, ← e, List.foldl_cons, List.foldl_nil]⟩)
    (fun _ _ h _ => h) _ _ fuel ⟨[], nofun, by rw [pathItems, List.foldl_nil]⟩

end LRConverse
end Theo
