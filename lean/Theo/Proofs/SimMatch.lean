/-
  The simulation relation between configurations of the reference semantics and states of the
  VM: registers holding values, pending evaluation contexts, one activation, the stack.
-/
import Theo.Proofs.SimValid
import Theo.Proofs.SimRegs

namespace Theo
namespace Sim
open Sem

def HoldAll (H : Int → Nat → Prop) (acc : List Int) (done : List Nat) : Prop :=
  acc.length = done.length ∧ ∀ q ∈ acc.zip done, H q.1 q.2

theorem HoldAll.nil (H : Int → Nat → Prop) : HoldAll H [] [] := ⟨rfl, fun _ h => nomatch h⟩

theorem HoldAll.snoc {H : Int → Nat → Prop} {acc : List Int} {done : List Nat} {t : Int} {n : Nat}
    (h : HoldAll H acc done) (ht : H t n) : HoldAll H (acc ++ [t]) (done ++ [n]) := by
  refine ⟨by simp [h.1], fun q hq => ?_⟩
  rw [List.zip_append h.1] at hq
  rcases List.mem_append.1 hq with hq | hq
  · exact h.2 q hq
  · simp only [List.zip_cons_cons, List.zip_nil_right, List.mem_singleton] at hq
    subst hq
    exact ht

theorem HoldAll.mono {H H' : Int → Nat → Prop} {acc : List Int} {done : List Nat}
    (h : HoldAll H acc done) (hm : ∀ t, t ∈ acc → ∀ n, H t n → H' t n) : HoldAll H' acc done :=
  ⟨h.1, fun q hq => hm q.1 (List.of_mem_zip hq).1 q.2 (h.2 q hq)⟩

theorem HoldAll.cons_inv {H : Int → Nat → Prop} {t : Int} {ts : List Int} {v : Nat} {vs : List Nat}
    (h : HoldAll H (t :: ts) (v :: vs)) : H t v ∧ HoldAll H ts vs := by
  obtain ⟨h1, h2⟩ := h
  refine ⟨h2 (t, v) (by simp), by simpa using h1, fun q hq => h2 q ?_⟩
  simp only [List.zip_cons_cons, List.mem_cons]
  exact Or.inr hq

/-- the code that consumes a value arriving in `tgt` at `pc`: the remaining arguments and the
    call of every pending context (innermost first), finally the assignment to `x`;
    `live` = the temporaries holding the values already computed -/
def CtxAt (e : VEnv) (H : Int → Nat → Prop) : List ECtx → Name → List Int → Int → Nat → Nat → Prop
  | [], x, live, tgt, pc, pcS => live = [] ∧ e.me.regOf x = some tgt ∧ pc = pcS
  | c :: cs, x, live, tgt, pc, pcS => ∃ live' acc temps pc1 tgt' pc',
      live = live' ++ acc ∧ tempOK e live tgt = true ∧ HoldAll H acc c.done ∧
      checkArgs e c.todo live' (acc ++ [tgt]) pc = some (temps, pc1) ∧
      CallTail e c.f live' temps pc1 tgt' pc' ∧ CtxAt e H cs x live' tgt' pc' pcS

theorem CtxAt.pres {e : VEnv} {H H' : Int → Nat → Prop} : ∀ {cs : List ECtx} {x : Name}
    {live : List Int} {tgt : Int} {pc pcS : Nat}, CtxAt e H cs x live tgt pc pcS →
    (∀ t, t ∈ live → ∀ n, H t n → H' t n) → CtxAt e H' cs x live tgt pc pcS := by
  intro cs
  induction cs with
  | nil => intro x live tgt pc pcS h _; exact h
  | cons c cs ih =>
    intro x live tgt pc pcS h hm
    simp only [CtxAt] at h ⊢
    obtain ⟨live', acc, temps, pc1, tgt', pc', h1, h2, h3, h4, h5, h6⟩ := h
    subst h1
    exact ⟨live', acc, temps, pc1, tgt', pc', rfl, h2,
      h3.mono (fun t ht => hm t (List.mem_append_right _ ht)), h4, h5,
      ih h6 (fun t ht => hm t (List.mem_append_left _ ht))⟩

theorem CtxAt.mono {e : VEnv} {H H' : Int → Nat → Prop} {cs : List ECtx} {x : Name}
    {live : List Int} {tgt : Int} {pc pcS : Nat} (h : CtxAt e H cs x live tgt pc pcS)
    (hm : ∀ t n, H t n → H' t n) : CtxAt e H' cs x live tgt pc pcS :=
  h.pres (fun t _ n => hm t n)

theorem CtxAt.not_live {e : VEnv} {H : Int → Nat → Prop} {cs : List ECtx} {x : Name}
    {live : List Int} {tgt : Int} {pc pcS : Nat} (h : CtxAt e H cs x live tgt pc pcS) :
    tgt ∉ live := by
  cases cs with
  | nil => simp only [CtxAt] at h; rw [h.1]; simp
  | cons c cs =>
    obtain ⟨live', acc, temps, pc1, tgt', pc', h1, h2, _⟩ := h
    have := (tempOK_iff.1 h2).2
    simpa using this

theorem ctxAt_le {e : VEnv} {H : Int → Nat → Prop} : ∀ {cs : List ECtx} {x : Name} {live : List Int}
    {tgt : Int} {pc pcS : Nat}, CtxAt e H cs x live tgt pc pcS → pc ≤ pcS := by
  intro cs
  induction cs with
  | nil => intro x live tgt pc pcS h; simp only [CtxAt] at h; omega
  | cons c1 cs ih =>
    intro x live tgt pc pcS h
    simp only [CtxAt] at h
    obtain ⟨live', acc, temps, pc1, tgt', pc', _, _, _, h4, h5, h6⟩ := h
    have := checkArgs_le h4
    have := callTail_lt h5
    have := ih h6
    omega

/- The protocol of a call on `CtxAt`, one lemma per step of the reference machine that moves
   between argument positions: into the first argument (`enter`), on to the next one (`more`),
   and, all arguments computed, to the `CallTail` (`call`). -/

section
variable {e : VEnv} {H : Int → Nat → Prop} {cs : List ECtx} {x f : Name} {done : List Nat} {a0 : Value}
  {as0 : Values} {live : List Int} {tgt : Int} {n pc pc' pcS : Nat}

theorem checkValue_call_nil (h : checkValue e (.call f .nil) live pc = some (tgt, pc')) :
    CallTail e f live [] pc tgt pc' := by
  obtain ⟨temps, pc1, hargs, htail⟩ := checkValue_call_iff.1 h
  rw [checkArgs_nil] at hargs
  cases hargs
  exact htail

theorem CtxAt.enter (hcv : checkValue e (.call f (.cons a0 as0)) live pc = some (tgt, pc'))
    (h : CtxAt e H cs x live tgt pc' pcS) : ∃ live2 t pca, checkValue e a0 live2 pc = some (t, pca) ∧
      CtxAt e H (⟨f, [], as0⟩ :: cs) x live2 t pca pcS := by
  obtain ⟨temps, pc1, hargs, htail⟩ := checkValue_call_iff.1 hcv
  obtain ⟨t, pca, hcv0, htmp, hargs'⟩ := checkArgs_cons_iff.1 hargs
  exact ⟨_, t, pca, hcv0, live, [], temps, pc1, tgt, pc', rfl, htmp, HoldAll.nil _, hargs', htail, h⟩

theorem CtxAt.more (hh : H tgt n) (h : CtxAt e H (⟨f, done, .cons a0 as0⟩ :: cs) x live tgt pc pcS) :
    ∃ live2 t pca, checkValue e a0 live2 pc = some (t, pca) ∧
      CtxAt e H (⟨f, done ++ [n], as0⟩ :: cs) x live2 t pca pcS := by
  obtain ⟨live', acc, temps, pc1, tgt', pc', rfl, _, hacc, hargs, htail, hctx⟩ := h
  obtain ⟨t, pca, hcv0, htmp0, hargs'⟩ := checkArgs_cons_iff.1 hargs
  exact ⟨_, t, pca, hcv0, live', acc ++ [tgt], temps, pc1, tgt', pc', rfl, htmp0, hacc.snoc hh, hargs',
    htail, hctx⟩

theorem CtxAt.call (hh : H tgt n) (h : CtxAt e H (⟨f, done, .nil⟩ :: cs) x live tgt pc pcS) :
    ∃ live' temps tgt' pc', CallTail e f live' temps pc tgt' pc' ∧ HoldAll H temps (done ++ [n]) ∧
      CtxAt e H cs x live' tgt' pc' pcS := by
  obtain ⟨live', acc, temps, pc1, tgt', pc', _, _, hacc, hargs, htail, hctx⟩ := h
  rw [checkArgs_nil] at hargs
  cases hargs
  exact ⟨live', _, tgt', pc', htail, hacc.snoc hh, hctx⟩

end

/-- where the code stands for a frame of the reference machine: `ip` is the position of the
    next instruction of this activation, `rt` the register awaiting a callee's result -/
def FrameAt (e : VEnv) (G : Walk) (H : Int → Nat → Prop) (fr : Frame) (ip : Nat) (rt : Int) : Prop :=
  match fr.ctrl with
  | .run => ∃ pcE, SAt e G fr.focus ip pcE ∧ KAt e G fr.k pcE G.pc
  | .eval v x cs => ∃ live tgt pc' pcS pcE, checkValue e v live ip = some (tgt, pc') ∧
      CtxAt e H cs x live tgt pc' pcS ∧ SAt e G fr.focus pcS pcE ∧ KAt e G fr.k pcE G.pc
  | .ret n x cs => ∃ live tgt pcS pcE, H tgt n ∧ CtxAt e H cs x live tgt ip pcS ∧
      SAt e G fr.focus pcS pcE ∧ KAt e G fr.k pcE G.pc
  | .wait x cs => ∃ live pcS pcE, CtxAt e H cs x live rt ip pcS ∧
      SAt e G fr.focus pcS pcE ∧ KAt e G fr.k pcE G.pc

theorem FrameAt.mono {e : VEnv} {G : Walk} {H H' : Int → Nat → Prop} {fr : Frame} {ip : Nat}
    {rt : Int} (h : FrameAt e G H fr ip rt) (hm : ∀ t n, H t n → H' t n) :
    FrameAt e G H' fr ip rt := by
  obtain ⟨r, env, ctrs, focus, k, ctrl⟩ := fr
  cases ctrl with
  | run => exact h
  | eval v x cs =>
    obtain ⟨live, tgt, pc', pcS, pcE, h1, h2, h3, h4⟩ := h
    exact ⟨live, tgt, pc', pcS, pcE, h1, h2.mono hm, h3, h4⟩
  | ret n x cs =>
    obtain ⟨live, tgt, pcS, pcE, h1, h2, h3, h4⟩ := h
    exact ⟨live, tgt, pcS, pcE, hm _ _ h1, h2.mono hm, h3, h4⟩
  | wait x cs =>
    obtain ⟨live, pcS, pcE, h2, h3, h4⟩ := h
    exact ⟨live, pcS, pcE, h2.mono hm, h3, h4⟩

/-- the environment the VM's registers reflect: a value already delivered to its variable's
    register is ahead of the reference machine by one (silent) step -/
def effEnv (fr : Frame) : Env :=
  match fr.ctrl with
  | .ret n x [] => fr.env.set x n
  | _ => fr.env

def isWait (fr : Frame) : Prop := ∃ x cs, fr.ctrl = .wait x cs

section
variable {src : Source} {p : Program}

def FrameRel (V : Valid src p) (d : List Int) (fr : Frame) (a : Act) (ip : Nat) (rt : Int) : Prop :=
  fr.routine ≤ src.progs.length ∧ a.dbg = (fr.routine : Int) ∧
  FrameOK d a (V.ri fr.routine) (effEnv fr) fr.ctrs ∧
  FrameAt (V.env fr.routine) (V.G fr.routine) (Holds d a) fr ip rt

theorem Valid.OK.entryAt {V : Valid src p} (hV : V.OK) {r : Nat} (hr : r ≤ src.progs.length)
    (H : Int → Nat → Prop) (env : Env) (ctrs : Ctrs) :
    FrameAt (V.env r) (V.G r) H ⟨r, env, ctrs, bodyOf src r, .done, .run⟩ (V.start r) 0 :=
  ⟨_, checkStmts_sat _ _ _ _ _ (hV.chk r hr) (Sub.refl _), rfl⟩

theorem FrameRel.below {V : Valid src p} {d d' : List Int} {fr : Frame} {a : Act} {ip : Nat} {rt : Int}
    {N : Nat} (h : FrameRel V d fr a ip rt) (hN : a.dataStart + a.segSize.toNat ≤ N)
    (hs : SameBelow N d d') : FrameRel V d' fr a ip rt := by
  obtain ⟨h1, h2, h3, h4⟩ := h
  exact ⟨h1, h2, h3.below hN hs, h4.mono (fun _ _ hh => hh.below hN hs)⟩

/-- the activations: the top one at position `ip`; every other one suspended in a call, its
    callee's activation recording where to return and where to deliver; the root at the bottom -/
def StackRel (V : Valid src p) (d : List Int) : List Frame → List Act → Nat → Int → Prop
  | [], _, _, _ => False
  | fr :: frs, as, ip, rt =>
    match as with
    | [] => False
    | a :: as' => FrameRel V d fr a ip rt ∧
      match frs with
      | [] => as' = [] ∧ fr.routine = src.progs.length
      | fr2 :: _ => fr.routine < src.progs.length ∧ isWait fr2 ∧
          ∃ ip2 : Nat, a.retAddr = (ip2 : Int) ∧ StackRel V d frs as' ip2 a.retTarget

theorem StackRel.below {V : Valid src p} {d d' : List Int} : ∀ {frs : List Frame} {as : List Act}
    {ip : Nat} {rt : Int} {N : Nat}, StackRel V d frs as ip rt → Tiles as N → SameBelow N d d' →
    StackRel V d' frs as ip rt := by
  intro frs
  induction frs with
  | nil => intro as ip rt N h _ _; simp only [StackRel] at h
  | cons fr frs ih =>
    intro as ip rt N h ht hs
    cases as with
    | nil => simp only [StackRel] at h
    | cons a as' =>
      simp only [StackRel] at h ⊢
      obtain ⟨_, hsum, ht'⟩ := ht
      refine ⟨h.1.below (by omega) hs, ?_⟩
      cases frs with
      | nil => exact h.2
      | cons fr2 frs' =>
        obtain ⟨g1, g2, ip2, g3, g4⟩ := h.2
        exact ⟨g1, g2, ip2, g3, ih g4 ht' (hs.mono (by omega))⟩

end

end Sim
end Theo
