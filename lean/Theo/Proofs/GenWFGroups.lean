/-
  C03 for the generator: the shape of the code one routine body consists of.
  `Groups C F lo hi seg`: `seg` is a sequence of complete groups — single instructions whose
  register operands are below `F` and whose jump operands are labels in `[lo, hi)`, and call
  sequences `PREPARE; ARG 0 …; ARG (n-1) …; EXEC` for a callee record satisfying `C`.
  `Groups.group_at` finds the group around a position of a larger code; `callSeg_facts` reads
  off what the local well-formedness needs inside a call sequence.
-/
import Theo.Model.Gen
import Theo.Proofs.GenWFLocal
import Theo.Proofs.Invariant

namespace Theo
namespace GenWF

theorem plain_of_head (pre seg : List Instr) {post : List Instr}
    (hpost : ∀ i, post[0]? = some i → notAE i = true) : Plain (pre ++ seg ++ post) (pre.length + seg.length) :=
  fun i hi => hpost i (getElem?_after pre seg post 0 ▸ hi)

theorem boundary_append {seg s : List Instr} {k : Nat} (hk : k ≤ seg.length)
    (h : ∀ i, seg[k]? = some i → notAE i = true) (hs : ∀ i, s[0]? = some i → notAE i = true) :
    ∀ i, (seg ++ s)[k]? = some i → notAE i = true := by
  intro i hi
  by_cases hlt : k < seg.length
  · exact h i (List.getElem?_append_left hlt ▸ hi)
  · rw [Nat.le_antisymm hk (Nat.le_of_not_lt hlt), List.getElem?_append_right (Nat.le_refl _), Nat.sub_self] at hi
    exact hs i hi

theorem plain_of_boundary (pre : List Instr) {seg post : List Instr} {k : Nat} (hk : k ≤ seg.length)
    (h : ∀ i, seg[k]? = some i → notAE i = true) (hpost : ∀ i, post[0]? = some i → notAE i = true) :
    Plain (pre ++ seg ++ post) (pre.length + k) := by
  intro i hi
  rw [List.append_assoc, List.getElem?_append_right (Nat.le_add_right _ _), Nat.add_sub_cancel_left] at hi
  exact boundary_append hk h hpost i hi

def RegIn (r : Int) (F : Nat) : Prop := 0 ≤ r ∧ r < (F : Int)

theorem RegIn.mono {r : Int} {F F' : Nat} (h : RegIn r F) (hf : F ≤ F') : RegIn r F' :=
  ⟨h.1, Int.lt_of_lt_of_le h.2 (Int.ofNat_le.2 hf)⟩

theorem RegIn.regOK {r : Int} {F : Nat} (h : RegIn r F) : regOK r F = true := by
  unfold Theo.regOK
  rw [Bool.and_eq_true, decide_eq_true_eq, decide_eq_true_eq]
  exact h

theorem regIn_nat {i F : Nat} (h : i < F) : RegIn (i : Int) F :=
  ⟨Int.natCast_nonneg i, Int.ofNat_lt.2 h⟩

def LabIn (l : Int) (lo hi : Nat) : Prop := ∃ n : Nat, l = (n : Int) ∧ lo ≤ n ∧ n < hi

theorem LabIn.mono {l : Int} {lo hi hi' : Nat} (h : LabIn l lo hi) (hh : hi ≤ hi') : LabIn l lo hi' := by
  obtain ⟨n, h1, h2, h3⟩ := h
  exact ⟨n, h1, h2, Nat.lt_of_lt_of_le h3 hh⟩

def SimpleOK (F lo hi : Nat) : Instr → Prop
  | .potBreak => True
  | .halt => True
  | .add t s _ => RegIn t F ∧ RegIn s F
  | .const t _ => RegIn t F
  | .test t a b => RegIn t F ∧ RegIn a F ∧ RegIn b F
  | .jmp l => LabIn l lo hi
  | .jmpc l s => LabIn l lo hi ∧ RegIn s F
  | _ => False

theorem SimpleOK.mono {F F' lo hi hi' : Nat} {i : Instr} (h : SimpleOK F lo hi i) (hf : F ≤ F') (hh : hi ≤ hi') :
    SimpleOK F' lo hi' i := by
  cases i <;> simp only [SimpleOK] at h ⊢
  · exact ⟨h.1.mono hf, h.2.mono hf⟩
  · exact h.mono hh
  · exact ⟨h.1.mono hh, h.2.mono hf⟩
  · exact h.mono hf
  · exact ⟨h.1.mono hf, h.2.1.mono hf, h.2.2.mono hf⟩

theorem SimpleOK.notAE {F lo hi : Nat} {i : Instr} (h : SimpleOK F lo hi i) : notAE i = true := by
  cases i <;> first | rfl | exact h.elim

def isRet : Instr → Bool
  | .ret _ => true
  | _ => false

def isJump : Instr → Bool
  | .jmp _ => true
  | .jmpc _ _ => true
  | _ => false

theorem SimpleOK.notRet {F lo hi : Nat} {i : Instr} (h : SimpleOK F lo hi i) : isRet i = false := by
  cases i <;> first | rfl | exact h.elim

def argSeg (srcs : List Int) : List Instr := srcs.zipIdx.map (fun a => Instr.arg (a.2 : Int) a.1)

def callSeg (p : ProgRec) (tgt : Int) (srcs : List Int) : List Instr :=
  Instr.prepare p.stackSize p.mi tgt :: (argSeg srcs ++ [Instr.exec p.ind])

@[simp] theorem argSeg_length (srcs : List Int) : (argSeg srcs).length = srcs.length := by
  simp [argSeg]

theorem callSeg_length (p : ProgRec) (tgt : Int) (srcs : List Int) :
    (callSeg p tgt srcs).length = srcs.length + 2 := by
  simp [callSeg]

theorem callSeg_arg (p : ProgRec) (tgt : Int) (srcs : List Int) (j : Nat) (hj : j < srcs.length) :
    (callSeg p tgt srcs)[j + 1]? = some (Instr.arg (j : Int) srcs[j]) := by
  rw [callSeg, List.getElem?_cons_succ, List.getElem?_append_left (by rw [argSeg_length]; exact hj)]
  simp [argSeg, hj]

theorem callSeg_exec (p : ProgRec) (tgt : Int) (srcs : List Int) :
    (callSeg p tgt srcs)[srcs.length + 1]? = some (Instr.exec p.ind) := by
  rw [callSeg, List.getElem?_cons_succ, List.getElem?_append_right (by rw [argSeg_length]; exact Nat.le_refl _),
    argSeg_length, Nat.sub_self]
  rfl

theorem callSeg_cases {p : ProgRec} {tgt : Int} {srcs : List Int} {m : Nat} {ins : Instr}
    (h : (callSeg p tgt srcs)[m]? = some ins) :
    (m = 0 ∧ ins = Instr.prepare p.stackSize p.mi tgt) ∨
    (∃ j, ∃ hj : j < srcs.length, m = j + 1 ∧ ins = Instr.arg (j : Int) srcs[j]) ∨
    (m = srcs.length + 1 ∧ ins = Instr.exec p.ind) := by
  have hm : m < srcs.length + 2 := callSeg_length p tgt srcs ▸ (List.getElem?_eq_some_iff.1 h).1
  cases m with
  | zero => exact Or.inl ⟨rfl, (Option.some.inj h).symm⟩
  | succ j =>
    by_cases hj : j < srcs.length
    · rw [callSeg_arg p tgt srcs j hj] at h
      exact Or.inr (Or.inl ⟨j, hj, rfl, (Option.some.inj h).symm⟩)
    · have hje : j = srcs.length :=
        Nat.le_antisymm (Nat.le_of_lt_succ (Nat.lt_of_succ_lt_succ hm)) (Nat.le_of_not_lt hj)
      rw [hje, callSeg_exec] at h
      exact Or.inr (Or.inr ⟨by rw [hje], (Option.some.inj h).symm⟩)

theorem mem_callSeg {p : ProgRec} {tgt : Int} {srcs : List Int} {i : Instr} (h : i ∈ callSeg p tgt srcs) :
    isRet i = false ∧ isJump i = false := by
  obtain ⟨m, hm⟩ := List.getElem?_of_mem h
  rcases callSeg_cases hm with ⟨_, rfl⟩ | ⟨_, _, _, rfl⟩ | ⟨_, rfl⟩ <;> exact ⟨rfl, rfl⟩

theorem prepBefore_succ (code : List Instr) (pc : Nat) :
    prepBefore code (pc + 1) =
      match code[pc]? with
      | some (.prepare c i _) => some (c, i)
      | some (.arg _ _) => prepBefore code pc
      | _ => none := by
  rfl

theorem callSeg_inside (pre post : List Instr) (p : ProgRec) (tgt : Int) (srcs : List Int) :
    ∀ j, j ≤ srcs.length →
      Inside (pre ++ callSeg p tgt srcs ++ post) (pre.length + (j + 1)) ∧
      prepBefore (pre ++ callSeg p tgt srcs ++ post) (pre.length + (j + 1)) = some ((p.stackSize : Int), p.mi) := by
  have hget : ∀ m, m < srcs.length + 2 →
      (pre ++ callSeg p tgt srcs ++ post)[pre.length + m]? = (callSeg p tgt srcs)[m]? :=
    fun m hm => getElem?_seg pre _ post (by rw [callSeg_length]; exact hm)
  have hin : ∀ j, j ≤ srcs.length → Inside (pre ++ callSeg p tgt srcs ++ post) (pre.length + (j + 1)) := by
    intro j hj
    have hj2 : j + 1 < srcs.length + 2 := Nat.succ_lt_succ (Nat.lt_succ_of_le hj)
    by_cases hlt : j < srcs.length
    · exact ⟨_, (hget (j + 1) hj2).trans (callSeg_arg p tgt srcs j hlt), rfl⟩
    · exact ⟨_, (hget (j + 1) hj2).trans (Nat.le_antisymm hj (Nat.le_of_not_lt hlt) ▸ callSeg_exec p tgt srcs), rfl⟩
  intro j
  induction j with
  | zero =>
    intro h0
    refine ⟨hin 0 h0, ?_⟩
    have h := hget 0 (Nat.succ_pos _)
    rw [Nat.add_zero] at h
    rw [Nat.zero_add, prepBefore_succ, h]
    rfl
  | succ j ih =>
    intro hj
    refine ⟨hin (j + 1) hj, ?_⟩
    rw [← Nat.add_assoc, prepBefore_succ, hget (j + 1) (Nat.succ_lt_succ (Nat.lt_succ_of_lt hj)),
      callSeg_arg p tgt srcs j hj]
    exact (ih (Nat.le_of_lt hj)).2

theorem callSeg_facts (pre : List Instr) {post : List Instr} (p : ProgRec) (tgt : Int) (srcs : List Int)
    (hpost : ∀ i, post[0]? = some i → notAE i = true) {m : Nat} {ins : Instr}
    (h : (callSeg p tgt srcs)[m]? = some ins) :
    (ins = Instr.prepare p.stackSize p.mi tgt ∧
      Inside (pre ++ callSeg p tgt srcs ++ post) (pre.length + m + 1)) ∨
    (∃ j, ∃ hj : j < srcs.length, ins = Instr.arg (j : Int) srcs[j] ∧
      prepBefore (pre ++ callSeg p tgt srcs ++ post) (pre.length + m) = some ((p.stackSize : Int), p.mi) ∧
      Inside (pre ++ callSeg p tgt srcs ++ post) (pre.length + m + 1)) ∨
    (ins = Instr.exec p.ind ∧
      prepBefore (pre ++ callSeg p tgt srcs ++ post) (pre.length + m) = some ((p.stackSize : Int), p.mi) ∧
      Plain (pre ++ callSeg p tgt srcs ++ post) (pre.length + m + 1)) := by
  have hin := callSeg_inside pre post p tgt srcs
  rcases callSeg_cases h with ⟨rfl, rfl⟩ | ⟨j, hj, rfl, rfl⟩ | ⟨rfl, rfl⟩
  · exact Or.inl ⟨rfl, (hin 0 (Nat.zero_le _)).1⟩
  · exact Or.inr (Or.inl ⟨j, hj, rfl, (hin j (Nat.le_of_lt hj)).2, (hin (j + 1) hj).1⟩)
  · refine Or.inr (Or.inr ⟨rfl, (hin _ (Nat.le_refl _)).2, ?_⟩)
    have := plain_of_head pre (callSeg p tgt srcs) hpost
    rw [callSeg_length] at this
    exact this

inductive Groups (C : ProgRec → Prop) (F lo hi : Nat) : List Instr → Prop
  | nil : Groups C F lo hi []
  | simple {a : List Instr} {i : Instr} : Groups C F lo hi a → SimpleOK F lo hi i → Groups C F lo hi (a ++ [i])
  | call {a : List Instr} {p : ProgRec} {tgt : Int} {srcs : List Int} : Groups C F lo hi a → C p →
      RegIn tgt F → (∀ s ∈ srcs, RegIn s F) → srcs.length = p.argnum →
      Groups C F lo hi (a ++ callSeg p tgt srcs)

inductive Group (C : ProgRec → Prop) (F lo hi : Nat) : List Instr → Prop
  | simple {i : Instr} : SimpleOK F lo hi i → Group C F lo hi [i]
  | call {p : ProgRec} {tgt : Int} {srcs : List Int} : C p → RegIn tgt F → (∀ s ∈ srcs, RegIn s F) →
      srcs.length = p.argnum → Group C F lo hi (callSeg p tgt srcs)

section
variable {C : ProgRec → Prop} {F lo hi : Nat}

theorem Groups.snoc {a g : List Instr} (ha : Groups C F lo hi a) (hg : Group C F lo hi g) :
    Groups C F lo hi (a ++ g) := by
  cases hg with
  | simple hs => exact ha.simple hs
  | call hc ht hs hl => exact ha.call hc ht hs hl

@[elab_as_elim] theorem Groups.snoc_induction {motive : List Instr → Prop} (nil : motive [])
    (snoc : ∀ a g, Groups C F lo hi a → Group C F lo hi g → motive a → motive (a ++ g))
    {seg : List Instr} (h : Groups C F lo hi seg) : motive seg := by
  induction h with
  | nil => exact nil
  | simple ha hs ih => exact snoc _ _ ha (.simple hs) ih
  | call ha hc ht hs hl ih => exact snoc _ _ ha (.call hc ht hs hl) ih

theorem Groups.append {C : ProgRec → Prop} {F lo hi : Nat} {a b : List Instr}
    (ha : Groups C F lo hi a) (hb : Groups C F lo hi b) : Groups C F lo hi (a ++ b) := by
  refine hb.snoc_induction ?_ ?_
  · rw [List.append_nil]; exact ha
  · intro b g _ hg ih
    rw [← List.append_assoc]
    exact ih.snoc hg

theorem Groups.mono {C C' : ProgRec → Prop} {F F' lo hi hi' : Nat} {a : List Instr}
    (h : Groups C F lo hi a) (hc : ∀ p, C p → C' p) (hf : F ≤ F') (hh : hi ≤ hi') : Groups C' F' lo hi' a := by
  induction h with
  | nil => exact Groups.nil
  | simple _ hs ih => exact Groups.simple ih (hs.mono hf hh)
  | call _ hcp ht hs hl ih =>
    exact Groups.call ih (hc _ hcp) (ht.mono hf) (fun s h => (hs s h).mono hf) hl

theorem Groups.single {C : ProgRec → Prop} {F lo hi : Nat} {i : Instr} (h : SimpleOK F lo hi i) :
    Groups C F lo hi [i] :=
  Groups.simple (a := []) Groups.nil h

theorem Groups.replicate_potBreak (k : Nat) : Groups C F lo hi (List.replicate k Instr.potBreak) := by
  induction k with
  | zero => exact Groups.nil
  | succ k ih =>
    rw [List.replicate_succ']
    exact Groups.simple ih trivial

theorem Groups.callOne {p : ProgRec} {tgt : Int} {srcs : List Int}
    (hc : C p) (ht : RegIn tgt F) (hs : ∀ s ∈ srcs, RegIn s F) (hl : srcs.length = p.argnum) :
    Groups C F lo hi (callSeg p tgt srcs) :=
  Groups.call (a := []) Groups.nil hc ht hs hl

theorem Group.head {g : List Instr} (h : Group C F lo hi g) (post : List Instr) :
    ∀ x, (g ++ post)[0]? = some x → notAE x = true := by
  intro x hx
  cases h with
  | simple hs => rw [← Option.some.inj hx]; exact hs.notAE
  | call => rw [← Option.some.inj hx]; rfl

theorem Group.noRet {g : List Instr} (h : Group C F lo hi g) : ∀ i ∈ g, isRet i = false := by
  intro i hi
  cases h with
  | simple hs => rw [List.mem_singleton.1 hi]; exact hs.notRet
  | call => exact (mem_callSeg hi).1

theorem Groups.head {a : List Instr} (h : Groups C F lo hi a) : ∀ i, a[0]? = some i → notAE i = true := by
  refine h.snoc_induction ?_ ?_
  · intro i hi; rw [List.getElem?_nil] at hi; cases hi
  · intro a g _ hg ih x hx
    cases a with
    | nil => exact hg.head [] x (by rw [List.append_nil]; exact hx)
    | cons y ys => exact ih x hx

theorem Groups.noRet {a : List Instr} (h : Groups C F lo hi a) : ∀ i ∈ a, isRet i = false := by
  refine h.snoc_induction ?_ ?_
  · intro i hi; cases hi
  · intro a g _ hg ih x hx
    rcases List.mem_append.1 hx with hx | hx
    · exact ih x hx
    · exact hg.noRet x hx

theorem Groups.group_at {seg : List Instr} (h : Groups C F lo hi seg) :
    ∀ (pre post : List Instr), (∀ i, post[0]? = some i → notAE i = true) → ∀ k, k < seg.length →
      ∃ pre' g post', pre ++ seg ++ post = pre' ++ g ++ post' ∧ Group C F lo hi g ∧
        (∀ i, post'[0]? = some i → notAE i = true) ∧
        pre'.length ≤ pre.length + k ∧ pre.length + k < pre'.length + g.length := by
  refine h.snoc_induction ?_ ?_
  · intro _ _ _ k hk; exact absurd hk (Nat.not_lt_zero k)
  · intro a g0 _ hg ih pre post hpost k hk
    by_cases hlt : k < a.length
    · obtain ⟨pre', g, post', e, hg', hp', h1, h2⟩ := ih pre (g0 ++ post) (hg.head post) k hlt
      refine ⟨pre', g, post', ?_, hg', hp', h1, h2⟩
      rw [← e]
      simp only [List.append_assoc]
    · rw [List.length_append] at hk
      refine ⟨pre ++ a, g0, post, by simp only [List.append_assoc], hg, hpost, ?_, ?_⟩ <;> rw [List.length_append]
      · exact Nat.add_le_add_left (Nat.le_of_not_lt hlt) _
      · rw [Nat.add_assoc]; exact Nat.add_lt_add_left hk _

end

end GenWF
end Theo
