/-
  From `siteCheck` to the site-aware validity of the whole program (`tvalid_of_siteCheck`); the
  clauses of `regionSitesOK` and of `siteProgs` for one definition, each as an iff.
-/
import Theo.Proofs.SimSiteWalk

namespace Theo
namespace Sim
open Sem

theorem regionSitesOK_iff {p : Program} {exp : List ESite} {lo hi : Nat} :
    regionSitesOK p exp lo hi = true ↔
    sitePositions p.code lo hi = exp.map (·.1) ∧
      ∀ x ∈ exp, (p.lineAt (x.1 : Int)).map posOfBp = some x.2.1 := by
  unfold regionSitesOK
  rw [Bool.and_eq_true, beq_iff_eq, List.all_eq_true]
  simp only [beq_iff_eq]

theorem routine_T {p : Program} {e : VEnv} (he : e.code = p.code) {body : Stmts} {start : Nat}
    {G : Walk} {exp : List ESite} {kF : Nat} {pvF : Prev}
    (hchk : checkStmts e body ⟨start, [], []⟩ = some G) (hres : resolveOK p.code G = true)
    (hsites : sitesStmts e body ⟨start, [], []⟩ 0 none = some (exp, G, kF, pvF))
    (hreg : regionSitesOK p exp start (skipc p.code G.pc + 1) = true)
    (hje : jumpsExact exp G = true) :
    TAt p e G body start (skipc p.code G.pc) ∧ TRes p e G body (skipc p.code G.pc) := by
  obtain ⟨hsp, hline⟩ := regionSitesOK_iff.1 hreg
  have hle := le_skipc p.code G.pc
  have hin : WalkIn p G (skipc p.code G.pc + 1) ⟨start, [], []⟩ 0 none exp G [] :=
    { sub := Sub.refl G
      inv := fun i hi' => absurd hi' (Nat.not_lt_zero i)
      pinv := fun q' hq' => by cases hq'
      sp := by simpa using hsp
      lb := fun y hy => nomatch hy
      hi := by omega
      line := hline }
  have out := consume_stmts he body hsites hin
  have hcur : cursor (⟨start, [], []⟩ : Walk) 0 none body = start := cursor_nonmark hsites rfl
  have htat := out.tat
  rw [hcur] at htat
  have hge := skipc_ge_of_run out.inv
  have hcl : Clean p.code (G.pc + kF) (skipc p.code G.pc + 1) := by
    intro x h1 h2 h3
    have : x ∈ sitePositions p.code (G.pc + kF) (skipc p.code G.pc + 1) :=
      mem_sitePositions.2 ⟨h1, h2, h3⟩
    rw [out.sp] at this
    cases this
  have hend : skipc p.code G.pc = G.pc + kF :=
    skipc_eq_of_run out.inv (hcl _ (Nat.le_refl _) (by omega))
  rw [hend]
  refine ⟨htat, ?_⟩
  intro pos off m hg
  have hj := List.all_eq_true.1 hje _ hg
  simp only at hj
  split at hj
  · rename_i x hfil
    rw [decide_eq_true_eq] at hj
    have hres' : resolveOK e.code G = true := by rw [he]; exact hres
    obtain ⟨ss', K', pm0, pcE0, hfl, _, _, _⟩ := goto_resolve hchk hres' hg
    obtain ⟨pm, q, pcE, hmem, h1, h2⟩ :=
      out.lab m .done (G.pc + kF) (by simp only [TKAt]) ss' K' hfl
    have : (pm, q, some m) ∈ exp.filter (fun x => x.2.2 == some m) := by
      rw [List.mem_filter]; exact ⟨hmem, by simp⟩
    rw [hfil, List.mem_singleton] at this
    subst this
    exact ⟨ss', K', pcE, hfl, pm, hj, h1, h2⟩
  · cases hj

theorem siteProgs_cons_iff {p : Program} {src : Source} {pd : ProgDef} {rest : List ProgDef} {i : Nat}
    {infos : List RInfo} {pc : Nat} {res : List RInfo × Nat} :
    siteProgs p src (pd :: rest) i infos pc = some res ↔
    ∃ off sm exp w kF pvF, p.code[pc]? = some (.jmp off) ∧ p.stackMaps[i]? = some sm ∧
      sitesStmts ⟨p.code, src, ⟨pc + 1, i, sm.map⟩, i, infos⟩ pd.body ⟨pc + 1, [], []⟩ 0 none =
        some (exp, w, kF, pvF) ∧
      regionSitesOK p exp (pc + 1) (skipc p.code w.pc + 1) = true ∧ jumpsExact exp w = true ∧
      siteProgs p src rest (i + 1) (infos ++ [⟨pc + 1, i, sm.map⟩]) (skipc p.code w.pc + 1) =
        some res := by
  constructor
  · intro h
    rw [siteProgs] at h
    split at h
    · rename_i off sm hc hsm
      dsimp only at h
      split at h
      · rename_i exp w kF pvF hs
        rw [Option.ite_none_right_eq_some, Bool.and_eq_true] at h
        exact ⟨off, sm, exp, w, kF, pvF, hc, hsm, hs, h.1.1, h.1.2, h.2⟩
      · cases h
    · cases h
  · rintro ⟨off, sm, exp, w, kF, pvF, hc, hsm, hs, hr, hj, h⟩
    rw [siteProgs]
    simp only [hc, hsm, hs]
    simpa [hr, hj] using h

theorem site_joint (p : Program) (src : Source) : ∀ (rest : List ProgDef) (infos : List RInfo)
    (pc : Nat) (infosF : List RInfo) (pcF : Nat) (infosS : List RInfo) (pcS : Nat),
    checkProgs p src rest infos.length infos pc = some (infosF, pcF) →
    siteProgs p src rest infos.length infos pc = some (infosS, pcS) →
    infosS = infosF ∧ pcS = pcF ∧ SkipsS p.code 0 rest.length pc pcF ∧
    ∀ k pd, rest[k]? = some pd → ∃ ri exp w kF pvF, infosF[infos.length + k]? = some ri ∧
      sitesStmts ⟨p.code, src, ri, infos.length + k, infosF.take (infos.length + k)⟩ pd.body
        ⟨ri.entry, [], []⟩ 0 none = some (exp, w, kF, pvF) ∧
      regionSitesOK p exp ri.entry (skipc p.code w.pc + 1) = true ∧ jumpsExact exp w = true := by
  intro rest
  induction rest with
  | nil =>
    intro infos pc infosF pcF infosS pcS h1 h2
    cases h1
    cases h2
    exact ⟨rfl, rfl, .refl _, fun k pd hk => nomatch hk⟩
  | cons pd rest ih =>
    intro infos pc infosF pcF infosS pcS h1 h2
    obtain ⟨off, sm, exp, wS, kS, pvS, hc, hsm, hsS, hreg, hje, h2⟩ := siteProgs_cons_iff.1 h2
    obtain ⟨off', sm', w, hc', hsm', ⟨_, _, _, _, hw, _⟩, hoff, h1⟩ := checkProgs_cons_iff.1 h1
    have hsk : skipc p.code pc = pc := skipc_of_not_pb (by rw [hc]; simp)
    rw [hsk] at hc' hw hoff h1
    obtain rfl : off = off' := Instr.jmp.inj (Option.some.inj (hc.symm.trans hc'))
    obtain rfl := Option.some.inj (hsm.symm.trans hsm')
    obtain rfl : wS = w := Option.some.inj ((sitesStmts_walk hsS).symm.trans hw)
    obtain ⟨more, g1, _, _, _⟩ := checkProgs_spec p src _ _ _ _ _ _ h1
    have hlen : (infos ++ [(⟨pc + 1, infos.length, sm.map⟩ : RInfo)]).length = infos.length + 1 :=
      List.length_append
    rw [← hlen] at h1 h2
    obtain ⟨e1, e2, e3, e4⟩ := ih _ _ _ _ _ _ h1 h2
    refine ⟨e1, e2, .jump (Nat.le_of_eq hsk) (by rw [hsk]; exact hc) (by rw [hsk]; exact hoff) e3,
      fun k pd' hk => ?_⟩
    cases k with
    | zero =>
      obtain rfl := Option.some.inj hk
      refine ⟨⟨pc + 1, infos.length, sm.map⟩, exp, wS, kS, pvS, ?_, ?_, hreg, hje⟩
      · show infosF[infos.length]? = _
        rw [g1, List.append_assoc, List.getElem?_append_right (Nat.le_refl _), Nat.sub_self]
        rfl
      · show sitesStmts ⟨_, _, _, _, infosF.take infos.length⟩ _ _ _ _ = _
        rw [g1, List.append_assoc, List.take_left]
        exact hsS
    | succ k =>
      have := e4 k pd' hk
      rw [hlen, Nat.add_right_comm] at this
      exact this

theorem tvalid_of_siteCheck {src : Source} {p : Program} (h : siteCheck src p = true) :
    ∃ (V : Valid src p) (tend : Nat → Nat), V.OK ∧ TValid V tend := by
  unfold siteCheck at h
  rw [Bool.and_eq_true] at h
  obtain ⟨hshape, h⟩ := h
  obtain ⟨V, hV, hcp, sm', hsm', hroot⟩ := valid_of_shapeCheck_strong hshape
  split at h
  · rename_i infosS pcS hsp
    obtain ⟨e1, e2, hskips, hper⟩ := site_joint p src _ [] _ _ _ _ _ hcp hsp
    subst e1 e2
    split at h
    · rename_i sm hsm
      simp only [] at h
      split at h
      · rename_i exp w kF pvF hmain
        simp only [Bool.and_eq_true] at h
        obtain ⟨⟨hreg, hje⟩, _⟩ := h
        refine ⟨V, fun r => skipc p.code (V.G r).pc, hV, ?_⟩
        have hall : ∀ r, r ≤ src.progs.length →
            TAt p (V.env r) (V.G r) (bodyOf src r) (V.start r) (skipc p.code (V.G r).pc) ∧
            TRes p (V.env r) (V.G r) (bodyOf src r) (skipc p.code (V.G r).pc) := by
          intro r hr
          rcases Nat.lt_or_ge r src.progs.length with hlt | hge
          · have hpd : src.progs[r]? = some src.progs[r] := List.getElem?_eq_getElem hlt
            obtain ⟨ri, exp', w', kF', pvF', q1, q2, q3, q4⟩ := hper r _ hpd
            simp only [List.length_nil, Nat.zero_add] at q1 q2
            rw [hV.info r hlt] at q1
            cases q1
            rw [hV.entry r hlt, ← bodyOf_lt hpd] at q2
            rw [hV.entry r hlt] at q3
            obtain rfl : w' = V.G r := Option.some.inj ((sitesStmts_walk q2).symm.trans (hV.chk r hr))
            exact routine_T (e := V.env r) rfl (hV.chk r hr) (hV.res r hr) q2 q3 q4
          · obtain rfl : r = src.progs.length := Nat.le_antisymm hr hge
            have henv : (⟨p.code, src, ⟨0, src.progs.length, sm.map⟩, src.progs.length, V.infos⟩ : VEnv) =
                V.env src.progs.length := by
              obtain rfl := Option.some.inj (hsm.symm.trans hsm')
              unfold Valid.env
              rw [hroot, List.take_of_length_le (Nat.le_of_eq hV.len)]
            rw [henv, ← bodyOf_root] at hmain
            obtain rfl : w = V.G src.progs.length :=
              Option.some.inj ((sitesStmts_walk hmain).symm.trans (hV.chk _ hr))
            rw [← hV.last] at hreg
            exact routine_T (e := V.env src.progs.length) rfl (hV.chk _ hr) (hV.res _ hr) hmain hreg hje
        refine ⟨fun r hr => (hall r hr).1, fun r hr => (hall r hr).2, ?_, hV.halt, hskips⟩
        intro r hr
        obtain ⟨pd, ro, g1, _, g3, g4⟩ := hV.rout r hr
        exact ⟨pd, ro, g1, at_code (e := V.env r) rfl g3, g4⟩
      · cases h
    · cases h
  · cases h

end Sim
end Theo
