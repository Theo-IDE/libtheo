/-
  Process-level model for C18: a process is a collection of VM instances and nothing else.
-/
import Theo.Model.Gen
import Theo.Model.VM
import Theo.Proofs.Invariant

namespace Theo

/-- deterministic debugger calls (execute with explicit fuel) -/
inductive DCall where
  | single | exec (fuel : Nat)
  | bp (b : BreakPoint) (v : Bool)
  | clear
  | stepping (b : Bool)
  | reset

def applyD (p : Program) (vm : VM) : DCall → Except Fault (VM × Int)
  | .single => (step vm).map (fun r => (r.1, if r.2 then 1 else 0))
  | .exec fuel => (execFuel fuel vm).map (fun r => match r with | some v => (v, 1) | none => (vm, -1))
  | .bp b v => (vm.setBreakPoint p b v).map (fun r => (r.1, if r.2 then 1 else 0))
  | .clear => (vm.clearBreakpoints p).map (fun v => (v, 0))
  | .stepping b => .ok (vm.setStepping b, 0)
  | .reset => (vm.reset p).map (fun v => (v, 0))

/-- the whole state of a process: its VM instances, each with the program it was constructed from -/
abbrev Proc := List (Nat × Program × VM)

def Proc.lookup (s : Proc) (i : Nat) : Option (Program × VM) := (s.find? (fun e => e.1 = i)).map (·.2)

def Proc.set (s : Proc) (i : Nat) (v : Program × VM) : Proc := (i, v) :: s.filter (fun e => e.1 ≠ i)

inductive POp where
  | compile (files : Files) (main : Bytes)
  | new (i : Nat) (p : Program)
  | call (i : Nat) (c : DCall)

def POp.instance? : POp → Option Nat
  | .compile _ _ => none
  | .new i _ => some i
  | .call i _ => some i

inductive PResp where
  | compiled (r : CodegenResult)
  | created
  | called (r : Int)
  | faulted (f : Fault)
  | noSuchInstance

def procStep (s : Proc) : POp → Proc × PResp
  | .compile files main => (s, .compiled (compile files main))
  | .new i p => (s.set i (p, VM.mk' p), .created)
  | .call i c =>
    match s.lookup i with
    | none => (s, .noSuchInstance)
    | some (p, vm) =>
      match applyD p vm c with
      | .ok (vm', r) => (s.set i (p, vm'), .called r)
      | .error f => (s, .faulted f)

def procRun (s : Proc) : List POp → Proc × List PResp
  | [] => (s, [])
  | op :: ops =>
    let (s1, r) := procStep s op
    let (s2, rs) := procRun s1 ops
    (s2, r :: rs)

theorem Proc.lookup_set_ne (s : Proc) (i j : Nat) (v : Program × VM) (hne : j ≠ i) :
    (s.set i v).lookup j = s.lookup j := by
  rw [Proc.set, Proc.lookup, assoc_find_other s v hne]; rfl

theorem Proc.lookup_set_self (s : Proc) (i : Nat) (v : Program × VM) :
    (s.set i v).lookup i = some v := by
  rw [Proc.set, Proc.lookup, assoc_find_same]; rfl

theorem procStep_lookup_other (s : Proc) (op : POp) (i : Nat) (h : op.instance? ≠ some i) :
    (procStep s op).1.lookup i = s.lookup i := by
  cases op with
  | compile files main => rfl
  | new k p => exact Proc.lookup_set_ne s k i _ fun e => h (e ▸ rfl)
  | call k c =>
    simp only [procStep]
    split
    · rfl
    · split
      · exact Proc.lookup_set_ne s k i _ fun e => h (e ▸ rfl)
      · rfl

theorem procStep_local (s s' : Proc) (op : POp) (i : Nat) (h : op.instance? = some i)
    (hs : s.lookup i = s'.lookup i) :
    (procStep s op).1.lookup i = (procStep s' op).1.lookup i ∧ (procStep s op).2 = (procStep s' op).2 := by
  cases op with
  | compile files main => simp [POp.instance?] at h
  | new k p =>
    simp [POp.instance?] at h; subst h
    simp [procStep, Proc.lookup_set_self]
  | call k c =>
    simp [POp.instance?] at h; subst h
    simp only [procStep, ← hs]
    cases hl : s.lookup k with
    | none => simp [hl] at hs ⊢; exact hs
    | some pv =>
      obtain ⟨p, vm⟩ := pv
      simp only
      cases ha : applyD p vm c with
      | error f => simp [hl] at hs ⊢; exact hs
      | ok r =>
        obtain ⟨vm', r⟩ := r
        simp [Proc.lookup_set_self]

theorem procRun_noninterference (ops : List POp) (i : Nat) (s s' : Proc) (hs : s.lookup i = s'.lookup i) :
    (procRun s ops).1.lookup i = (procRun s' (ops.filter (fun o => o.instance? = some i))).1.lookup i ∧
    ((ops.zip (procRun s ops).2).filter (fun x => x.1.instance? = some i)).map (·.2) =
      (procRun s' (ops.filter (fun o => o.instance? = some i))).2 := by
  induction ops generalizing s s' with
  | nil => exact ⟨hs, rfl⟩
  | cons op ops ih =>
    by_cases h : op.instance? = some i
    · obtain ⟨h1, h2⟩ := procStep_local s s' op i h hs
      obtain ⟨ih1, ih2⟩ := ih _ _ h1
      simp only [List.filter_cons, h, decide_true, if_true, procRun, List.zip_cons_cons, List.map_cons]
      exact ⟨ih1, by rw [h2, ih2]⟩
    · obtain ⟨ih1, ih2⟩ := ih _ s' ((procStep_lookup_other s op i h).trans hs)
      simp only [List.filter_cons, h, decide_false, procRun, List.zip_cons_cons]
      exact ⟨ih1, ih2⟩

end Theo
