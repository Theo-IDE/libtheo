/-
  The register assignment of a routine (stack map) against the environments of the reference
  semantics: `FrameOK`, kept by writes to temporaries, variables and counters, and established for
  a callee by `callee_frameOK`.
-/
import Theo.Proofs.SimVM
import Theo.Proofs.SimDigits
import Theo.Proofs.LoopHalts

namespace Theo
namespace Sim
open Sem

theorem env_get_set_other (ρ : Env) {x y : Name} (v : Nat) (h : y ≠ x) :
    (Env.set ρ x v).get y = ρ.get y := by
  rw [Env.set, Env.get, assoc_find_other ρ v h]; rfl

theorem env_get_nil (x : Name) : Env.get [] x = 0 := rfl
theorem ctrs_get_nil (i : Nat) : Ctrs.get [] i = 0 := rfl

theorem regOf_mem {ri : RInfo} {x : Name} {r : Int} (h : ri.regOf x = some r) : (r, x) ∈ ri.regs := by
  unfold RInfo.regOf at h
  split at h
  · cases h
  · cases hf : ri.regs.find? (fun e => e.2 = x) with
    | none => rw [hf] at h; cases h
    | some e =>
      rw [hf] at h
      cases h
      have h1 := List.find?_some hf
      have h2 := List.mem_of_find?_eq_some hf
      simp only [decide_eq_true_eq] at h1
      rw [← h1]
      exact h2

theorem regOf_not_counter {ri : RInfo} {x : Name} {r : Int} (h : ri.regOf x = some r) :
    bLoopVar.isPrefixOf x = false := by
  unfold RInfo.regOf at h
  split at h
  · cases h
  · rename_i hn
    exact Bool.eq_false_iff.2 hn

theorem ctrOf_mem {ri : RInfo} {id : Nat} {r : Int} (h : ri.ctrOf id = some r) :
    ∃ nm, (r, nm) ∈ ri.regs ∧ bLoopVar.isPrefixOf nm = true ∧
      (([91] : Bytes) ++ natDigits id ++ [93]).isSuffixOf nm = true := by
  unfold RInfo.ctrOf at h
  simp only at h
  cases hf : ri.regs.find? (fun e => bLoopVar.isPrefixOf e.2 && ([91] ++ natDigits id ++ [93]).isSuffixOf e.2) with
  | none => rw [hf] at h; cases h
  | some e =>
    rw [hf] at h
    cases h
    have h1 := List.find?_some hf
    have h2 := List.mem_of_find?_eq_some hf
    rw [Bool.and_eq_true] at h1
    exact ⟨e.2, h2, h1.1, h1.2⟩

theorem isNamed_of_mem {ri : RInfo} {r : Int} {nm : Bytes} (h : (r, nm) ∈ ri.regs) :
    ri.isNamed r = true := by
  unfold RInfo.isNamed
  rw [List.any_eq_true]
  exact ⟨(r, nm), h, by simp⟩

theorem names_unique {ri : RInfo} (hn : namesNodup ri = true) {r : Int} {n1 n2 : Bytes}
    (h1 : (r, n1) ∈ ri.regs) (h2 : (r, n2) ∈ ri.regs) : n1 = n2 := by
  unfold namesNodup at hn
  rw [Bool.and_eq_true, decide_eq_true_eq, decide_eq_true_eq] at hn
  exact congrArg Prod.snd (inj_of_nodup_map hn.2 h1 h2 rfl)

theorem regs_unique {ri : RInfo} (hn : namesNodup ri = true) {r1 r2 : Int} {nm : Bytes}
    (h1 : (r1, nm) ∈ ri.regs) (h2 : (r2, nm) ∈ ri.regs) : r1 = r2 := by
  unfold namesNodup at hn
  rw [Bool.and_eq_true, decide_eq_true_eq, decide_eq_true_eq] at hn
  exact congrArg Prod.fst (inj_of_nodup_map hn.1 h1 h2 rfl)

theorem regOf_of_mem {ri : RInfo} (hn : namesNodup ri = true) {r : Int} {nm : Bytes}
    (h : (r, nm) ∈ ri.regs) (hc : bLoopVar.isPrefixOf nm = false) : ri.regOf nm = some r := by
  unfold RInfo.regOf
  rw [if_neg (by simp [hc])]
  cases hf : ri.regs.find? (fun e => e.2 = nm) with
  | none =>
    have := List.find?_eq_none.1 hf _ h
    simp at this
  | some e =>
    have h1 := List.find?_some hf
    have h2 := List.mem_of_find?_eq_some hf
    simp only [decide_eq_true_eq] at h1
    have : (e.1, nm) ∈ ri.regs := by rw [← h1]; exact h2
    show some e.1 = some r
    rw [regs_unique hn this h]

theorem regOf_ne_ctrOf {ri : RInfo} (hn : namesNodup ri = true) {x : Name} {id : Nat} {r1 r2 : Int}
    (h1 : ri.regOf x = some r1) (h2 : ri.ctrOf id = some r2) : r1 ≠ r2 := by
  intro he
  subst he
  obtain ⟨nm, hm, hp, _⟩ := ctrOf_mem h2
  have := names_unique hn (regOf_mem h1) hm
  subst this
  rw [regOf_not_counter h1] at hp
  cases hp

theorem ctrOf_inj {ri : RInfo} (hn : namesNodup ri = true) {id1 id2 : Nat} {r : Int}
    (h1 : ri.ctrOf id1 = some r) (h2 : ri.ctrOf id2 = some r) : id1 = id2 := by
  obtain ⟨n1, hm1, _, hs1⟩ := ctrOf_mem h1
  obtain ⟨n2, hm2, _, hs2⟩ := ctrOf_mem h2
  have := names_unique hn hm1 hm2
  subst this
  exact ctr_suffix_inj id1 id2 n1 hs1 hs2

theorem ctrOf_named {ri : RInfo} {id : Nat} {r : Int} (h : ri.ctrOf id = some r) :
    ri.isNamed r = true := by
  obtain ⟨nm, hm, _, _⟩ := ctrOf_mem h
  exact isNamed_of_mem hm

theorem regOf_named {ri : RInfo} {x : Name} {r : Int} (h : ri.regOf x = some r) :
    ri.isNamed r = true := isNamed_of_mem (regOf_mem h)

def FrameOK (d : List Int) (a : Act) (ri : RInfo) (env : Env) (ctrs : Ctrs) : Prop :=
  (∀ r nm, (r, nm) ∈ ri.regs → bLoopVar.isPrefixOf nm = false → Holds d a r (env.get nm)) ∧
  (∀ id r, ri.ctrOf id = some r → Holds d a r (ctrs.get id))

theorem FrameOK.reg {d : List Int} {a : Act} {ri : RInfo} {env : Env} {ctrs : Ctrs}
    (h : FrameOK d a ri env ctrs) {x : Name} {r : Int} (hx : ri.regOf x = some r) :
    Holds d a r (env.get x) := h.1 r x (regOf_mem hx) (regOf_not_counter hx)

theorem FrameOK.pres {d d' : List Int} {a : Act} {ri : RInfo} {env : Env} {ctrs : Ctrs}
    (h : FrameOK d a ri env ctrs)
    (hp : ∀ r v, ri.isNamed r = true → Holds d a r v → Holds d' a r v) :
    FrameOK d' a ri env ctrs :=
  ⟨fun r nm hm hc => hp r _ (isNamed_of_mem hm) (h.1 r nm hm hc),
   fun id r hr => hp r _ (ctrOf_named hr) (h.2 id r hr)⟩

theorem FrameOK.write_named {d d' : List Int} {a : Act} {ri : RInfo} {env : Env} {ctrs : Ctrs}
    (h : FrameOK d a ri env ctrs) (hn : namesNodup ri = true) {x : Name} {rx : Int} {n : Nat}
    (hx : ri.regOf x = some rx) (hw : Holds d' a rx n)
    (hp : ∀ r v, ri.isNamed r = true → r ≠ rx → Holds d a r v → Holds d' a r v) :
    FrameOK d' a ri (env.set x n) ctrs := by
  refine ⟨fun r nm hm hc => ?_, fun id r hr => ?_⟩
  · by_cases hnm : nm = x
    · subst hnm
      rw [LoopHalts.env_get_set_same, regs_unique hn hm (regOf_mem hx)]
      exact hw
    · rw [env_get_set_other _ _ hnm]
      refine hp r _ (isNamed_of_mem hm) ?_ (h.1 r nm hm hc)
      intro he
      subst he
      exact hnm (names_unique hn hm (regOf_mem hx))
  · exact hp r _ (ctrOf_named hr) (regOf_ne_ctrOf hn hx hr).symm (h.2 id r hr)

theorem FrameOK.write_ctr {d d' : List Int} {a : Act} {ri : RInfo} {env : Env} {ctrs : Ctrs}
    (h : FrameOK d a ri env ctrs) (hn : namesNodup ri = true) {id : Nat} {ctr : Int} {n : Nat}
    (hx : ri.ctrOf id = some ctr) (hw : Holds d' a ctr n)
    (hp : ∀ r v, ri.isNamed r = true → r ≠ ctr → Holds d a r v → Holds d' a r v) :
    FrameOK d' a ri env (ctrs.set id n) := by
  refine ⟨fun r nm hm hc => ?_, fun id' r hr => ?_⟩
  · refine hp r _ (isNamed_of_mem hm) ?_ (h.1 r nm hm hc)
    exact regOf_ne_ctrOf hn (regOf_of_mem hn hm hc) hx
  · by_cases hid : id' = id
    · subst hid
      rw [LoopHalts.ctrs_get_set_same]
      rw [hx] at hr
      cases hr
      exact hw
    · rw [LoopHalts.ctrs_get_set_other _ _ hid]
      refine hp r _ (ctrOf_named hr) ?_ (h.2 id' r hr)
      intro he
      subst he
      exact hid (ctrOf_inj hn hr hx)

theorem FrameOK.below {d d' : List Int} {a : Act} {ri : RInfo} {env : Env} {ctrs : Ctrs} {N : Nat}
    (h : FrameOK d a ri env ctrs) (hN : a.dataStart + a.segSize.toNat ≤ N) (hs : SameBelow N d d') :
    FrameOK d' a ri env ctrs :=
  h.pres (fun _ _ _ hh => hh.below hN hs)

theorem bindParams_spec : ∀ (params : List Name) (args : List Nat) (ρ : Env),
    params.Nodup → params.length = args.length →
    (∀ (i : Nat) (x : Name), params[i]? = some x → (bindParams params args ρ).get x = (args[i]?).getD 0) ∧
    (∀ x, x ∉ params → (bindParams params args ρ).get x = ρ.get x) := by
  intro params
  induction params with
  | nil =>
    intro args ρ _ _
    refine ⟨fun i x h => by simp at h, fun x _ => ?_⟩
    cases args <;> rfl
  | cons p ps ih =>
    intro args ρ hnd hlen
    cases args with
    | nil => simp at hlen
    | cons a as =>
      rw [List.nodup_cons] at hnd
      have hl : ps.length = as.length := by simpa using hlen
      obtain ⟨ihA, ihB⟩ := ih as (ρ.set p a) hnd.2 hl
      simp only [bindParams]
      refine ⟨fun i x h => ?_, fun x hx => ?_⟩
      · cases i with
        | zero =>
          simp only [List.getElem?_cons_zero, Option.some.injEq] at h
          subst h
          rw [ihB _ hnd.1, LoopHalts.env_get_set_same]
          rfl
        | succ i =>
          simp only [List.getElem?_cons_succ] at h ⊢
          exact ihA i x h
      · rw [List.mem_cons, not_or] at hx
        rw [ihB _ hx.2, env_get_set_other _ _ hx.1]

theorem paramsOK_spec {ri : RInfo} {params : List Name} (h : paramsOK ri params = true) :
    params.Nodup ∧ ∀ (i : Nat) (x : Name), params[i]? = some x → ri.regOf x = some (i : Int) := by
  unfold paramsOK at h
  rw [Bool.and_eq_true, decide_eq_true_eq] at h
  refine ⟨h.2, fun i x hx => ?_⟩
  have := List.all_eq_true.1 h.1 (x, i) (by rw [List.mem_zipIdx_iff_getElem?]; exact hx)
  simpa using this

theorem callee_frameOK {ri : RInfo} {params : List Name} {vals : List Nat} {d : List Int} {a : Act}
    (hn : namesNodup ri = true) (hp : paramsOK ri params = true) (hlen : params.length = vals.length)
    (hvals : ∀ v ∈ vals, v ≤ WORD_MAX)
    (hd : ∀ r : Nat, (r : Int) < a.segSize →
      d[a.dataStart + r]? = some ((((vals[r]?).getD 0 : Nat)) : Int))
    (hmap : ∀ r nm, (r, nm) ∈ ri.regs → 0 ≤ r ∧ r < a.segSize) :
    FrameOK d a ri (bindParams params vals []) [] := by
  obtain ⟨hnd, hreg⟩ := paramsOK_spec hp
  obtain ⟨hA, hB⟩ := bindParams_spec params vals [] hnd hlen
  have hle : ∀ i : Nat, (vals[i]?).getD 0 ≤ WORD_MAX := by
    intro i
    cases hv : vals[i]? with
    | none => simp [WORD_MAX]
    | some v => exact hvals v (List.mem_of_getElem? hv)
  have hval : ∀ (r : Int) (nm : Bytes), (r, nm) ∈ ri.regs → ∀ n : Nat,
      (vals[r.toNat]?).getD 0 = n → Holds d a r n := by
    intro r nm hm n hv
    obtain ⟨h0, h1⟩ := hmap r nm hm
    refine ⟨h0, h1, ?_, by rw [← hv]; exact hle _⟩
    rw [hd r.toNat (by omega), hv]
  have hpar : ∀ (r : Int) (nm : Bytes), (r, nm) ∈ ri.regs → 0 ≤ r → r.toNat < params.length →
      params[r.toNat]? = some nm := by
    intro r nm hm h0 hlt
    have hy : params[r.toNat]? = some params[r.toNat] := List.getElem?_eq_getElem hlt
    have h2 := regOf_mem (hreg _ _ hy)
    rw [show ((r.toNat : Nat) : Int) = r by omega] at h2
    rw [hy, names_unique hn h2 hm]
  refine ⟨fun r nm hm hc => ?_, fun id r hr => ?_⟩
  · apply hval r nm hm
    obtain ⟨h0, _⟩ := hmap r nm hm
    by_cases hin : nm ∈ params
    · obtain ⟨i, hi⟩ := List.getElem?_of_mem hin
      have h2 := regOf_mem (hreg _ _ hi)
      have : r = (i : Int) := regs_unique hn hm h2
      subst this
      rw [hA i nm hi]
      simp
    · rw [hB nm hin, env_get_nil]
      by_cases hlt : r.toNat < params.length
      · exact absurd (List.mem_of_getElem? (hpar r nm hm h0 hlt)) hin
      · rw [List.getElem?_eq_none (by omega)]
        rfl
  · obtain ⟨nm, hm, hpre, _⟩ := ctrOf_mem hr
    apply hval r nm hm
    obtain ⟨h0, _⟩ := hmap r nm hm
    rw [ctrs_get_nil]
    by_cases hlt : r.toNat < params.length
    · have h3 := regOf_not_counter (hreg _ _ (hpar r nm hm h0 hlt))
      rw [h3] at hpre
      cases hpre
    · rw [List.getElem?_eq_none (by omega)]
      rfl

theorem lookupProg_spec {src : Source} {f : Name} {upto j : Nat} {pd : ProgDef}
    (h : lookupProg src f upto = some (j, pd)) : j < upto ∧ src.progs[j]? = some pd :=
  LoopHalts.lookupProg_lt h

end Sim
end Theo
