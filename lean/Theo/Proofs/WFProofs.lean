/-
  The bytecode certificate checker (C03, C16): what it accepts, as rules (`Chk` for one pc, `CertOK`
  for a certificate; `checkCert_iff`), and its soundness.
-/
import Theo.Spec.WellFormed
import Theo.Proofs.VMInvA

namespace Theo
namespace WF

open InvB

theorem sitesOKb_iff {p : Program} : sitesOKb p = true ↔ SitesOK p := by
  unfold sitesOKb SitesOK
  rw [← List.contains_iff_mem]
  simp only [Bool.and_eq_true, List.all_eq_true, decide_eq_true_eq, beq_iff_eq, Bool.not_eq_true',
    Bool.not_eq_true]

theorem info_eq_some {c : Cert} {pc : Int} {I : PcInfo} (h : c.info pc = some I) :
    0 ≤ pc ∧ c[pc.toNat]? = some (some I) := by
  unfold Cert.info at h
  split at h
  · cases h
  · exact ⟨by omega, Option.join_eq_some_iff.1 h⟩

theorem info_of_get {c : Cert} {pc : Nat} {I : PcInfo} (h : c[pc]? = some (some I)) :
    c.info (pc : Int) = some I := by
  unfold Cert.info
  rw [if_neg (by omega)]
  simp only [Int.toNat_natCast, h, Option.join_some]

/-- `checkPc` as typing rules: what a certificate demands of the instruction at `pc` when that pc
    is annotated `I` (`Chk.of_check`, `Chk.to_check`) -/
inductive Chk (p : Program) (c : Cert) (root pc : Nat) (I : PcInfo) : Instr → Prop where
  | potBreak : I.pend = none → c.info ((pc : Int) + 1) = some I → Chk p c root pc I .potBreak
  | brk : I.pend = none → c.info ((pc : Int) + 1) = some I → Chk p c root pc I .brk
  | halt : Chk p c root pc I .halt
  | add {t s k} : I.pend = none → regOK t I.frame = true → regOK s I.frame = true →
      c.info ((pc : Int) + 1) = some I → Chk p c root pc I (.add t s k)
  | test {t x y} : I.pend = none → regOK t I.frame = true → regOK x I.frame = true →
      regOK y I.frame = true → c.info ((pc : Int) + 1) = some I → Chk p c root pc I (.test t x y)
  | const {t k} : I.pend = none → regOK t I.frame = true → c.info ((pc : Int) + 1) = some I →
      Chk p c root pc I (.const t k)
  | jmp {off} : I.pend = none → c.info ((pc : Int) + off) = some I → Chk p c root pc I (.jmp off)
  | jmpc {off s} : I.pend = none → regOK s I.frame = true → c.info ((pc : Int) + off) = some I →
      c.info ((pc : Int) + 1) = some I → Chk p c root pc I (.jmpc off s)
  | prepare {cnt idx tgt j} : I.pend = none → 0 ≤ cnt → regOK tgt I.frame = true →
      mapOK p idx cnt.toNat = true → j < I.rid →
      c.info ((pc : Int) + 1) = some ⟨I.frame, I.rid, some (cnt.toNat, j)⟩ →
      Chk p c root pc I (.prepare cnt idx tgt)
  | arg {t s cf j} : I.pend = some (cf, j) → regOK t cf = true → regOK s I.frame = true →
      c.info ((pc : Int) + 1) = some I → Chk p c root pc I (.arg t s)
  | exec {entry cf j} : I.pend = some (cf, j) → j < I.rid → c.info entry = some ⟨cf, j, none⟩ →
      c.info ((pc : Int) + 1) = some { I with pend := none } → Chk p c root pc I (.exec entry)
  | ret {s} : I.pend = none → regOK s I.frame = true → I.rid < root → Chk p c root pc I (.ret s)

theorem Chk.of_check {p : Program} {c : Cert} {root pc : Nat} {I : PcInfo} {i : Instr}
    (h : checkPc p c root pc i I = true) : Chk p c root pc I i := by
  cases i <;>
    simp only [checkPc, Bool.and_eq_true, beq_iff_eq, decide_eq_true_eq,
      Option.isNone_iff_eq_none] at h
  case potBreak => exact .potBreak h.1 h.2
  case brk => exact .brk h.1 h.2
  case halt => exact .halt
  case add => exact .add h.1.1.1 h.1.1.2 h.1.2 h.2
  case test => exact .test h.1.1.1.1 h.1.1.1.2 h.1.1.2 h.1.2 h.2
  case const => exact .const h.1.1 h.1.2 h.2
  case jmp => exact .jmp h.1 h.2
  case jmpc => exact .jmpc h.1.1.1 h.1.1.2 h.1.2 h.2
  case ret => exact .ret h.1.1 h.1.2 h.2
  case arg =>
    split at h
    · rw [Bool.and_eq_true, Bool.and_eq_true, beq_iff_eq] at h
      exact .arg ‹_› h.1.1 h.1.2 h.2
    · cases h
  case exec =>
    split at h
    · rw [Bool.and_eq_true, Bool.and_eq_true, beq_iff_eq, beq_iff_eq, decide_eq_true_eq] at h
      exact .exec ‹_› h.1.1 h.1.2 h.2
    · cases h
  case prepare cnt idx tgt =>
    obtain ⟨⟨⟨⟨hp, hcnt⟩, htgt⟩, hmap⟩, hm⟩ := h
    split at hm
    · rename_i N hN
      obtain ⟨fr, rid, pend⟩ := N
      simp only [Bool.and_eq_true, beq_iff_eq] at hm
      obtain ⟨⟨rfl, rfl⟩, hm⟩ := hm
      split at hm
      · rw [Bool.and_eq_true, beq_iff_eq, decide_eq_true_eq] at hm
        obtain ⟨rfl, hj⟩ := hm
        exact .prepare hp hcnt htgt hmap hj hN
      · cases hm
    · cases hm

theorem Chk.to_check {p : Program} {c : Cert} {root pc : Nat} {I : PcInfo} {i : Instr}
    (h : Chk p c root pc I i) : checkPc p c root pc i I = true := by
  cases h <;>
    simp only [checkPc, *, Option.isNone_none, beq_self_eq_true, decide_true, Bool.and_self]

theorem Chk.erase {p : Program} {c : Cert} {root pc : Nat} {I : PcInfo} {i : Instr}
    (h : Chk p c root pc I i.erase) : Chk p c root pc I i := by
  cases i
  case brk => cases h with | potBreak hp hn => exact .brk hp hn
  all_goals exact h

/-- the certificate enters a rule only through its values at the successors -/
theorem Chk.congr {p : Program} {c c' : Cert} {root pc : Nat} {ins : Instr} {I : PcInfo}
    (h : Chk p c root pc I ins) (hc : ∀ s ∈ succsOf p.code pc ins I, c'.info s.1 = c.info s.1) :
    Chk p c' root pc I ins := by
  have h1 := fun x (hx : succsOf p.code pc ins I = [x]) => hc x (hx ▸ List.mem_singleton.2 rfl)
  cases h with
  | halt => exact .halt
  | ret hp hs hr => exact .ret hp hs hr
  | potBreak hp hn => exact .potBreak hp ((h1 _ rfl).trans hn)
  | brk hp hn => exact .brk hp ((h1 _ rfl).trans hn)
  | add hp ht hs hn => exact .add hp ht hs ((h1 _ rfl).trans hn)
  | test hp ht hx hy hn => exact .test hp ht hx hy ((h1 _ rfl).trans hn)
  | const hp ht hn => exact .const hp ht ((h1 _ rfl).trans hn)
  | jmp hp hj => exact .jmp hp ((h1 _ rfl).trans hj)
  | arg hp ht hs hn => exact .arg hp ht hs ((h1 _ rfl).trans hn)
  | prepare hp hc0 ht hm hj hN => exact .prepare hp hc0 ht hm hj ((h1 _ rfl).trans hN)
  | jmpc hp hs hj hn =>
    exact .jmpc hp hs ((hc _ List.mem_cons_self).trans hj) ((hc _ (List.mem_cons_of_mem _ List.mem_cons_self)).trans hn)
  | exec hp hj he hn =>
    simp only [succsOf, hp] at hc
    exact .exec hp hj ((hc _ List.mem_cons_self).trans he) ((hc _ (List.mem_cons_of_mem _ List.mem_cons_self)).trans hn)

/-- what `checkCert p c` says, with `R` the annotation of pc 1 (`checkCert_iff`) -/
structure CertOK (p : Program) (c : Cert) (R : PcInfo) : Prop where
  len : c.length = p.code.length
  head : ∃ fr mi t, p.code[0]? = some (Instr.prepare fr mi t) ∧ 0 ≤ fr ∧
    mapOK p mi fr.toNat = true ∧ R.frame = fr.toNat
  c0 : c.info 0 = none
  c1 : c.info 1 = some R
  rpend : R.pend = none
  rrid : R.rid = numRoutines p
  last : p.code.getLast? = some Instr.halt
  chk : ∀ (pc : Nat) (I : PcInfo) (ins : Instr), c.info (pc : Int) = some I →
    p.code[pc]? = some ins → checkPc p c R.rid pc ins I = true
  sites : SitesOK p

theorem CertOK.rule {p : Program} {c : Cert} {R : PcInfo} (h : CertOK p c R) (pc : Nat) (I : PcInfo) (ins : Instr)
    (hi : c.info (pc : Int) = some I) (hins : p.code[pc]? = some ins) : Chk p c R.rid pc I ins :=
  .of_check (h.chk pc I ins hi hins)

theorem all_zipIdx_zip {α β : Type} (l : List α) (m : List β) (f : (α × Nat) × β → Bool) :
    (l.zipIdx.zip m).all f = true ↔ ∀ i a b, l[i]? = some a → m[i]? = some b → f ((a, i), b) = true := by
  rw [List.all_eq_true]
  constructor
  · intro h i a b ha hb
    apply h
    apply List.mem_of_getElem? (i := i)
    rw [List.getElem?_zip_eq_some, List.getElem?_zipIdx, ha, Nat.zero_add]
    exact ⟨rfl, hb⟩
  · rintro h ⟨⟨a, i⟩, b⟩ hx
    obtain ⟨k, hk⟩ := List.mem_iff_getElem?.1 hx
    rw [List.getElem?_zip_eq_some, List.getElem?_zipIdx, Nat.zero_add] at hk
    obtain ⟨a', ha', e⟩ := Option.map_eq_some_iff.1 hk.1
    cases e
    exact h _ _ _ ha' hk.2

theorem checkCert_iff {p : Program} {c : Cert} : checkCert p c = true ↔ ∃ R, CertOK p c R := by
  unfold checkCert
  rw [Bool.and_eq_true, Bool.and_eq_true, sitesOKb_iff, beq_iff_eq]
  constructor
  · rintro ⟨⟨hlen, hm⟩, hsites⟩
    split at hm
    · rename_i fr mi t crest R ctail hcode
      simp only [Bool.and_eq_true, decide_eq_true_eq, beq_iff_eq, all_zipIdx_zip] at hm
      obtain ⟨⟨⟨⟨⟨⟨h0, hmap⟩, hfr⟩, hpend⟩, hrid⟩, hlast⟩, hall⟩ := hm
      refine ⟨R, hlen, ⟨fr, mi, t, by rw [hcode]; rfl, h0, hmap, hfr⟩, rfl, rfl,
        Option.isNone_iff_eq_none.1 hpend, hrid, hlast, fun pc I ins hi hins => ?_, hsites⟩
      have := hall pc ins (some I) hins (Int.toNat_natCast pc ▸ (info_eq_some hi).2)
      rw [Bool.and_eq_true] at this
      exact this.2
    · cases hm
  · rintro ⟨R, len, ⟨fr, mi, t, hcode, h0, hmap, hfr⟩, hc0, hc1, rpend, rrid, last, chk, sites⟩
    obtain ⟨_, h1⟩ := info_eq_some hc1
    refine ⟨⟨len, ?_⟩, sites⟩
    change R.rid = retsBefore p.code p.code.length at rrid
    generalize p.code = code at hcode rrid last chk ⊢
    rcases code with _ | ⟨i0, rest⟩
    · cases hcode
    rcases c with _ | ⟨a0, _ | ⟨a1, tl⟩⟩
    · cases h1
    · cases h1
    cases hcode
    cases h1
    cases a0 with
    | some J => cases hc0
    | none =>
      simp only [Bool.and_eq_true, decide_eq_true_eq, beq_iff_eq, all_zipIdx_zip]
      refine ⟨⟨⟨⟨⟨⟨h0, hmap⟩, hfr⟩, Option.isNone_iff_eq_none.2 rpend⟩, rrid⟩, last⟩, fun pc ins o hins ho => ?_⟩
      cases o with
      | none => rfl
      | some I =>
        rw [Bool.and_eq_true, bne_iff_ne]
        exact ⟨fun e => (by subst e; cases ho), chk pc I ins (info_of_get ho) hins⟩

theorem regOK_iff {r : Int} {f : Nat} : regOK r f = true ↔ 0 ≤ r ∧ r < (f : Int) := by
  unfold regOK
  rw [Bool.and_eq_true, decide_eq_true_eq, decide_eq_true_eq]

theorem frame_access {d : List Int} {start frame : Nat} {r : Int}
    (hb : start + frame ≤ d.length) (hr : regOK r frame = true) :
    (∃ v, rd d (start + r) = .ok v) ∧ ∀ v, ∃ d', wr d (start + r) v = .ok d' := by
  obtain ⟨h0, h1⟩ := regOK_iff.1 hr
  have hlt : (start + r).toNat < d.length := by omega
  exact ⟨⟨_, rd_eq_ok.2 ⟨by omega, List.getElem?_eq_getElem hlt⟩⟩,
    fun v => ⟨_, wr_eq_ok.2 ⟨by omega, hlt, rfl⟩⟩⟩

def ActMap (p : Program) (a : Act) : Prop := mapOK p a.dbg a.segSize.toNat = true ∧ 0 ≤ a.segSize

/-- the activations below the executing one: each return address is annotated with the frame
    and routine of the caller, and routine ids strictly increase towards the root -/
def Chain (p : Program) (c : Cert) (root : Nat) : Nat → Act → List Act → Prop
  | rid, _, [] => rid = root
  | rid, a, b :: rest =>
    ∃ J, c.info a.retAddr = some J ∧ J.pend = none ∧ b.segSize = (J.frame : Int) ∧ rid < J.rid ∧
      0 ≤ a.retTarget ∧ a.retTarget < (J.frame : Int) ∧ ActMap p b ∧ Chain p c root J.rid b rest

def TopOK (p : Program) (c : Cert) (root frame rid : Nat) (st : List Act) : Prop :=
  ∃ a rest, st = a :: rest ∧ a.segSize = (frame : Int) ∧ ActMap p a ∧ Chain p c root rid a rest

def StackOK (p : Program) (c : Cert) (root : Nat) (I : PcInfo) (st : List Act) : Prop :=
  (I.pend = none → TopOK p c root I.frame I.rid st) ∧
  (∀ cf j, I.pend = some (cf, j) → ∃ callee rest, st = callee :: rest ∧
    callee.segSize = (cf : Int) ∧ ActMap p callee ∧ 0 ≤ callee.retTarget ∧
    callee.retTarget < (I.frame : Int) ∧ j < I.rid ∧ TopOK p c root I.frame I.rid rest)

def WInv (p : Program) (c : Cert) (root : Nat) (vm : VM) : Prop :=
  (vm.ip = 0 ∧ vm.stack = [] ∧ vm.data = []) ∨
  (∃ I, c.info vm.ip = some I ∧ StackOK p c root I vm.stack ∧ Tiles vm.stack vm.data.length)

section
variable {p : Program} {c : Cert} {root : Nat}

def Ann (p : Program) (c : Cert) (root : Nat) (co : Core) : Prop :=
  ∃ I, c.info co.ip = some I ∧ StackOK p c root I co.stack ∧ Tiles co.stack co.data.length

theorem Ann.winv {vm : VM} (h : Ann p c root vm.core) : WInv p c root vm :=
  Or.inr h

theorem winv_blank (code : List Instr) (vm : VM) :
    WInv p c root (blank code vm.core) ↔ WInv p c root vm := Iff.rfl

theorem chain_retAddr {rid : Nat} {a a' : Act} {rest : List Act}
    (e1 : a'.retAddr = a.retAddr) (e2 : a'.retTarget = a.retTarget)
    (h : Chain p c root rid a rest) : Chain p c root rid a' rest := by
  cases rest with
  | nil => exact h
  | cons b rest =>
    simp only [Chain] at h ⊢
    rw [e1, e2]; exact h

theorem chain_spec : ∀ (rest : List Act) (rid : Nat) (a : Act), Chain p c root rid a rest →
    rest.length + rid ≤ root ∧ ∀ b ∈ rest, ActMap p b := by
  intro rest
  induction rest with
  | nil => exact fun rid a h => ⟨Nat.le_of_eq ((Nat.zero_add _).trans h), fun _ hb => nomatch hb⟩
  | cons b rest ih =>
    intro rid a h
    obtain ⟨J, _, _, _, hlt, _, _, hb, hch⟩ := h
    obtain ⟨hl, hm⟩ := ih _ _ hch
    refine ⟨?_, fun x hx => (List.mem_cons.1 hx).elim (· ▸ hb) (hm x)⟩
    rw [List.length_cons]
    omega

theorem topOK_spec {frame rid : Nat} {st : List Act} (h : TopOK p c root frame rid st) :
    st.length + rid ≤ root + 1 ∧ ∀ a ∈ st, ActMap p a := by
  obtain ⟨a, rest, rfl, _, ha, hch⟩ := h
  obtain ⟨hl, hm⟩ := chain_spec _ _ _ hch
  refine ⟨?_, fun x hx => (List.mem_cons.1 hx).elim (· ▸ ha) (hm x)⟩
  rw [List.length_cons]
  omega

theorem stackOK_spec {I : PcInfo} {st : List Act} (h : StackOK p c root I st) :
    st.length ≤ root + 1 ∧ ∀ a ∈ st, ActMap p a := by
  cases hp : I.pend with
  | none => exact (topOK_spec (h.1 hp)).imp_left (Nat.le_trans (Nat.le_add_right _ _))
  | some cj =>
    obtain ⟨callee, rest, rfl, _, hc, _, _, hj, ht⟩ := h.2 cj.1 cj.2 hp
    obtain ⟨hl, hm⟩ := topOK_spec ht
    refine ⟨?_, fun x hx => (List.mem_cons.1 hx).elim (· ▸ hc) (hm x)⟩
    rw [List.length_cons]
    omega

/-- what the invariant says without the certificate: at most one activation per routine and the
    root, each with a stack map that fits its frame, and the frames tile the data -/
theorem winv_spec {vm : VM} (h : WInv p c root vm) : vm.stack.length ≤ root + 1 ∧
    (∀ a ∈ vm.stack, ActMap p a) ∧ Tiles vm.stack vm.data.length := by
  rcases h with ⟨_, hs, hd⟩ | ⟨I, _, hs, ht⟩
  · rw [hs, hd]; exact ⟨Nat.zero_le _, fun _ h => (nomatch h), rfl⟩
  · exact ⟨(stackOK_spec hs).1, (stackOK_spec hs).2, ht⟩

theorem winv_len {vm : VM} (h : WInv p c root vm) : vm.stack.length ≤ root + 1 := (winv_spec h).1

theorem winv_actMap {vm : VM} (h : WInv p c root vm) : ∀ a ∈ vm.stack, ActMap p a := (winv_spec h).2.1

theorem winv_tiles {vm : VM} (h : WInv p c root vm) : Tiles vm.stack vm.data.length := (winv_spec h).2.2

theorem seg_le {a : Act} {frame n : Nat} (hseg : a.segSize = (frame : Int))
    (hsum : a.dataStart + a.segSize.toNat = n) : a.dataStart + frame ≤ n := by
  rw [← hsum, hseg, Int.toNat_natCast]
  exact Nat.le_refl _

theorem top_access {frame rid : Nat} {st : List Act} {n : Nat} {d : List Int}
    (h : TopOK p c root frame rid st) (ht : Tiles st n) (hn : n ≤ d.length) :
    ∃ a rest, st = a :: rest ∧ ∀ r, regOK r frame = true →
      (∃ v, rd d (a.dataStart + r) = .ok v) ∧ ∀ v, ∃ d', wr d (a.dataStart + r) v = .ok d' := by
  obtain ⟨a, rest, rfl, hseg, _, _⟩ := h
  exact ⟨a, rest, rfl, fun r => frame_access (Nat.le_trans (seg_le hseg ht.2.1) hn)⟩

theorem eff_sound {pc : Nat} {data : List Int} {stack : List Act} {I : PcInfo} {i : Instr}
    (hi : c.info pc = some I) (hs : StackOK p c root I stack) (ht : Tiles stack data.length)
    (hk : Chk p c root pc I i) : ∃ c', Eff ⟨pc, data, stack⟩ i c' ∧ Ann p c root c' := by
  suffices h : ∃ c', Eff ⟨pc, data, stack⟩ i c' ∧
      ∃ I', c.info c'.ip = some I' ∧ StackOK p c root I' c'.stack by
    obtain ⟨c', he, I', h1, h2⟩ := h
    refine ⟨c', he, I', h1, h2, he.tiles (fun cnt idx tgt e => ?_) ht⟩
    subst e
    cases hk with | prepare _ hcnt => exact hcnt
  cases hk with
  | potBreak _ hn => exact ⟨_, .potBreak, I, hn, hs⟩
  | brk _ hn => exact ⟨_, .brk, I, hn, hs⟩
  | halt => exact ⟨_, .halt, I, hi, hs⟩
  | jmp _ hj => exact ⟨_, .jmp, I, hj, hs⟩
  | add hp ht1 hs1 hn =>
    obtain ⟨a, rest, hst, hacc⟩ := top_access (hs.1 hp) ht (Nat.le_refl _)
    obtain ⟨v, hv⟩ := (hacc _ hs1).1
    obtain ⟨d, hd⟩ := (hacc _ ht1).2 (addClamp v _)
    exact ⟨_, .add hst hv hd, I, hn, hs⟩
  | test hp ht1 hx1 hy1 hn =>
    obtain ⟨a, rest, hst, hacc⟩ := top_access (hs.1 hp) ht (Nat.le_refl _)
    obtain ⟨v1, hv1⟩ := (hacc _ hx1).1
    obtain ⟨v2, hv2⟩ := (hacc _ hy1).1
    obtain ⟨d, hd⟩ := (hacc _ ht1).2 (if v1 = v2 then 0 else 1)
    exact ⟨_, .test hst hv1 hv2 hd, I, hn, hs⟩
  | const hp ht1 hn =>
    obtain ⟨a, rest, hst, hacc⟩ := top_access (hs.1 hp) ht (Nat.le_refl _)
    obtain ⟨d, hd⟩ := (hacc _ ht1).2 _
    exact ⟨_, .const hst hd, I, hn, hs⟩
  | @jmpc off _ hp hs1 hj hn =>
    obtain ⟨a, rest, hst, hacc⟩ := top_access (hs.1 hp) ht (Nat.le_refl _)
    obtain ⟨v, hv⟩ := (hacc _ hs1).1
    refine ⟨_, .jmpc hst hv, I, ?_, hs⟩
    show c.info (if v = 0 then (pc : Int) + off else (pc : Int) + 1) = some I
    split
    · exact hj
    · exact hn
  | prepare hp hcnt htgt hmap hj hN =>
    refine ⟨_, .prepare, _, hN, nofun, fun cf' j' h => ?_⟩
    cases h
    exact ⟨_, _, rfl, (Int.toNat_of_nonneg hcnt).symm, ⟨hmap, hcnt⟩, (regOK_iff.1 htgt).1,
      (regOK_iff.1 htgt).2, hj, hs.1 hp⟩
  | arg hp ht1 hs1 hn =>
    obtain ⟨callee, rest0, rfl, hcs, _, _, _, _, htop⟩ := hs.2 _ _ hp
    obtain ⟨a, rest, rfl, hacc⟩ := top_access (d := data) htop ht.2.2 (Nat.le.intro ht.2.1)
    obtain ⟨v, hv⟩ := (hacc _ hs1).1
    obtain ⟨d, hd⟩ := (frame_access (seg_le hcs ht.2.1) ht1).2 v
    exact ⟨_, .arg rfl hv hd, I, hn, hs⟩
  | exec hp hj he hn =>
    obtain ⟨callee, rest0, rfl, hcs, hcm, hrt0, hrt1, _, htop⟩ := hs.2 _ _ hp
    obtain ⟨a, rest, rfl, hseg, ham, hch⟩ := htop
    refine ⟨_, .exec rfl, _, he, fun _ => ⟨_, _, rfl, hcs, hcm, ?_⟩, nofun⟩
    exact ⟨{ I with pend := none }, hn, rfl, hseg, hj, hrt0, hrt1, ham, hch⟩
  | ret hp hs1 hrid =>
    obtain ⟨a, rest0, rfl, hseg, ham, hch⟩ := hs.1 hp
    cases rest0 with
    | nil => exact absurd hch (Nat.ne_of_lt hrid)
    | cons b rest =>
      obtain ⟨J, hJ, hJp, hbs, _, hrt0, hrt1, hbm, hch'⟩ := hch
      obtain ⟨_, hsum, _, hsum2, _⟩ := ht
      obtain ⟨v, hv⟩ := (frame_access (seg_le hseg hsum) hs1).1
      obtain ⟨d, hd⟩ := (frame_access (d := data)
        (Nat.le_trans (seg_le hbs hsum2) (Nat.le.intro hsum)) (regOK_iff.2 ⟨hrt0, hrt1⟩)).2 v
      exact ⟨_, .ret rfl hv hd, J, hJ, fun _ => ⟨b, rest, rfl, hbs, hbm, hch'⟩,
        fun cf j h => nomatch hJp.symm.trans h⟩

end

theorem step_eff {p : Program} {c : Cert} {R : PcInfo} (hc : CertOK p c R) {vm : VM}
    (hci : CodeInv p vm.code) (hw : WInv p c R.rid vm) :
    ∃ i c', fetch vm.code vm.ip = .ok i ∧ Eff vm.core i c' ∧ Ann p c R.rid c' := by
  rcases hw with ⟨hip, hst, hd⟩ | ⟨I, hi, hs, ht⟩
  · obtain ⟨st, ip, code, data, stack, en⟩ := vm
    cases hip; cases hst; cases hd
    obtain ⟨fr, mi, t, hget, hfr, hmap, hRf⟩ := hc.head
    rw [hci.get 0] at hget
    obtain ⟨i, hg, hi⟩ := Option.map_eq_some_iff.1 hget
    cases erase_prepare hi
    refine ⟨_, _, fetch_of_get (Int.le_refl 0) hg, .prepare, R, hc.c1,
      ⟨fun _ => ⟨_, _, rfl, ?_, ⟨hmap, hfr⟩, rfl⟩, fun cf j h => nomatch hc.rpend.symm.trans h⟩,
      Eff.prepare.tiles (fun _ _ _ e => by cases e; exact hfr) rfl⟩
    show fr = ((R.frame : Nat) : Int)
    rw [hRf]; exact (Int.toNat_of_nonneg hfr).symm
  · obtain ⟨h0, hg⟩ := info_eq_some hi
    have hlt : vm.ip.toNat < vm.code.length := by
      rw [hci.length, ← hc.len]; exact (List.getElem?_eq_some_iff.1 hg).1
    obtain ⟨i, hgi⟩ : ∃ i, vm.code[vm.ip.toNat]? = some i := ⟨_, List.getElem?_eq_getElem hlt⟩
    have hip : ((vm.ip.toNat : Nat) : Int) = vm.ip := Int.toNat_of_nonneg h0
    have hk := (hc.rule _ I _ (hip.symm ▸ hi) (by rw [hci.get, hgi]; rfl)).erase
    obtain ⟨c', he, ha⟩ := eff_sound (data := vm.data) (hip.symm ▸ hi) hs ht hk
    rw [hip] at he
    exact ⟨i, c', fetch_of_get h0 hgi, he, ha⟩

theorem step_sound {p : Program} {c : Cert} {R : PcInfo} (hc : CertOK p c R) {vm : VM}
    (hci : CodeInv p vm.code) (hw : WInv p c R.rid vm) :
    ∃ r, step vm = .ok r ∧ WInv p c R.rid r.1 := by
  obtain ⟨i, c', hf, he, ha⟩ := step_eff hc hci hw
  exact ⟨_, he.step hf, Ann.winv ha⟩

theorem step_preserves {p : Program} {c : Cert} {R : PcInfo} (hc : CertOK p c R) {vm vm' : VM}
    {r : Bool} (hci : CodeInv p vm.code) (hw : WInv p c R.rid vm) (h : step vm = .ok (vm', r)) :
    WInv p c R.rid vm' := by
  obtain ⟨r', h1, h2⟩ := step_sound hc hci hw
  cases h.symm.trans h1
  exact h2

theorem winv_init (p : Program) (c : Cert) (root : Nat) : WInv p c root (VM.mk' p) :=
  Or.inl ⟨rfl, rfl, rfl⟩

theorem reach_winv {p : Program} {c : Cert} {R : PcInfo} (hc : CertOK p c R) {vm : VM}
    (hr : Reach p vm) : WInv p c R.rid vm :=
  (winv_blank p.code vm).1 <|
    reach_core (Q := fun co => WInv p c R.rid (blank p.code co)) (winv_init p c R.rid)
      (fun hr ih h => (winv_blank _ _).2 <|
        step_preserves hc (CodeInv.reach hc.sites hr) ((winv_blank _ _).1 ih) h) hr

theorem foldl_vars_ok (data : List Int) (a : Act) (n : Nat)
    (hb : a.dataStart + n ≤ data.length) :
    ∀ (l : List (Int × Bytes)) (acc : List (Bytes × Int)),
      (∀ e ∈ l, regOK e.1 n = true) →
      ∃ v, l.foldlM (fun acc e => do
        let v ← rd data (a.dataStart + e.1)
        pure (sortedInsert nameLt true (e.2, v) acc)) acc = Except.ok v := by
  intro l
  induction l with
  | nil => exact fun acc _ => ⟨acc, rfl⟩
  | cons e l ih =>
    intro acc h
    obtain ⟨v, hv⟩ := (frame_access hb (h e List.mem_cons_self)).1
    rw [List.foldlM_cons, hv]
    exact ih _ (fun x hx => h x (List.mem_cons_of_mem _ hx))

theorem actVars_ok {p : Program} {vm : VM} {a : Act} (hm : ActMap p a)
    (hb : a.dataStart + a.segSize.toNat ≤ vm.data.length) :
    ∃ v, activationVariables p vm a = .ok v := by
  obtain ⟨hm, _⟩ := hm
  unfold mapOK at hm
  rw [Bool.and_eq_true, decide_eq_true_eq] at hm
  obtain ⟨h0, hm⟩ := hm
  unfold activationVariables
  rw [if_neg (Int.not_lt.2 h0)]
  cases hsm : p.stackMaps[a.dbg.toNat]? with
  | none => rw [hsm] at hm; cases hm
  | some sm =>
    rw [hsm] at hm
    show ∃ v, (if a.segSize ≤ 0 then _ else _) = _
    split
    · exact ⟨[], rfl⟩
    · exact foldl_vars_ok vm.data a a.segSize.toNat hb sm.map [] (List.all_eq_true.1 hm)

theorem setBreakPoint_ok {p : Program} (hs : SitesOK p) {vm : VM} (hci : CodeInv p vm.code)
    (b : BreakPoint) (v : Bool) : ∃ r, VM.setBreakPoint p vm b v = .ok r := by
  unfold VM.setBreakPoint
  cases hsite : p.sitesOf b with
  | none => exact ⟨_, rfl⟩
  | some sites =>
    have hin : ∀ i ∈ sites, 0 ≤ i ∧ i.toNat < vm.code.length := fun i hi =>
      have := sitesOK_sites hs hsite i hi
      ⟨this.1, hci.length ▸ (List.getElem?_eq_some_iff.1 this.2).1⟩
    cases v with
    | true =>
      obtain ⟨c', hc'⟩ := setOps_exists Instr.brk hin
      exact ⟨_, by simp only [if_true, hc']; rfl⟩
    | false =>
      obtain ⟨c', hc'⟩ := setOps_exists Instr.potBreak hin
      exact ⟨_, by simp only [Bool.false_eq_true, if_false, hc']; rfl⟩

/-- C16: the activation stack is bounded by the number of routines plus the root -/
theorem stack_bounded {p : Program} {c : Cert} (h : checkCert p c = true)
    {vm : VM} (hr : Reach p vm) : vm.stack.length ≤ numRoutines p + 1 := by
  obtain ⟨R, hc⟩ := checkCert_iff.1 h
  rw [← hc.rrid]
  exact winv_len (reach_winv hc hr)

end WF
end Theo
