/-
  C01 for the generator model: statements — the pieces of `dispatchVoid` as equations on
  code / labels / registers, and what the dispatch of a statement tree preserves (`SQ`, `sq_void`):
  code and registers only grow, the hidden counters stay distinct, the loop numbering is the one
  of `stmtsOf`, and labels that exist are only changed by a MARK of their name (`frame`).
-/
import Theo.Proofs.GenShapeVal

namespace Theo
namespace GenShape
open GS Sem Static

/-- statement tree (see Props/C01GenShape.lean): the variables are user variables, and the nodes the compilation scheme
    reads a value from are present -/
def stmtNames : Node → Bool
  | .nil => true
  | .mk t _ _ _ l r =>
    if t = NodeT.SPLIT then stmtNames l && stmtNames r
    else if t = NodeT.ASSIGN then varOK l.tok && !isNil r && valNames r
    else if t = NodeT.LOOP ∨ t = NodeT.WHILE then !isNil l && varOK l.tok && stmtNames r
    else if t = NodeT.IF then !isNil l.left && !isNil l.right && varOK l.left.tok
    else true

theorem stmtNames_mk (t : Nat) (tok file : Bytes) (line : Int) (l r : Node) :
    stmtNames (.mk t tok file line l r) =
      if t = NodeT.SPLIT then stmtNames l && stmtNames r
      else if t = NodeT.ASSIGN then varOK l.tok && !isNil r && valNames r
      else if t = NodeT.LOOP ∨ t = NodeT.WHILE then !isNil l && varOK l.tok && stmtNames r
      else if t = NodeT.IF then !isNil l.left && !isNil l.right && varOK l.left.tok
      else true := by rw [stmtNames]

def loopCount : Node → Nat
  | .nil => 0
  | .mk t _ _ _ l r =>
    if t = NodeT.SPLIT then loopCount l + loopCount r
    else if t = NodeT.PROGRAM then loopCount r
    else if t = NodeT.LOOP then loopCount r + 1
    else if t = NodeT.WHILE then loopCount r
    else 0

theorem loopCount_mk (t : Nat) (tok file : Bytes) (line : Int) (l r : Node) :
    loopCount (.mk t tok file line l r) =
      if t = NodeT.SPLIT then loopCount l + loopCount r
      else if t = NodeT.PROGRAM then loopCount r
      else if t = NodeT.LOOP then loopCount r + 1
      else if t = NodeT.WHILE then loopCount r
      else 0 := by rw [loopCount]

theorem defsOf_mk (t : Nat) (tok file : Bytes) (line : Int) (l r : Node) :
    defsOf (.mk t tok file line l r) =
      if t = NodeT.SPLIT then defsOf l ++ defsOf r
      else if t = NodeT.LOOP ∨ t = NodeT.WHILE then defsOf r
      else if t = NodeT.MARK then [l.tok]
      else [] := by rw [defsOf]

theorem defsOf_leaf {t : Nat} (tok file : Bytes) (line : Int) (l r : Node) (h1 : t ≠ NodeT.SPLIT) (h2 : t ≠ NodeT.LOOP)
    (h3 : t ≠ NodeT.WHILE) (h4 : t ≠ NodeT.MARK) : defsOf (.mk t tok file line l r) = [] := by
  rw [defsOf_mk, if_neg h1, if_neg (by intro h; rcases h with h | h; exact h2 h; exact h3 h), if_neg h4]

theorem refsOf_mk (t : Nat) (tok file : Bytes) (line : Int) (l r : Node) :
    refsOf (.mk t tok file line l r) =
      if t = NodeT.SPLIT then refsOf l ++ refsOf r
      else if t = NodeT.LOOP ∨ t = NodeT.WHILE then refsOf r
      else if t = NodeT.GOTO then [l.tok]
      else if t = NodeT.IF then [r.left.tok]
      else [] := by rw [refsOf]

theorem stmtsOf_loops : ∀ (n : Node) (k : Nat) (ps : List ProgDef), (stmtsOf n k ps).2.1 = k + loopCount n
  | .nil, k, ps => by rw [stmtsOf_nil]; rfl
  | .mk t tok file line l r, k, ps => by
    rw [stmtsOf_mk, loopCount_mk]
    by_cases h1 : t = NodeT.SPLIT
    · rw [if_pos h1, if_pos h1]
      show (stmtsOf r (stmtsOf l k ps).2.1 (stmtsOf l k ps).2.2).2.1 = _
      rw [stmtsOf_loops r, stmtsOf_loops l, Nat.add_assoc]
    rw [if_neg h1, if_neg h1]
    by_cases h2 : t = NodeT.PROGRAM
    · rw [if_pos h2, if_pos h2]; exact stmtsOf_loops r k ps
    rw [if_neg h2, if_neg h2]
    by_cases h4 : t = NodeT.LOOP
    · subst h4
      rw [if_neg (by decide), if_pos rfl, if_pos rfl]
      show (stmtsOf r (k + 1) ps).2.1 = _
      rw [stmtsOf_loops r, Nat.add_assoc, Nat.add_comm 1]
    by_cases h5 : t = NodeT.WHILE
    · subst h5
      rw [if_neg (by decide), if_neg h4, if_pos rfl, if_neg h4, if_pos rfl]
      exact stmtsOf_loops r k ps
    rw [if_neg h4, if_neg h5]
    simp only [apply_ite (fun x : Stmts × Nat × List ProgDef => x.2.1), if_neg h4, if_neg h5, ite_self]
    rfl

theorem nameNode {l : Node} (h1 : isNil l = false) (h2 : nilOr NodeT.NAME l = true) :
    ∃ tok file line a b, l = .mk NodeT.NAME tok file line a b := by
  cases l with
  | nil => simp [isNil] at h1
  | mk t tok file line a b =>
    have : t = NodeT.NAME := by simp [nilOr, Node.ty] at h2; exact of_decide_eq_true h2
    subst this
    exact ⟨tok, file, line, a, b, rfl⟩

theorem numberNode {l : Node} (h1 : isNil l = false) (h2 : nilOr NodeT.NUMBER l = true) :
    ∃ tok file line a b, l = .mk NodeT.NUMBER tok file line a b := by
  cases l with
  | nil => simp [isNil] at h1
  | mk t tok file line a b =>
    have : t = NodeT.NUMBER := by simp [nilOr, Node.ty] at h2; exact of_decide_eq_true h2
    subst this
    exact ⟨tok, file, line, a, b, rfl⟩

theorem valNames_name {l : Node} (h1 : isNil l = false) (h2 : nilOr NodeT.NAME l = true) (h3 : varOK l.tok = true) :
    valNames l = true := by
  obtain ⟨tok, file, line, a, b, rfl⟩ := nameNode h1 h2
  rw [valNames_mk, if_neg (by decide), if_pos rfl]; exact h3

theorem valNames_number {l : Node} (h2 : nilOr NodeT.NUMBER l = true) : valNames l = true := by
  cases l with
  | nil => rfl
  | mk t tok file line a b =>
    have : t = NodeT.NUMBER := by simp [nilOr, Node.ty] at h2; exact of_decide_eq_true h2
    subst this
    rw [valNames_mk, if_neg (by decide), if_neg (by decide), if_neg (by decide)]

theorem createLabel_get (gs : GS) {l : Nat} (h : l < gs.labels.length) : gs.createLabel.1.labels[l]? = gs.labels[l]? := by
  rw [createLabel_labels, List.getElem?_append_left h]

theorem setLabel_get_ne (gs : GS) (x : Nat) (p : Int) {l : Nat} (h : l ≠ x) : (gs.setLabel x p).labels[l]? = gs.labels[l]? := by
  rw [setLabel_labels, List.getElem?_set_ne (Ne.symm h)]

theorem setLabel_get_eq (gs : GS) (x : Nat) (p : Int) (h : x < gs.labels.length) : (gs.setLabel x p).labels[x]? = some p := by
  rw [setLabel_labels, List.getElem?_set_self h]

theorem markLabel_get (gs : GS) (m : Bytes) {l : Nat} (h : l < gs.labels.length) : (gs.markLabel m).1.labels[l]? = gs.labels[l]? := by
  unfold markLabel
  split
  · rfl
  · exact createLabel_get gs h

theorem loopPre_eq (gs0 : GS) :
    loopPre gs0 = ({ gs0 with loops := gs0.loops + 1 } : GS).fetchVar (ctrName gs0.fsName gs0.fsLine (gs0.loops + 1)) := rfl

structure LoopPreSpec (gs0 g : GS) (c : Int) : Prop where
  gq : GQ gs0 g
  code : g.code = gs0.code
  labels : g.labels = gs0.labels
  marks : g.top.marks = gs0.top.marks
  loops : g.loops = gs0.loops + 1
  ctr : CtrInv gs0.top.regs gs0.loops → CtrInv g.top.regs g.loops
  reg : ∃ (i : Nat) (r : VReg), c = (i : Int) ∧ g.top.regs[i]? = some r ∧ r.name = ctrName gs0.fsName gs0.fsLine (gs0.loops + 1)

theorem ctrInv_push {regs : List VReg} {n : Nat} (h : CtrInv regs n) (u : Bool) (fs : Bytes) (ln : Int) :
    CtrInv (regs ++ [⟨u, false, ctrName fs ln (n + 1)⟩]) (n + 1) := by
  have hnew : ∀ (i : Nat) (r : VReg), (regs ++ [(⟨u, false, ctrName fs ln (n + 1)⟩ : VReg)])[i]? = some r →
      (regs[i]? = some r) ∨ (i = regs.length ∧ r = ⟨u, false, ctrName fs ln (n + 1)⟩) := by
    intro i r hr
    by_cases hi : i < regs.length
    · rw [List.getElem?_append_left hi] at hr; exact Or.inl hr
    · have := (List.getElem?_eq_some_iff.1 hr).1
      simp at this
      have hi' : i = regs.length := by omega
      subst hi'
      rw [getElem?_snoc_len] at hr
      exact Or.inr ⟨rfl, (Option.some.inj hr).symm⟩
  have hold : ∀ (i : Nat) (r : VReg), regs[i]? = some r → r.isTemp = false → ¬ hasId r.name (n + 1) := by
    intro i r hr ht hid
    obtain ⟨id, hle, hid'⟩ := h.bound i r hr ht hid.1
    have := hasId_inj hid hid'
    omega
  refine ⟨?_, ?_⟩
  · intro i r hr ht hp
    rcases hnew i r hr with h1 | ⟨_, h1⟩
    · obtain ⟨id, hle, hid⟩ := h.bound i r h1 ht hp
      exact ⟨id, by omega, hid⟩
    · subst h1
      exact ⟨n + 1, Nat.le_refl _, ctrName_hasId _ _ _⟩
  · intro i j r r' id h1 h2 t1 t2 i1 i2
    rcases hnew i r h1 with a | ⟨a, a'⟩ <;> rcases hnew j r' h2 with b | ⟨b, b'⟩
    · exact h.uniq i j r r' id a b t1 t2 i1 i2
    · exfalso
      subst b'
      have : id = n + 1 := hasId_inj i2 (ctrName_hasId _ _ _)
      subst this
      exact hold i r a t1 i1
    · exfalso
      subst a'
      have : id = n + 1 := hasId_inj i1 (ctrName_hasId _ _ _)
      subst this
      exact hold j r' b t2 i2
    · rw [a, b]

theorem loopPre_spec (gs0 : GS) : LoopPreSpec gs0 (loopPre gs0).1 (loopPre gs0).2 := by
  rw [loopPre_eq]
  have fv := fetchVar_spec (fun _ => True) ({ gs0 with loops := gs0.loops + 1 } : GS)
    (ctrName gs0.fsName gs0.fsLine (gs0.loops + 1)) trivial
  have q := quiet_loopPre gs0
  rw [loopPre_eq] at q
  refine ⟨?_, fv.code, q.labels, q.marks, fv.vq.loops, ?_, fv.reg⟩
  · exact (GQ.of_syms (gs := gs0) (gs' := { gs0 with loops := gs0.loops + 1 }) (List.prefix_refl _) rfl rfl rfl).trans fv.vq.toGQ
  · intro hc
    rw [fv.vq.loops]
    show CtrInv _ (gs0.loops + 1)
    unfold fetchVar
    dsimp only
    split
    · exact hc.mono (Nat.le_succ _)
    · exact ctrInv_push hc _ _ _

theorem loopMid_code (v : GS) (c : Int) :
    (loopMid v c).1.code = v.code ++ [.jmpc (((loopMid v c).2.2 : Nat) : Int) c] := by unfold loopMid; rfl
theorem loopMid_labels (v : GS) (c : Int) :
    (loopMid v c).1.labels = (v.labels ++ [-1] ++ [-1]).set v.labels.length (v.code.length : Int) := by unfold loopMid; rfl
theorem loopMid_symbols (v : GS) (c : Int) : (loopMid v c).1.symbols = v.symbols := by unfold loopMid; rfl
theorem loopMid_startL (v : GS) (c : Int) : (loopMid v c).2.1 = v.labels.length := rfl
theorem loopMid_endL (v : GS) (c : Int) : (loopMid v c).2.2 = v.labels.length + 1 := List.length_append
theorem loopMid_loops (v : GS) (c : Int) : (loopMid v c).1.loops = v.loops := by unfold loopMid; rfl
theorem loopMid_gq (v : GS) (c : Int) : GQ v (loopMid v c).1 :=
  GQ.of_syms (by rw [loopMid_code]; exact prefix_append_self _ _) (by unfold loopMid; rfl) (by unfold loopMid; rfl)
    (loopMid_symbols v c)

theorem loopMid_get (v : GS) (c : Int) {l : Nat} (h : l < v.labels.length) : (loopMid v c).1.labels[l]? = v.labels[l]? := by
  rw [loopMid_labels, List.getElem?_set_ne (Nat.ne_of_gt h), List.getElem?_append_left (by simp; omega),
    List.getElem?_append_left h]

theorem loopPost_code (b : GS) (c : Int) (s e : Nat) :
    (loopPost b c s e).code = b.code ++ [.add c c (-1), .jmp (s : Int)] := by
  unfold loopPost; simp [emitBackpatched, emit]
theorem loopPost_labels (b : GS) (c : Int) (s e : Nat) :
    (loopPost b c s e).labels = b.labels.set e ((b.code.length + 2 : Nat) : Int) := by
  unfold loopPost; simp [emitBackpatched, emit, nextPos]
theorem loopPost_symbols (b : GS) (c : Int) (s e : Nat) : (loopPost b c s e).symbols = b.symbols := rfl
theorem loopPost_loops (b : GS) (c : Int) (s e : Nat) : (loopPost b c s e).loops = b.loops := rfl
theorem loopPost_gq (b : GS) (c : Int) (s e : Nat) : GQ b (loopPost b c s e) :=
  GQ.of_syms (by rw [loopPost_code]; exact prefix_append_self _ _) rfl rfl rfl

structure WhilePreSpec (gs0 g : GS) (s e : Nat) (c : Int) : Prop where
  gq : GQ gs0 g
  code : g.code = gs0.code
  startL : s = gs0.labels.length
  endL : e = gs0.labels.length + 1
  labels : g.labels = (gs0.labels ++ [-1] ++ [-1]).set gs0.labels.length (gs0.code.length : Int)
  marks : g.top.marks = gs0.top.marks
  loops : g.loops = gs0.loops
  ctr : CtrInv gs0.top.regs gs0.loops → CtrInv g.top.regs g.loops
  reg : ∃ (i : Nat) (r : VReg), c = (i : Int) ∧ g.top.regs[i]? = some r ∧ r.isTemp = true

theorem whilePre_spec' (gs0 : GS) :
    WhilePreSpec gs0 (whilePre gs0).1 (whilePre gs0).2.1 (whilePre gs0).2.2.1 (whilePre gs0).2.2.2 := by
  have ft := fetchTemporary_spec PV gs0.createLabel.1.createLabel.1
  have hq := quiet_fetchTemporary gs0.createLabel.1.createLabel.1
  have g1 : GQ gs0 gs0.createLabel.1.createLabel.1 := (gq_createLabel _).trans (gq_createLabel _)
  have hw : whilePre gs0 = (gs0.createLabel.1.createLabel.1.fetchTemporary.1.setLabel gs0.labels.length
      gs0.createLabel.1.createLabel.1.fetchTemporary.1.nextPos, gs0.labels.length, gs0.labels.length + 1,
      gs0.createLabel.1.createLabel.1.fetchTemporary.2) := by unfold whilePre; simp
  rw [hw]
  have h2 : gs0.createLabel.1.createLabel.1.labels = gs0.labels ++ [-1] ++ [-1] := rfl
  have hc2 : gs0.createLabel.1.createLabel.1.code = gs0.code := rfl
  have ht2 : gs0.createLabel.1.createLabel.1.top = gs0.top := rfl
  have hl2 : gs0.createLabel.1.createLabel.1.loops = gs0.loops := rfl
  generalize gs0.createLabel.1.createLabel.1 = g2 at *
  generalize g2.fetchTemporary = t at *
  obtain ⟨g, c⟩ := t
  dsimp only at *
  obtain ⟨i, r, e1, e2, e3, _⟩ := ft.reg
  refine ⟨(g1.trans ft.vq.toGQ).trans (gq_setLabel _ _ _), ft.code.trans hc2, rfl, rfl, ?_, ?_, ft.vq.loops.trans hl2, ?_,
    i, r, e1, e2, e3⟩
  · rw [setLabel_labels, hq.labels, h2, nextPos, ft.code, hc2]
  · rw [setLabel_top, hq.marks, ht2]
  · intro h
    exact ft.vq.ctr PV_noPrefix (by rw [ht2, hl2]; exact h)

theorem whilePost_code (b : GS) (s e : Nat) (c : Int) : (whilePost b s e c).code = b.code ++ [.jmp (s : Int)] := rfl
theorem whilePost_labels (b : GS) (s e : Nat) (c : Int) :
    (whilePost b s e c).labels = b.labels.set e ((b.code.length + 1 : Nat) : Int) := by
  unfold whilePost; simp [emitBackpatched, emit, nextPos, releaseTemporary, setTop]
theorem whilePost_loops (b : GS) (s e : Nat) (c : Int) : (whilePost b s e c).loops = b.loops := rfl
theorem whilePost_vq (b : GS) (s e : Nat) (c : Int) :
    GQ b (whilePost b s e c) ∧ (CtrInv b.top.regs b.loops → CtrInv (whilePost b s e c).top.regs (whilePost b s e c).loops) := by
  unfold whilePost
  dsimp only
  have v := vq_releaseTemporary PV ((b.emitBackpatched (.jmp s)).setLabel e (b.emitBackpatched (.jmp s)).nextPos) c
  exact ⟨((gq_emitBackpatched _ _).trans (gq_setLabel _ _ _)).trans v.toGQ, fun h => v.ctr PV_noPrefix h⟩

structure IfPreSpec (gs0 g : GS) (cond op1 op2 : Int) : Prop where
  vq : VQ PV gs0 g
  code : g.code = gs0.code
  regs : ∃ (i1 i2 i3 : Nat) (r1 r2 r3 : VReg), cond = (i1 : Int) ∧ op1 = (i2 : Int) ∧ op2 = (i3 : Int) ∧
    g.top.regs[i1]? = some r1 ∧ g.top.regs[i2]? = some r2 ∧ g.top.regs[i3]? = some r3 ∧
    r1.isTemp = true ∧ r2.isTemp = true ∧ r3.isTemp = true ∧ op2 ≠ op1

theorem ifPre_spec (gs0 : GS) : IfPreSpec gs0 (ifPre gs0).1 (ifPre gs0).2.1 (ifPre gs0).2.2.1 (ifPre gs0).2.2.2 := by
  unfold ifPre
  dsimp only
  have f1 := fetchTemporary_spec PV gs0
  have f2 := fetchTemporary_spec PV gs0.fetchTemporary.1
  have f3 := fetchTemporary_spec PV gs0.fetchTemporary.1.fetchTemporary.1
  obtain ⟨i1, r1, a1, a2, a3, a4⟩ := f1.reg
  obtain ⟨i2, r2, b1, b2, b3, b4⟩ := f2.reg
  obtain ⟨i3, r3, c1, c2, c3, c4⟩ := f3.reg
  refine ⟨(f1.vq.trans f2.vq).trans f3.vq, by rw [f3.code, f2.code, f1.code],
    i1, i2, i3, r1, r2, r3, a1, b1, c1, f3.keep _ _ (f2.keep _ _ a2 a4) a4, f3.keep _ _ b2 b4, c2, a3, b3, c3, ?_⟩
  intro h
  obtain ⟨j, ej, hfree⟩ := f3.free
  have : j = i2 := by omega
  subst this
  have := hfree r2 b2
  rw [b4] at this; cases this

theorem ifPost_code (g : GS) (cond op1 op2 : Int) (m : Bytes) :
    (ifPost g cond op1 op2 m).code =
      g.code ++ [.test cond op1 op2, .jmpc ((((g.emit (.test cond op1 op2)).markLabel m).2 : Nat) : Int) cond] := by
  unfold ifPost
  dsimp only
  show (((g.emit (.test cond op1 op2)).markLabel m).1.emitBackpatched _).code = _
  rw [emitBackpatched_code, markLabel_code]; simp

theorem ifPost_gq (g : GS) (cond op1 op2 : Int) (m : Bytes) :
    GQ g (ifPost g cond op1 op2 m) ∧ (ifPost g cond op1 op2 m).loops = g.loops ∧
    (CtrInv g.top.regs g.loops → CtrInv (ifPost g cond op1 op2 m).top.regs (ifPost g cond op1 op2 m).loops) := by
  unfold ifPost
  dsimp only
  generalize hg1 : ((g.emit (.test cond op1 op2)).markLabel m).1.emitBackpatched
    (.jmpc ((g.emit (.test cond op1 op2)).markLabel m).2 cond) = g1
  have hq : GQ g g1 := by
    rw [← hg1]
    exact ((vq_emit PV g _).toGQ.trans (gq_markLabel _ _)).trans (gq_emitBackpatched _ _)
  have hl : g1.loops = g.loops := by rw [← hg1]; exact markLabel_loops _ _
  have hr : g1.top.regs = g.top.regs := by rw [← hg1]; exact markLabel_regs _ _
  have v := ((vq_releaseTemporary PV g1 cond).trans (vq_releaseTemporary PV _ op1)).trans (vq_releaseTemporary PV _ op2)
  refine ⟨hq.trans v.toGQ, by rw [v.loops, hl], ?_⟩
  intro h
  exact v.ctr PV_noPrefix (by rw [hr, hl]; exact h)

theorem ifPost_get (g : GS) (cond op1 op2 : Int) (m : Bytes) {l : Nat} (h : l < g.labels.length) :
    (ifPost g cond op1 op2 m).labels[l]? = g.labels[l]? := by
  unfold ifPost
  dsimp only
  exact markLabel_get (g.emit (.test cond op1 op2)) m h

structure SQ (gs gs' : GS) (n : Node) : Prop where
  gq : GQ gs gs'
  loops : gs'.loops = gs.loops + loopCount n
  ctr : CtrInv gs.top.regs gs.loops → CtrInv gs'.top.regs gs'.loops
  frame : ∀ l, l < gs.labels.length → (∀ m ∈ defsOf n, (m, l) ∉ gs'.top.marks) → gs'.labels[l]? = gs.labels[l]?

theorem SQ.of_vq {gs gs0 gs' : GS} {n : Node} (v : VQ PV gs gs0) (s : SQ gs0 gs' n) : SQ gs gs' n :=
  ⟨v.toGQ.trans s.gq, by rw [s.loops, v.loops], fun h => s.ctr (v.ctr PV_noPrefix h),
   fun l hl hm => by rw [s.frame l (by rw [v.labels]; exact hl) hm, v.labels]⟩

theorem SQ.vq {gs gs' : GS} {n : Node} (v : VQ PV gs gs') (hc : loopCount n = 0) : SQ gs gs' n :=
  ⟨v.toGQ, by rw [v.loops, hc]; rfl, fun h => v.ctr PV_noPrefix h, fun l _ _ => by rw [v.labels]⟩

/-- LOOP and WHILE alike.  `gs0` stands behind the header, `p1` has the register `c` for the loop
    variable, `v` holds its value.  In front of the body (`m1`) stands `JMPC e, c`, with two fresh
    labels: `s`, set to `back`, and `e`, open.  Behind the body (`b`) stand `tl` and `JMP s`, and `e`
    is set to the end (`res`).  `k` loop numbers are taken.  `pq`, `vq`, `mq`, `rq` are the `GQ`
    steps into `p1`, `v`, `m1`, `res`. -/
structure Frame (gs0 p1 v m1 b res : GS) (c : Int) (s e back k : Nat) (tl : List Instr) : Prop where
  startL : s = gs0.labels.length
  endL : e = gs0.labels.length + 1
  pq : GQ gs0 p1
  pcode : p1.code = gs0.code
  vq : GQ p1 v
  mq : GQ v m1
  mcode : m1.code = v.code ++ [.jmpc (e : Int) c]
  mlabels : m1.labels = (gs0.labels ++ [-1] ++ [-1]).set s (back : Int)
  mmarks : m1.top.marks = gs0.top.marks
  mloops : m1.loops = gs0.loops + k
  mctr : CtrInv gs0.top.regs gs0.loops → CtrInv m1.top.regs m1.loops
  rq : GQ b res
  rcode : res.code = b.code ++ (tl ++ [.jmp (s : Int)])
  rlabels : res.labels = b.labels.set e (res.code.length : Int)
  rmarks : res.top.marks = b.top.marks
  rloops : res.loops = b.loops
  rctr : CtrInv b.top.regs b.loops → CtrInv res.top.regs res.loops

theorem loop_frame (gs0 : GS) {v : GS} (vq : VQ PV (loopPre gs0).1 v) (b : GS) :
    Frame gs0 (loopPre gs0).1 v (loopMid v (loopPre gs0).2).1 b
      (loopPost b (loopPre gs0).2 (loopMid v (loopPre gs0).2).2.1 (loopMid v (loopPre gs0).2).2.2)
      (loopPre gs0).2 (loopMid v (loopPre gs0).2).2.1 (loopMid v (loopPre gs0).2).2.2 v.code.length 1
      [.add (loopPre gs0).2 (loopPre gs0).2 (-1)] := by
  have sp := loopPre_spec gs0
  generalize (loopPre gs0).1 = p1 at *
  generalize (loopPre gs0).2 = c at *
  have hvl : v.labels = gs0.labels := vq.labels.trans sp.labels
  have hmt := top_congr (loopMid_symbols v c)
  have hml := loopMid_loops v c
  exact {
    startL := by rw [loopMid_startL, hvl]
    endL := by rw [loopMid_endL, hvl]
    pq := sp.gq, pcode := sp.code, vq := vq.toGQ, mcode := loopMid_code v c
    mq := loopMid_gq v c
    mlabels := by rw [loopMid_labels, loopMid_startL, hvl]
    mmarks := by rw [hmt, vq.marks, sp.marks]
    mloops := by rw [hml, vq.loops, sp.loops]
    mctr := fun h => by rw [hmt, hml]; exact vq.ctr PV_noPrefix (sp.ctr h)
    rq := loopPost_gq _ _ _ _
    rcode := loopPost_code _ _ _ _
    rlabels := by rw [loopPost_labels, loopPost_code, List.length_append]; rfl
    rmarks := by rw [top_congr (loopPost_symbols _ _ _ _)]
    rloops := loopPost_loops _ _ _ _, rctr := id }

theorem while_frame (gs0 : GS) {v : GS} (vq : VQ PV (whilePre gs0).1 v) (b : GS) :
    Frame gs0 (whilePre gs0).1 v (v.emitBackpatched (.jmpc (whilePre gs0).2.2.1 (whilePre gs0).2.2.2)) b
      (whilePost b (whilePre gs0).2.1 (whilePre gs0).2.2.1 (whilePre gs0).2.2.2)
      (whilePre gs0).2.2.2 (whilePre gs0).2.1 (whilePre gs0).2.2.1 gs0.code.length 0 [] := by
  have sp := whilePre_spec' gs0
  generalize (whilePre gs0).1 = p1 at *
  generalize (whilePre gs0).2.1 = s at *
  generalize (whilePre gs0).2.2.1 = e at *
  generalize (whilePre gs0).2.2.2 = c at *
  obtain ⟨wq, wc⟩ := whilePost_vq b s e c
  exact {
    startL := sp.startL, endL := sp.endL, pq := sp.gq, pcode := sp.code, vq := vq.toGQ
    mq := gq_emitBackpatched _ _, mcode := rfl
    mlabels := by show v.labels = _; rw [vq.labels, sp.labels, sp.startL]
    mmarks := by show v.top.marks = _; rw [vq.marks, sp.marks]
    mloops := by show v.loops = _; rw [vq.loops, sp.loops]; rfl
    mctr := fun h => vq.ctr PV_noPrefix (sp.ctr h)
    rq := wq, rcode := rfl
    rlabels := by rw [whilePost_labels, whilePost_code]; simp
    rmarks := rfl, rloops := whilePost_loops _ _ _ _, rctr := wc }

theorem frame_sq {gs0 p1 v m1 b res : GS} {c : Int} {s e back k : Nat} {tl : List Instr} {n r : Node}
    (F : Frame gs0 p1 v m1 b res c s e back k tl) (sb : SQ m1 b r)
    (hc : loopCount n = loopCount r + k) (hd : defsOf n = defsOf r) : SQ gs0 res n := by
  refine ⟨(((F.pq.trans F.vq).trans F.mq).trans sb.gq).trans F.rq, ?_, fun h => F.rctr (sb.ctr (F.mctr h)), ?_⟩
  · rw [F.rloops, sb.loops, F.mloops, hc]; omega
  · intro x hx hm
    have hlen : m1.labels.length = gs0.labels.length + 2 := by rw [F.mlabels]; simp
    rw [hd, F.rmarks] at hm
    rw [F.rlabels, List.getElem?_set_ne (by rw [F.endL]; omega), sb.frame x (by omega) hm, F.mlabels,
      List.getElem?_set_ne (by rw [F.startL]; omega), List.getElem?_append_left (by simp; omega),
      List.getElem?_append_left hx]

theorem sq_void : ∀ (gs : GS) (n : Node), stmtShape n = true → stmtNames n = true → SQ gs (genS gs n) n := by
  suffices h : ∀ n, stmtShape n = true → ∀ gs : GS, stmtNames n = true → SQ gs (genS gs n) n from
    fun gs n hs hn => h n hs gs hn
  -- the `show … from hn` and `rfl` steps below: at a concrete node type `stmtNames`, `loopCount` and
  -- `defsOf` unfold definitionally to the branch named
  apply stmtShape_induction
  case nil =>
    intro gs _
    rw [genS_nil]
    exact ⟨GQ.refl _, rfl, id, fun _ _ _ => rfl⟩
  case split =>
    intro tok file line l r _ _ ihl ihr gs hn
    have hn := Bool.and_eq_true_iff.1 (show (stmtNames l && stmtNames r) = true from hn)
    rw [genS_split]
    refine SQ.of_vq (vq_advanceLine PV gs line file) ?_
    generalize gs.advanceLine line file = gs0
    have s1 := ihl gs0 hn.1
    have s2 := ihr (genS gs0 l) hn.2
    have st1 := step_void gs0 l
    have st2 := step_void (genS gs0 l) r
    generalize genS gs0 l = g1 at *
    generalize genS g1 r = g2 at *
    refine ⟨s1.gq.trans s2.gq, ?_, fun h => s2.ctr (s1.ctr h), ?_⟩
    · rw [s2.loops, s1.loops, Nat.add_assoc]; rfl
    · intro x hx hm
      have hm : ∀ m ∈ defsOf l ++ defsOf r, (m, x) ∉ g2.top.marks := hm
      rw [s2.frame x (Nat.lt_of_lt_of_le hx st1.lablen) (fun m hm' => hm m (List.mem_append_right _ hm')),
        s1.frame x hx (fun m hm' hin => hm m (List.mem_append_left _ hm') (st2.ext _ hin))]
  case assign =>
    intro tok file line l r _ gs hn
    have hn : (varOK l.tok && !isNil r && valNames r) = true := hn
    simp only [Bool.and_eq_true] at hn
    rw [genS_assign]
    exact SQ.vq (((vq_advanceLine PV gs line file).trans (fetchVar_spec PV _ l.tok hn.1.1).vq).trans
      (vk_value _ r _ hn.2).vq) rfl
  case loop =>
    intro tok file line l r hl _ ih gs hn
    have hn : (!isNil l && varOK l.tok && stmtNames r) = true := hn
    simp only [Bool.and_eq_true, Bool.not_eq_true'] at hn
    rw [genS_loop]
    exact SQ.of_vq (vq_advanceLine PV gs line file)
      (frame_sq (loop_frame _ (vk_value _ l _ (valNames_name hn.1.1 hl hn.1.2)).vq _) (ih _ hn.2) rfl rfl)
  case while_ =>
    intro tok file line l r hl _ ih gs hn
    have hn : (!isNil l && varOK l.tok && stmtNames r) = true := hn
    simp only [Bool.and_eq_true, Bool.not_eq_true'] at hn
    rw [genS_while]
    exact SQ.of_vq (vq_advanceLine PV gs line file)
      (frame_sq (while_frame _ (vk_value _ l _ (valNames_name hn.1.1 hl hn.1.2)).vq _) (ih _ hn.2) rfl rfl)
  case mark =>
    intro tok file line l r gs _
    rw [genS_mark]
    dsimp only
    refine SQ.of_vq (vq_advanceLine PV gs line file) ?_
    generalize gs.advanceLine line file = gs0
    have ms := markLabel_spec gs0 l.tok
    refine ⟨(gq_markLabel _ _).trans (gq_setLabel _ _ _), markLabel_loops _ _, ?_, ?_⟩
    · intro h
      show CtrInv (gs0.markLabel l.tok).1.top.regs (gs0.markLabel l.tok).1.loops
      rw [markLabel_regs, markLabel_loops]; exact h
    · intro x hx hm
      have hne : x ≠ (gs0.markLabel l.tok).2 := fun he => hm l.tok (List.mem_singleton.2 rfl) (he ▸ ms.mem)
      rw [setLabel_get_ne _ _ _ hne, markLabel_get _ _ hx]
  case goto =>
    intro tok file line l r gs _
    rw [genS_goto]
    dsimp only
    refine SQ.of_vq (vq_advanceLine PV gs line file) ?_
    generalize gs.advanceLine line file = gs0
    refine ⟨(gq_markLabel _ _).trans (gq_emitBackpatched _ _), markLabel_loops _ _, ?_, fun x hx _ => markLabel_get _ _ hx⟩
    intro h
    show CtrInv (gs0.markLabel l.tok).1.top.regs (gs0.markLabel l.tok).1.loops
    rw [markLabel_regs, markLabel_loops]; exact h
  case if_ =>
    intro tok file line l r hl1 hl2 gs hn
    have hn : (!isNil l.left && !isNil l.right && varOK l.left.tok) = true := hn
    simp only [Bool.and_eq_true, Bool.not_eq_true'] at hn
    rw [genS_if]
    dsimp only
    refine SQ.of_vq (vq_advanceLine PV gs line file) ?_
    generalize gs.advanceLine line file = gs0
    have sp := ifPre_spec gs0
    generalize (ifPre gs0).1 = p1 at sp
    generalize (ifPre gs0).2.1 = cond at sp
    generalize (ifPre gs0).2.2.1 = op1 at sp
    generalize (ifPre gs0).2.2.2 = op2 at sp
    have v1 := vk_value p1 l.left op1 (valNames_name hn.1.1 hl1 hn.2)
    generalize genV p1 l.left op1 = g1 at v1
    have v2 := vk_value g1 l.right op2 (valNames_number hl2)
    generalize genV g1 l.right op2 = g2 at v2
    obtain ⟨q, lo, ct⟩ := ifPost_gq g2 cond op1 op2 r.left.tok
    have vv := (sp.vq.trans v1.vq).trans v2.vq
    refine ⟨vv.toGQ.trans q, by rw [lo, vv.loops]; rfl, fun h => ct (vv.ctr PV_noPrefix h), ?_⟩
    intro x hx _
    rw [ifPost_get _ _ _ _ _ (by rw [vv.labels]; exact hx), vv.labels]
  case stop =>
    intro tok file line l r gs _
    rw [genS_stop]
    exact SQ.vq ((vq_advanceLine PV gs line file).trans (vq_emit PV _ _)) rfl

end GenShape
end Theo
