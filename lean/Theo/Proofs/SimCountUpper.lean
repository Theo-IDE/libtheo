/-
  C01 budget, upper bound: a halting reference execution is matched by a VM run reaching `HALT`,
  and the VM is not unboundedly slower than the reference machine.

  One reference step costs `cost cfg` real instructions (SimStep.lean): at most 4 — except
  for the step that performs a call with `k` arguments, which costs `k + 2` (`PREPARE`, `k` times
  `ARG`, `EXEC`).  That step is paid for by the `k - 1` instruction-free steps that moved from
  one evaluated argument to the next: with the *credit* of a configuration = the number of
  argument values already computed in the pending calls of all activations,

      cost cfg + credit (step cfg) ≤ credit cfg + 4        (`cost_credit`)

  so that, every real instruction being preceded by at most `S` breakpoint sites, after `n`
  reference steps that leave the reference machine running the VM has executed at most
  `(S + 1) * (4 * n + L + 1)` instructions, where `L` = the number of routines (the prologue
  `PREPARE; JMP over each routine body`); the sites in front of the final `HALT` make it
  `(S + 1) * (4 * n + L + 2)` for a halting execution (`halts_sim_upper`).
-/
import Theo.Proofs.Simulation

namespace Theo
namespace Sim
open Sem WF
open LoopHalts (stepN stepN_succ step_fixed)

def ccred : List ECtx → Nat
  | [] => 0
  | c :: cs => c.done.length + ccred cs

def fcred (fr : Frame) : Nat :=
  match fr.ctrl with
  | .run => 0
  | .eval _ _ cs => ccred cs
  | .ret _ _ cs => ccred cs
  | .wait _ cs => ccred cs

def scred : List Frame → Nat
  | [] => 0
  | fr :: rest => fcred fr + scred rest

def cred (cfg : Config) : Nat := scred cfg.stack

theorem cred_doCall (src : Source) (fr : Frame) (rest : List Frame) (f : Name) (args : List Nat) :
    cred (doCall src fr rest f args) = fcred fr + scred rest := by
  unfold doCall
  split
  · split
    · simp only [cred, scred, fcred, Nat.zero_add]
    · rfl
  · rfl

theorem cred_jumpTo (src : Source) (fr : Frame) (rest : List Frame) (m : Name) (h : fr.ctrl = .run) :
    cred (jumpTo src fr rest m) = scred rest := by
  unfold jumpTo
  split <;> simp only [cred, scred, fcred, h, Nat.zero_add]

theorem cost_credit (src : Source) {cfg : Config} (hrun : cfg.status = .running) :
    cost cfg + cred (Sem.step src cfg) ≤ cred cfg + 4 := by
  obtain ⟨stack, status⟩ := cfg
  simp only at hrun
  subst hrun
  cases stack with
  | nil => exact Nat.le_add_left _ _
  | cons fr rest =>
  have hr := step_rule src fr rest
  generalize Sem.step src ⟨fr :: rest, .running⟩ = cfg' at hr
  cases hr with
  | loop | while_ | endLoop | endWhile =>
    simp only [cost, fcost]; split <;> simp only [cred, scred, fcred] <;> omega
  | goto => rw [cred_jumpTo _ _ _ _ rfl]; simp only [cost, fcost, cred, scred, fcred]; omega
  | ifGoto =>
    split
    · rw [cred_jumpTo _ _ _ _ rfl]; simp only [cost, fcost, cred, scred, fcred]; omega
    · simp only [cost, fcost, cred, scred, fcred]; omega
  | evalSimple _ _ _ _ _ _ _ _ _ _ hv =>
    cases hv <;> simp only [cost, fcost, scost, cred, scred, fcred] <;> omega
  | evalCallNil | retCall => rw [cred_doCall]; simp only [cost, fcost, cred, scred, fcred, ccred]; omega
  | retMore =>
    simp only [cost, fcost, cred, scred, fcred, ccred, List.length_append, List.length_cons,
      List.length_nil]
    omega
  | _ => simp only [cost, fcost, cred, scred, fcred, ccred, List.length_nil]; omega

/-- a step of amortised cost 4, executed by `j ≤ (S + 1) * k` instructions -/
theorem upper_step {S m j k n L cr cr' : Nat} (hle : m + (S + 1) * cr ≤ (S + 1) * (4 * n + (L + 1)))
    (hj : j ≤ (S + 1) * k) (hcc : k + cr' ≤ cr + 4) :
    m + j + (S + 1) * cr' ≤ (S + 1) * (4 * (n + 1) + (L + 1)) := by
  have h1 := Nat.mul_le_mul_left (S + 1) hcc
  rw [Nat.mul_add, Nat.mul_add] at h1
  rw [show 4 * (n + 1) + (L + 1) = 4 * n + (L + 1) + 4 by omega, Nat.mul_add]
  omega

/-- the last step: at most `S` sites before the `HALT` -/
theorem upper_halt {S m j n L cr : Nat} (hle : m + (S + 1) * cr ≤ (S + 1) * (4 * n + (L + 1)))
    (hj : j ≤ S) : m + j ≤ (S + 1) * (4 * (n + 1) + (L + 2)) := by
  rw [show 4 * (n + 1) + (L + 2) = 4 * n + (L + 1) + 5 by omega, Nat.mul_add]
  omega

section
variable {src : Source} {p : Program} {V : Valid src p} {c : Cert} {R : PcInfo} {S : Nat}
  (hS : SiteBound p.code S) (hc : CertOK p c R) (hV : V.OK)
include hS hc hV

theorem sim_iter_upper (hsk : SkipsS p.code S src.progs.length 1 (V.start src.progs.length)) : ∀ n,
    ((stepN src n (initial src)).status = .running →
      ∃ m vm, Steps (VM.mk' p) m vm ∧ Match V c R (stepN src n (initial src)) vm ∧
        m + (S + 1) * cred (stepN src n (initial src)) ≤ (S + 1) * (4 * n + (src.progs.length + 1))) ∧
    ((stepN src n (initial src)).status = .halted →
      ∃ m vm, Steps (VM.mk' p) m vm ∧ Final (p := p) (stepN src n (initial src)) vm ∧
        m ≤ (S + 1) * (4 * n + (src.progs.length + 2))) := by
  intro n
  induction n with
  | zero =>
    refine ⟨fun _ => ?_, fun h => ?_⟩
    · obtain ⟨vm, ⟨m, _, hm2, hs⟩, hm⟩ := init_match hc hV hsk
      refine ⟨m, vm, hs, hm, ?_⟩
      have : cred (stepN src 0 (initial src)) = 0 := rfl
      rw [this, Nat.mul_zero, Nat.mul_zero, Nat.zero_add, Nat.add_zero]
      exact hm2
    · cases h
  | succ n ih =>
    have e := stepN_succ src n (initial src)
    by_cases hr : (stepN src n (initial src)).status = .running
    · obtain ⟨m, vm, hs, hm, hle⟩ := ih.1 hr
      have hres := sim_step hS hc hV hm
      have hcc := cost_credit src hr
      rw [← e] at hres hcc
      refine ⟨fun h => ?_, fun h => ?_⟩
      · cases hres with
        | run vm' _ hs' hm' =>
          obtain ⟨j, _, hj, hsj⟩ := hs'
          exact ⟨m + j, vm', hs.trans hsj, hm', upper_step hle hj hcc⟩
        | halt vm' hh _ _ => rw [hh] at h; cases h
      · cases hres with
        | run vm' hh _ _ => rw [hh] at h; cases h
        | halt vm' _ hs' hf =>
          obtain ⟨j, hj, hsj⟩ := hs'
          exact ⟨m + j, vm', hs.trans hsj, hf, upper_halt hle hj⟩
    · rw [e, step_fixed src _ hr]
      refine ⟨fun h => absurd h hr, fun h => ?_⟩
      obtain ⟨m, vm, hs, hf, hle⟩ := ih.2 h
      refine ⟨m, vm, hs, hf, Nat.le_trans hle (Nat.mul_le_mul_left _ (by omega))⟩

theorem halts_sim_upper (hsk : SkipsS p.code S src.progs.length 1 (V.start src.progs.length))
    {n : Nat} (hh : (stepN src n (initial src)).status = .halted) :
    ∃ m vm, m ≤ (S + 1) * (4 * n + (src.progs.length + 2)) ∧ runFrom (VM.mk' p) m = .ok vm ∧
      vm.isDone = .ok true ∧ StacksAgree' p vm.data (stepN src n (initial src)).stack vm.stack := by
  obtain ⟨m, vm, hs, ⟨hd, hag⟩, hle⟩ := (sim_iter_upper hS hc hV hsk n).2 hh
  exact ⟨m, vm, hle, hs.run.1, hd, hag⟩

end

end Sim
end Theo
