/-
  Lemmas about macro application behind C10 / C11 (used by C09, C12 too): temporary names, where
  the tokens of a replacement come from, the pass loop and its invariant principle, and that
  a parse error makes `compile` fail (`parse_error_not_passed_on`, by `gen_not_ok`); before it, the
  fields of `compile` as those of `gen` and the `ok` of the tree `parseFiles` returns
  (`compile_ok_eq`, `compile_code_eq`, `compile_errors_eq`, `parseFiles_ok_eq`).
-/
import Theo.Proofs.GenWalk
import Theo.Spec.Tokenisation
import Theo.Proofs.SimDigits
import Theo.Proofs.ApplyProofs

namespace Theo

theorem run_unique {α} (p : α → Bool) {d d' : List α} {x x' : α} {r r' : List α}
    (hd : ∀ c ∈ d, p c = true) (hd' : ∀ c ∈ d', p c = true) (hx : p x = false) (hx' : p x' = false)
    (h : d ++ x :: r = d' ++ x' :: r') : d = d' := by
  have run : ∀ {d : List α} {x : α} {r : List α}, (∀ c ∈ d, p c = true) → p x = false →
      (d ++ x :: r).takeWhile p = d := fun hd hx => by
    rw [List.takeWhile_append_of_pos hd, List.takeWhile_cons_of_neg (by rw [hx]; exact nofun),
      List.append_nil]
  rw [← run hd hx, h, run hd' hx']

/-- a temporary name determines the pass number: read from the right, it is `)`, the digits of the
    pass number, then `M` -/
theorem tempName_pass_inj (t t' f f' : Bytes) (l l' : Int) (p p' : Nat)
    (h : tempName t f l p = tempName t' f' l' p') : p = p' := by
  have hr : ∀ (t f : Bytes) (l : Int) (p : Nat), (tempName t f l p).reverse =
      41 :: ((natDigits p).reverse ++ 77 :: (40 :: 95 :: ((intDec l).reverse ++ 58 :: (f.reverse ++ 58 :: t.reverse)))) := by
    intro t f l p; simp [tempName]
  have h1 := congrArg List.reverse h
  rw [hr, hr] at h1
  simp only [List.cons.injEq, true_and] at h1
  have h2 := run_unique (fun c : UInt8 => decide (48 ≤ c.toNat ∧ c.toNat ≤ 57))
    (fun c hc => decide_eq_true (Sim.natDigits_range (List.mem_reverse.mp hc)))
    (fun c hc => decide_eq_true (Sim.natDigits_range (List.mem_reverse.mp hc))) (by decide) (by decide) h1
  exact Sim.natDigits_inj (List.reverse_inj.mp h2)

theorem tempName_text_inj (a b f : Bytes) (l : Int) (p : Nat) :
    tempName a f l p = tempName b f l p ↔ a = b := by
  simp only [tempName, List.append_assoc]
  exact List.append_left_inj _

theorem star_cls_bytes {rs : List (UInt8 × UInt8)} {r : Rx} {s : Bytes} (h : r.Matches s)
    (hr : r = Rx.star (Rx.cls rs)) : ∀ c ∈ s, inRanges rs c = true := by
  induction h with
  | starNil => simp
  | starCons h1 _ _ ih2 =>
    cases hr
    cases h1 with
    | cls hc =>
      intro c hcm
      simp only [List.cons_append, List.nil_append, List.mem_cons] at hcm
      rcases hcm with rfl | hcm
      · exact hc
      · exact ih2 rfl c hcm
  | _ => cases hr

theorem mem_replacement {m : MacroDef} {r : Response} {pass : Nat} {tok : Token}
    (h : tok ∈ replacement m r pass) :
    (∃ l ∈ r.matched, tok ∈ l) ∨
    (∃ cand ∈ m.body, cand.kind = Tok.TEMP_VAL ∧
      tok = { cand with kind := Tok.ID,
                        text := tempName cand.text (m.body.head?.getD default).file
                          (m.body.head?.getD default).line pass }) ∨
    (tok ∈ m.body ∧ tok.kind ≠ Tok.TEMP_VAL) := by
  obtain ⟨cand, hc, ht⟩ := List.mem_flatMap.1 h
  by_cases h1 : cand.kind = Tok.INSERTION
  · rw [if_pos h1] at ht
    dsimp only at ht
    split at ht
    · next ri _ =>
      cases hi : r.matched[ri]? with
      | none => rw [hi] at ht; cases ht
      | some l => rw [hi] at ht; exact Or.inl ⟨l, List.mem_of_getElem? hi, ht⟩
    · cases ht
  · rw [if_neg h1] at ht
    by_cases h2 : cand.kind = Tok.TEMP_VAL
    · rw [if_pos h2, List.mem_singleton] at ht
      exact Or.inr (Or.inl ⟨cand, hc, h2, ht⟩)
    · rw [if_neg h2, List.mem_singleton] at ht
      rw [ht]; exact Or.inr (Or.inr ⟨hc, h2⟩)

theorem applyStep_isSome_indep (bs : List (List Detector)) (inp : List Token) (p q : Nat) :
    (applyStep bs inp p).isSome = (applyStep bs inp q).isSome := by
  rw [applyStep_eq, applyStep_eq, Option.isSome_map, Option.isSome_map]

theorem applyStep_none_indep (bs : List (List Detector)) (inp : List Token) (p q : Nat)
    (h : applyStep bs inp p = none) : applyStep bs inp q = none := by
  rw [← Option.not_isSome_iff_eq_none, ← applyStep_isSome_indep bs inp p q, h]
  exact Bool.false_ne_true

theorem passLoop_succ (bs : List (List Detector)) (left pass : Nat) (inp : List Token) (n : Nat) :
    passLoop bs (left + 1) pass inp n =
      (match applyStep bs inp pass with
       | some (_, _, inp') => passLoop bs left (pass + 1) inp' (n + 1)
       | none => (inp, n, false)) := by
  rfl

theorem passLoop_induct (bs : List (List Detector)) (R : List Token → Nat → Prop)
    (hstep : ∀ {inp p d r out n}, applyStep bs inp p = some (d, r, out) → R inp n → R out (n + 1)) :
    ∀ {left pass : Nat} {inp : List Token} {n : Nat}, R inp n →
      R (passLoop bs left pass inp n).1 (passLoop bs left pass inp n).2.1 := by
  intro left
  induction left with
  | zero => exact fun h => h
  | succ left ih =>
    intro pass inp n h
    rw [passLoop_succ]
    cases hs : applyStep bs inp pass with
    | none => exact h
    | some x =>
      obtain ⟨d, r, inp'⟩ := x
      exact ih (hstep hs h)

theorem passLoop_count (bs : List (List Detector)) (left pass : Nat) (inp : List Token) (n : Nat) :
    n ≤ (passLoop bs left pass inp n).2.1 ∧ (passLoop bs left pass inp n).2.1 ≤ n + left := by
  induction left generalizing pass inp n with
  | zero => simp [passLoop]
  | succ left ih =>
    rw [passLoop_succ]
    cases h : applyStep bs inp pass with
    | none => simp
    | some x =>
      obtain ⟨d, r, inp'⟩ := x
      have := ih (pass + 1) inp' (n + 1)
      simp only
      omega

theorem passLoop_fixpoint (bs : List (List Detector)) (left pass : Nat) (inp : List Token) (n : Nat)
    (hf : (passLoop bs left pass inp n).2.2 = false) (q : Nat) :
    applyStep bs (passLoop bs left pass inp n).1 q = none := by
  induction left generalizing pass inp n with
  | zero => simp [passLoop] at hf
  | succ left ih =>
    rw [passLoop_succ] at hf ⊢
    cases h : applyStep bs inp pass with
    | none => exact applyStep_none_indep bs inp pass q h
    | some x =>
      obtain ⟨d, r, inp'⟩ := x
      rw [h] at hf
      exact ih (pass + 1) inp' (n + 1) hf

theorem applyMacros_zero (inp : List Token) (defs : List MacroDef) :
    (applyMacros inp defs 0).rewrites = 0 := rfl

theorem applyMacros_succ_toks (inp : List Token) (defs : List MacroDef) (k : Nat) :
    (applyMacros inp defs (k + 1)).toks =
      (passLoop (bins ((defs.map mkDetector).filter (·.usable))) (k + 1) 0 inp 0).1 := by
  rw [applyMacros_eq]

theorem applyMacros_succ_rewrites (inp : List Token) (defs : List MacroDef) (k : Nat) :
    (applyMacros inp defs (k + 1)).rewrites =
      (passLoop (bins ((defs.map mkDetector).filter (·.usable))) (k + 1) 0 inp 0).2.1 := by
  rw [applyMacros_eq]

/-- induction over the steps of `applyMacros`, `R x n` speaking of the stream `x` after `n` rewrites;
    every step is taken by the detector of a usable definition of the list -/
theorem applyMacros_induct (inp : List Token) (defs : List MacroDef) (passes : Nat)
    (R : List Token → Nat → Prop) (h0 : R inp 0)
    (hstep : ∀ {x p m r out n}, m ∈ defs → (mkDetector m).usable = true →
      applyStep (bins ((defs.map mkDetector).filter (·.usable))) x p = some (mkDetector m, r, out) →
      R x n → R out (n + 1)) :
    R (applyMacros inp defs passes).toks (applyMacros inp defs passes).rewrites := by
  cases passes with
  | zero => exact h0
  | succ k =>
    rw [applyMacros_succ_toks, applyMacros_succ_rewrites]
    refine passLoop_induct _ R (fun {x p d r out n} hs hx => ?_) h0
    obtain ⟨m, hm, rfl, hu⟩ := step_detector defs x p d r out hs
    exact hstep hm hu hs hx

theorem applyMacros_succ_errs_true (inp : List Token) (defs : List MacroDef) (k : Nat)
    (h : (passLoop (bins ((defs.map mkDetector).filter (·.usable))) (k + 1) 0 inp 0).2.2 = true) :
    maxPassesErr ∈ (applyMacros inp defs (k + 1)).errs := by
  rw [applyMacros_eq]
  simp [h]

theorem applyMacros_flag_or_fixpoint (inp : List Token) (defs : List MacroDef) (passes : Nat)
    (hp : 1 ≤ passes) :
    maxPassesErr ∈ (applyMacros inp defs passes).errs ∨
    ∀ q, applyStep (bins ((defs.map mkDetector).filter (·.usable))) (applyMacros inp defs passes).toks q = none := by
  obtain ⟨k, rfl⟩ := pos_fuel hp
  cases hf : (passLoop (bins ((defs.map mkDetector).filter (·.usable))) (k + 1) 0 inp 0).2.2 with
  | true => exact Or.inl (applyMacros_succ_errs_true inp defs k hf)
  | false =>
    right
    intro q
    rw [applyMacros_succ_toks]
    exact passLoop_fixpoint _ _ _ _ _ hf q

theorem parseFiles_ok_eq (files : Files) (main : Bytes) (passes : Nat) :
    (parseFiles files main passes).ast.ok = (parseFiles files main passes).ast.errs.isEmpty := by
  simp only [parseFiles]

theorem compile_ok_eq (files : Files) (main : Bytes) :
    (compile files main).ok = (gen (parseFiles files main).ast).ok := by
  simp only [compile]

theorem compile_code_eq (files : Files) (main : Bytes) :
    (compile files main).code = (gen (parseFiles files main).ast).code := by
  simp only [compile]

theorem compile_errors_eq (files : Files) (main : Bytes) :
    (compile files main).errors = (gen (parseFiles files main).ast).errors := by
  simp only [compile]

theorem parse_error_not_passed_on (files : Files) (main : Bytes)
    (h : (parseFiles files main).ast.errs ≠ []) :
    (parseFiles files main).ast.ok = false ∧ (compile files main).ok = false := by
  have h1 : (parseFiles files main).ast.ok = false := by
    rw [parseFiles_ok_eq, List.isEmpty_eq_false_iff]
    exact h
  exact ⟨h1, by rw [compile_ok_eq]; exact gen_not_ok _ h1 h⟩

end Theo
