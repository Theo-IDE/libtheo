/-
  C03 for the generator: the whole tree (definitions, then the main body), the final
  steps of `gen` (`GenShape.genFin_code`, GenShapeFin.lean), and the result:
  for a tree of parser shape on which `gen` records no error, the emitted program is locally
  well-formed, hence passes the certificate checker — with an explicit certificate and with
  the inferred one.
-/
import Theo.Proofs.GenWFProg
import Theo.Proofs.GenWFRegion
import Theo.Proofs.GenWFCert
import Theo.Proofs.GenWFInfer
import Theo.Proofs.GenTables

namespace Theo
namespace GenWF
open GS Static
open GenShape (patch)

theorem binv_of_layoutInv {gs : GS} {rts : List Rt} (h : LayoutInv gs rts)
    (hn : gs.code.getLast? ≠ some Instr.potBreak) : BInv (Callee rts rts.length) gs gs :=
  BInv.start (MarksWF.of_nil h.marks) h.marks h.fa hn

theorem layoutInv_tree : ∀ root, AstShape root = true → ∀ (gs : GS) (rts : List Rt),
    LayoutInv gs rts → gs.code.getLast? ≠ some Instr.potBreak → (genS gs root).errors = [] →
    ∃ rts' g0, LayoutInv g0 rts' ∧ BInv (Callee rts' rts'.length) g0 (genS gs root) := by
  apply astShape_induction
  case main => exact fun n hs gs rts h hn _ => ⟨rts, gs, h, (bi_void _ gs n hs gs (binv_of_layoutInv h hn)).1⟩
  case prog =>
    intro tok file line tok2 file2 line2 l2 r2 r hs2 _ ih gs rts h hn he
    rw [genS_split] at he ⊢
    obtain ⟨rt, h1, h2⟩ := prog_step _ rts tok2 file2 line2 l2 r2 hs2 (layoutInv_advanceLine h line file)
      ((step_void _ r).errs he)
    exact ih _ _ h1 h2 he

theorem layoutInv_gs1 : LayoutInv gs1 [] := by
  refine ⟨⟨Nat.le_refl _, ?_, ?_, ?_, ?_, rfl, ?_⟩, rfl, rfl, ?_, rfl⟩
  · intro k r hr; cases hr
  · intro k r hr; cases hr
  · intro j k rj rk _ hj; cases hj
  · intro k r hr; cases hr
  · intro pc h1 h2; exact absurd h1 (Nat.not_le.2 h2)
  · intro e he; cases he

theorem pfacts_of_inv {g0 b : GS} {rts : List Rt} {seg : List Instr} (hT : LayoutInv g0 rts)
    (hb : BInvS (Callee rts rts.length) g0 b seg) (hall : ∀ l, l < b.labels.length → isSet b l) :
    PFacts (b.code.set 0 (Instr.prepare b.top.regs.length rts.length 0) ++ [Instr.halt]) b.labels b.todo
      (g0.stackMaps ++ [⟨b.top.name, GenShape.smap b.top.regs⟩]) rts (g0.code.set 0 (Instr.prepare b.top.regs.length rts.length 0)) seg
      b.top.regs.length g0.labels.length := by
  have hpos : 0 < g0.code.length := hT.core.n1
  generalize hx : Instr.prepare (b.top.regs.length : Int) (rts.length : Int) 0 = x
  have hdec : b.code.set 0 x ++ [Instr.halt] = g0.code.set 0 x ++ seg ++ [Instr.halt] := by
    rw [hb.code, List.set_append_left _ _ hpos]
  have hlen : (g0.code.set 0 x).length = g0.code.length := List.length_set
  have h0 : (g0.code.set 0 x ++ seg ++ [Instr.halt])[0]? = some x := by
    rw [List.append_assoc, List.getElem?_append_left (hlen ▸ hpos), List.getElem?_set_self hpos]
  rw [hdec]
  refine ⟨?_, rfl, hx ▸ h0, hb.groups, ?_, ⟨⟨b.top.name, _⟩, ?_, smap_regIn b.top.regs⟩⟩
  · rw [hlen]
    refine hT.core.mono ?_ ?_ hb.lablen hb.labold hb.todoOld (fun i sm hi => getElem?_append_some hi _)
    · intro pc h1 h2
      rw [List.append_assoc, List.getElem?_append_left (hlen ▸ h2), List.getElem?_set_ne (Nat.ne_of_lt h1)]
    · rw [h0, hT.head, ← hx]; rfl
  · intro l h1 h2
    rw [hlen]
    rcases hb.labnew l h1 h2 with h3 | h3
    · exact absurd (by unfold isSet; rw [h3]; exact fun hx => hx rfl) (not_not_intro (hall l h2))
    · exact h3
  · rw [← hT.nsm, List.getElem?_append_right (Nat.le_refl _), Nat.sub_self]
    rfl

theorem gen_localWF (errs : List SynErr) (root : Node) (hsh : AstShape root = true)
    (hE : (gen ⟨true, errs, root⟩).errors = []) :
    ∃ fr rd R, LocalWF (gen ⟨true, errs, root⟩).code fr rd R := by
  have hs : sitesOKb (gen ⟨true, errs, root⟩).code = true := WF.sitesOKb_iff.2 (gen_TI' _).sitesOK
  rw [Static.gen_errors_eq] at hE
  rw [GenShape.gen_code] at hs ⊢
  obtain ⟨tb, ab⟩ := walk_gs1 root
  obtain ⟨jb, hname⟩ := GenShape.walk_facts root
  have htop := layoutInv_tree root hsh gs1 [] layoutInv_gs1 (by intro h; cases h)
  generalize genS gs1 root = b at tb ab hname htop jb hE hs ⊢
  obtain ⟨hb0, hmset⟩ := (finish_spec b tb ab).2.2.1 hE
  obtain ⟨rts, g0, hT, seg, hb⟩ := htop hb0
  have hf := pfacts_of_inv hT hb (ab.all_set hb0 hmset)
  have hbhead : b.code[0]? = some (Instr.prepare (-1) (-1) 0) := by
    rw [hb.code, List.getElem?_append_left hT.core.n1]; exact hT.head
  cases hbc : b.code with
  | nil => rw [hbc] at hbhead; cases hbhead
  | cons y tl =>
    rw [hbc] at hbhead hf
    cases hbhead
    obtain ⟨hlen, hcode, hsm⟩ := GenShape.genFin_code hbc jb tb ab hname
    rw [hb.sm, hT.nsm] at hcode
    rw [hsm, hb.sm, ← hname] at hs ⊢
    exact ⟨_, _, _, localWF_of_facts hf (by rw [hlen, hbc, List.length_append, List.length_set]; rfl) hcode hs⟩

theorem gen_certified (errs : List SynErr) (root : Node) (hsh : AstShape root = true)
    (hE : (gen ⟨true, errs, root⟩).errors = []) :
    ∃ c, checkCert (gen ⟨true, errs, root⟩).code c = true := by
  obtain ⟨fr, rd, R, h⟩ := gen_localWF errs root hsh hE
  exact ⟨_, checkCert_of_localWF h⟩

theorem gen_wfCheck (errs : List SynErr) (root : Node) (hsh : AstShape root = true)
    (hE : (gen ⟨true, errs, root⟩).errors = []) : wfCheck (gen ⟨true, errs, root⟩).code = true := by
  obtain ⟨fr, rd, R, h⟩ := gen_localWF errs root hsh hE
  exact wfCheck_of_cert (checkCert_of_localWF h) (calOK_of_localWF h)

end GenWF
end Theo
