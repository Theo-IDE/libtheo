/-
  What SimSiteWalk.lean and SimSiteCheck.lean need of the pieces of `siteCheck`: the site positions of a code
  range (`sitePositions`), `checkValue` at a position and behind the sites in front of it
  (`checkValue_skipc`), and each clause of `sitesStmt` as an iff (`sitesStmt_simple_iff`,
  `sitesStmt_mark_iff`, `sitesStmt_frame`).
-/
import Theo.Proofs.SimSitesPassed

namespace Theo
namespace Sim
open Sem

theorem mem_sitePositions {code : List Instr} {lo hi x : Nat} :
    x ∈ sitePositions code lo hi ↔ lo ≤ x ∧ x < hi ∧ code[x]? = some Instr.potBreak := by
  unfold sitePositions
  rw [List.mem_filterMap]
  constructor
  · rintro ⟨k, hk, h⟩
    rw [List.mem_range] at hk
    split at h
    · rename_i hc
      cases h
      exact ⟨by omega, by omega, hc⟩
    · cases h
  · rintro ⟨h1, h2, h3⟩
    refine ⟨x - lo, by rw [List.mem_range]; omega, ?_⟩
    rw [show lo + (x - lo) = x by omega, if_pos h3]

theorem sitePositions_split (code : List Instr) {lo mid hi : Nat} (h1 : lo ≤ mid) (h2 : mid ≤ hi) :
    sitePositions code lo hi = sitePositions code lo mid ++ sitePositions code mid hi := by
  have e : ∀ k, lo + (mid - lo + k) = mid + k := fun k => by omega
  unfold sitePositions
  rw [show hi - lo = (mid - lo) + (hi - mid) by omega, List.range_add, List.filterMap_append,
    List.filterMap_map]
  simp only [Function.comp_def, e]

theorem sitePositions_nil {code : List Instr} {lo hi : Nat} (h : Clean code lo hi) :
    sitePositions code lo hi = [] := by
  rw [List.eq_nil_iff_forall_not_mem]
  intro x hx
  obtain ⟨h1, h2, h3⟩ := mem_sitePositions.1 hx
  exact h x h1 h2 h3

theorem sitePositions_cons_self (code : List Instr) {lo hi : Nat} (h : code[lo]? = some Instr.potBreak)
    (hlt : lo < hi) : sitePositions code lo hi = lo :: sitePositions code (lo + 1) hi := by
  rw [sitePositions_split code (Nat.le_succ lo) (by omega)]
  congr 1
  unfold sitePositions
  rw [show lo + 1 - lo = 1 by omega]
  simp [h]

theorem sitePositions_head {code : List Instr} {lo hi a : Nat} {t : List Nat}
    (h : sitePositions code lo hi = a :: t) (hlo : code[lo]? = some Instr.potBreak) :
    a = lo ∧ lo < hi ∧ sitePositions code (lo + 1) hi = t := by
  have hmem : a ∈ sitePositions code lo hi := by rw [h]; exact List.mem_cons_self
  obtain ⟨h1, h2, _⟩ := mem_sitePositions.1 hmem
  have hlt : lo < hi := by omega
  rw [sitePositions_cons_self code hlo hlt] at h
  cases h
  exact ⟨rfl, hlt, rfl⟩

theorem sitePositions_head' {code : List Instr} {lo hi : Nat} {t : List Nat}
    (h : sitePositions code lo hi = lo :: t) :
    code[lo]? = some Instr.potBreak ∧ lo < hi ∧ sitePositions code (lo + 1) hi = t := by
  have hmem : lo ∈ sitePositions code lo hi := by rw [h]; exact List.mem_cons_self
  obtain ⟨_, h2, h3⟩ := mem_sitePositions.1 hmem
  obtain ⟨_, _, h4⟩ := sitePositions_head h h3
  exact ⟨h3, h2, h4⟩

theorem clean_of_sites {code : List Instr} {lo mid hi : Nat} {Rl : List Nat}
    (h : sitePositions code lo hi = Rl) (hb : ∀ y ∈ Rl, mid ≤ y) (hm : mid ≤ hi) :
    Clean code lo mid := by
  intro x h1 h2 h3
  have : x ∈ sitePositions code lo hi := mem_sitePositions.2 ⟨h1, by omega, h3⟩
  rw [h] at this
  have := hb x this
  omega

theorem sites_after {code : List Instr} {lo mid hi : Nat} {Rl : List Nat}
    (h : sitePositions code lo hi = Rl) (hb : ∀ y ∈ Rl, mid ≤ y) (h1 : lo ≤ mid) (hm : mid ≤ hi) :
    sitePositions code mid hi = Rl := by
  have hc := clean_of_sites h hb hm
  rw [sitePositions_split code h1 hm, sitePositions_nil hc] at h
  exact h

theorem VEnv.at_skipc (e : VEnv) (pc : Nat) : e.at (skipc e.code pc) = e.at pc := by
  unfold VEnv.at
  rw [skipc_idem]

theorem VEnv.next_skipc (e : VEnv) (pc : Nat) : e.next (skipc e.code pc) = e.next pc := by
  unfold VEnv.next
  rw [skipc_idem]

theorem checkIncDec_skipc (e : VEnv) (y : Name) (k : Nat) (b : Bool) (live : List Int) (pc : Nat) :
    checkIncDec e y k b live (skipc e.code pc) = checkIncDec e y k b live pc := by
  unfold checkIncDec
  simp only [VEnv.at_skipc, VEnv.next_skipc]

theorem checkValue_call_nil_skipc (e : VEnv) (f : Name) (live : List Int) (pc : Nat) :
    checkValue e (.call f .nil) live (skipc e.code pc) = checkValue e (.call f .nil) live pc := by
  simp only [checkValue, checkArgs]
  cases lookupProg e.src f e.routine with
  | none => rfl
  | some jp =>
    obtain ⟨j, pd⟩ := jp
    simp only []
    cases e.infos[j]? with
    | none => rfl
    | some ri => simp only [VEnv.at_skipc, VEnv.next_skipc]

theorem checkArgs_skipc_of {e : VEnv} {a : Value} {pc : Nat}
    (h : ∀ live, checkValue e a live (skipc e.code pc) = checkValue e a live pc) (as : Values)
    (live acc : List Int) :
    checkArgs e (.cons a as) live acc (skipc e.code pc) = checkArgs e (.cons a as) live acc pc := by
  simp only [checkArgs, h]

theorem checkValue_skipc (e : VEnv) : ∀ (v : Value) (live : List Int) (pc : Nat),
    checkValue e v live (skipc e.code pc) = checkValue e v live pc
  | .var y => fun live pc => by simp only [checkValue, VEnv.at_skipc, VEnv.next_skipc]
  | .num n => fun live pc => by simp only [checkValue, VEnv.at_skipc, VEnv.next_skipc]
  | .inc y k => checkIncDec_skipc e y k true
  | .dec y k => checkIncDec_skipc e y k false
  | .call f .nil => checkValue_call_nil_skipc e f
  | .call f (.cons a as) => fun live pc => by
    simp only [checkValue, checkArgs_skipc_of (fun live => checkValue_skipc e a live pc)]

theorem checkArgs_skipc (e : VEnv) : ∀ (a : Value) (as : Values) (live acc : List Int) (pc : Nat),
    checkArgs e (.cons a as) live acc (skipc e.code pc) = checkArgs e (.cons a as) live acc pc
  | a, as, live, acc, pc => checkArgs_skipc_of (fun live => checkValue_skipc e a live pc) as live acc

/-- the local definitions `same`, `afterMark`, `here`, `k'` of `sitesStmt` (Spec/Events.lean) -/
def sameLine (prev : Prev) (s : Stmt) : Bool :=
  match prev with | some (q, _) => q == s.pos | none => false
def afterMk (prev : Prev) : Bool :=
  match prev with | some (_, m) => m | none => false
def hereOf (w : Walk) (k : Nat) (prev : Prev) (s : Stmt) : List ESite :=
  if sameLine prev s then [] else [(w.pc + k, s.pos, markName s)]
def kOf (k : Nat) (prev : Prev) (s : Stmt) : Nat := if sameLine prev s then k else k + 1

/-- the statements of the last branch of `sitesStmt`: one site, then the code `checkStmt` checks -/
def isSimple : Stmt → Bool
  | .assign _ _ _ => true
  | .goto _ _ => true
  | .ifGoto _ _ _ _ => true
  | .stop _ => true
  | _ => false

theorem sitesStmt_unfold (e : VEnv) (s : Stmt) (w : Walk) (k : Nat) (prev : Prev) :
    sitesStmt e s w k prev =
      if (sameLine prev s && (!afterMk prev || isMark s)) = true then none else
      match s with
      | .loop _ _ body _ =>
        (match sitesStmts e body { w with pc := w.pc + kOf k prev s + 2 } 0 (some (s.pos, false)),
            checkStmt e s w with
         | some (lb, _, _, _), some w' =>
           if loopJumpsExact e.code (w.pc + kOf k prev s + 1) (w.pc + kOf k prev s + 1) w'.pc then
             some (hereOf w k prev s ++ lb, w', 0, none) else none
         | _, _ => none)
      | .while_ _ body _ =>
        (match sitesStmts e body { w with pc := w.pc + kOf k prev s + 2 } 0 (some (s.pos, false)),
            checkStmt e s w with
         | some (lb, _, _, _), some w' =>
           if loopJumpsExact e.code (w.pc + kOf k prev s + 1) (w.pc + kOf k prev s) w'.pc then
             some (hereOf w k prev s ++ lb, w', 0, none) else none
         | _, _ => none)
      | .mark _ _ =>
        (match checkStmt e s w with
         | some w' => some (hereOf w k prev s, w', kOf k prev s, some (s.pos, true))
         | none => none)
      | _ =>
        (match checkStmt e s w with
         | some w' => some (hereOf w k prev s, w', 0, some (s.pos, false))
         | none => none) := by
  rw [sitesStmt.eq_def]
  rfl

theorem sitesStmt_guard {e : VEnv} {s : Stmt} {w : Walk} {k : Nat} {prev : Prev}
    {r : List ESite × Walk × Nat × Prev} (h : sitesStmt e s w k prev = some r) :
    (sameLine prev s && (!afterMk prev || isMark s)) = false := by
  rw [sitesStmt_unfold] at h
  by_cases hc : (sameLine prev s && (!afterMk prev || isMark s)) = true
  · rw [if_pos hc] at h; cases h
  · exact Bool.eq_false_iff.2 hc

theorem sitesStmt_ok {e : VEnv} {s : Stmt} {w : Walk} {k : Nat} {prev : Prev}
    {r : List ESite × Walk × Nat × Prev} (h : sitesStmt e s w k prev = some r) :
    (sameLine prev s && !afterMk prev) = false := by
  have := sitesStmt_guard h
  revert this
  cases sameLine prev s <;> cases afterMk prev <;> cases isMark s <;> simp

theorem sitesStmt_simple_iff {e : VEnv} {s : Stmt} (hs : isSimple s = true) {w : Walk} {k : Nat}
    {prev : Prev} {l : List ESite} {w1 : Walk} {k1 : Nat} {prev1 : Prev} :
    sitesStmt e s w k prev = some (l, w1, k1, prev1) ↔
    (sameLine prev s && !afterMk prev) = false ∧ checkStmt e s w = some w1 ∧
      l = hereOf w k prev s ∧ k1 = 0 ∧ prev1 = some (s.pos, false) := by
  have hm : isMark s = false := by cases s <;> first | rfl | cases hs
  constructor
  · intro h
    have hg := sitesStmt_guard h
    rw [sitesStmt_unfold, if_neg (by rw [hg]; exact Bool.false_ne_true)] at h
    rw [hm, Bool.or_false] at hg
    cases s with
    | mark _ _ | loop _ _ _ _ | while_ _ _ _ => cases hs
    | _ =>
      simp only [] at h
      cases hchk : checkStmt e _ w with
      | none => rw [hchk] at h; cases h
      | some w' =>
        rw [hchk] at h
        cases h
        exact ⟨hg, rfl, rfl, rfl, rfl⟩
  · rintro ⟨hc, h, rfl, rfl, rfl⟩
    rw [sitesStmt_unfold, hm, Bool.or_false, hc]
    simp only [Bool.false_eq_true, if_false]
    cases s with
    | mark _ _ | loop _ _ _ _ | while_ _ _ _ => cases hs
    | _ => simp only [h]

theorem sitesStmt_mark_iff {e : VEnv} {m : Name} {q : Pos} {w : Walk} {k : Nat}
    {prev : Prev} {l : List ESite} {w1 : Walk} {k1 : Nat} {prev1 : Prev} :
    sitesStmt e (.mark m q) w k prev = some (l, w1, k1, prev1) ↔
    sameLine prev (.mark m q) = false ∧ w1 = { w with marks := w.marks ++ [(m, w.pc)] } ∧
      l = [(w.pc + k, q, some m)] ∧ k1 = k + 1 ∧ prev1 = some (q, true) := by
  constructor
  · intro h
    have hg := sitesStmt_guard h
    have hsl : sameLine prev (.mark m q) = false := by simpa [isMark] using hg
    rw [sitesStmt_unfold, if_neg (by rw [hg]; exact Bool.false_ne_true)] at h
    simp only [hereOf, kOf, hsl, checkStmt] at h
    cases h
    exact ⟨hsl, rfl, rfl, rfl, rfl⟩
  · rintro ⟨hc, rfl, rfl, rfl, rfl⟩
    rw [sitesStmt_unfold, hc]
    simp only [Bool.false_and, Bool.false_eq_true, if_false, checkStmt, hereOf, kOf, hc]
    rfl

/-- the shape shared by the `loop` and `while` branches of `sitesStmt` -/
theorem sitesLoop_inv {A : Option (List ESite × Walk × Nat × Prev)} {B : Option Walk}
    {J : Walk → Bool} {here l : List ESite} {w1 : Walk} {k1 : Nat} {prev1 : Prev}
    (h : (match A, B with
      | some (lb, _, _, _), some w' => if J w' then some (here ++ lb, w', 0, none) else none
      | _, _ => none) = some (l, w1, k1, prev1)) :
    ∃ lb wb kb pb, A = some (lb, wb, kb, pb) ∧ B = some w1 ∧ J w1 = true ∧
      l = here ++ lb ∧ k1 = 0 ∧ prev1 = none := by
  cases A with
  | none => cases h
  | some r =>
    obtain ⟨lb, wb, kb, pb⟩ := r
    cases B with
    | none => cases h
    | some w' =>
      by_cases hj : J w' = true
      · simp only [hj, if_true] at h
        cases h
        exact ⟨lb, wb, kb, pb, rfl, rfl, hj, rfl, rfl, rfl⟩
      · simp only [hj] at h
        cases h

/-- `st` is the LOOP (`d = 1`) or WHILE (`d = 0`) with this body at this position: the back-edge
    lands `d` instructions behind the header's site -/
inductive Framed : Stmt → Stmts → Pos → Nat → Prop
  | loop (id : Nat) (x : Name) (body : Stmts) (q : Pos) : Framed (.loop id x body q) body q 1
  | while_ (x : Name) (body : Stmts) (q : Pos) : Framed (.while_ x body q) body q 0

theorem sitesStmt_frame {e : VEnv} {st : Stmt} {body : Stmts} {q : Pos} {d : Nat}
    (hf : Framed st body q d) {w : Walk} {k : Nat} {prev : Prev} {l : List ESite} {w1 : Walk}
    {k1 : Nat} {prev1 : Prev} :
    sitesStmt e st w k prev = some (l, w1, k1, prev1) ↔
    (sameLine prev st && !afterMk prev) = false ∧
    ∃ lb wb kb pb, sitesStmts e body { w with pc := w.pc + kOf k prev st + 2 } 0
        (some (q, false)) = some (lb, wb, kb, pb) ∧
      checkStmt e st w = some w1 ∧
      loopJumpsExact e.code (w.pc + kOf k prev st + 1) (w.pc + kOf k prev st + d) w1.pc = true ∧
      l = hereOf w k prev st ++ lb ∧ k1 = 0 ∧ prev1 = none := by
  constructor
  · intro h
    have hok := sitesStmt_ok h
    have hg := sitesStmt_guard h
    rw [sitesStmt_unfold, if_neg (by rw [hg]; exact Bool.false_ne_true)] at h
    cases hf <;> exact ⟨hok, sitesLoop_inv h⟩
  · rintro ⟨hc, lb, wb, kb, pb, hb, h, hj, rfl, rfl, rfl⟩
    rw [sitesStmt_unfold]
    cases hf <;>
    · rw [show isMark _ = false from rfl, Bool.or_false, hc]
      simp only [Bool.false_eq_true, if_false, Stmt.pos, hb, h]
      exact if_pos hj

theorem sitesStmts_cons_iff {e : VEnv} {s : Stmt} {ss : Stmts} {w : Walk} {k : Nat} {prev : Prev}
    {l : List ESite} {w2 : Walk} {k2 : Nat} {prev2 : Prev} :
    sitesStmts e (.cons s ss) w k prev = some (l, w2, k2, prev2) ↔
    ∃ l1 w1 k1 prev1 l2, sitesStmt e s w k prev = some (l1, w1, k1, prev1) ∧
      sitesStmts e ss w1 k1 prev1 = some (l2, w2, k2, prev2) ∧ l = l1 ++ l2 := by
  constructor
  · intro h
    rw [sitesStmts.eq_def] at h
    simp only [] at h
    split at h
    · rename_i l1 w1 k1 prev1 h1
      split at h
      · rename_i l2 w2' k2' prev2' h2
        cases h
        exact ⟨l1, w1, k1, prev1, l2, h1, h2, rfl⟩
      · cases h
    · cases h
  · rintro ⟨l1, w1, k1, prev1, l2, h1, h2, rfl⟩
    rw [sitesStmts.eq_def]
    simp only [h1, h2]

theorem sitesStmts_nil_inv {e : VEnv} {w : Walk} {k : Nat} {prev : Prev}
    {l : List ESite} {w2 : Walk} {k2 : Nat} {prev2 : Prev}
    (h : sitesStmts e .nil w k prev = some (l, w2, k2, prev2)) :
    l = [] ∧ w2 = w ∧ k2 = k ∧ prev2 = prev := by
  rw [sitesStmts.eq_def] at h
  simp only [] at h
  cases h
  exact ⟨rfl, rfl, rfl, rfl⟩

theorem sitesStmt_walk {e : VEnv} {s : Stmt} {w : Walk} {k : Nat} {prev : Prev} {l : List ESite}
    {w1 : Walk} {k1 : Nat} {prev1 : Prev} (h : sitesStmt e s w k prev = some (l, w1, k1, prev1)) :
    checkStmt e s w = some w1 := by
  cases s with
  | assign | goto | ifGoto | stop => exact ((sitesStmt_simple_iff rfl).1 h).2.1
  | mark m q => rw [(sitesStmt_mark_iff.1 h).2.1, checkStmt]
  | loop id x body q =>
    obtain ⟨_, lb, wb, kb, pb, _, h2, _⟩ := (sitesStmt_frame (.loop id x body q)).1 h
    exact h2
  | while_ x body q =>
    obtain ⟨_, lb, wb, kb, pb, _, h2, _⟩ := (sitesStmt_frame (.while_ x body q)).1 h
    exact h2

theorem sitesStmts_walk {e : VEnv} : ∀ {ss : Stmts} {w : Walk} {k : Nat} {prev : Prev}
    {l : List ESite} {w' : Walk} {k' : Nat} {prev' : Prev},
    sitesStmts e ss w k prev = some (l, w', k', prev') → checkStmts e ss w = some w'
  | .nil => fun h => by
    obtain ⟨_, rfl, _, _⟩ := sitesStmts_nil_inv h
    simp only [checkStmts]
  | .cons s ss => fun h => by
    obtain ⟨l1, w1, k1, prev1, l2, h1, h2, _⟩ := sitesStmts_cons_iff.1 h
    simp only [checkStmts, sitesStmt_walk h1]
    exact sitesStmts_walk h2

theorem hereOf_ge {w : Walk} {k : Nat} {prev : Prev} {s : Stmt} : ∀ x ∈ hereOf w k prev s, w.pc ≤ x.1 := by
  intro x hx
  unfold hereOf at hx
  split at hx
  · cases hx
  · rw [List.mem_singleton] at hx
    subst hx
    exact Nat.le_add_right _ _

mutual
theorem sitesStmt_ge {e : VEnv} : ∀ (s : Stmt) {w : Walk} {k : Nat} {prev : Prev} {l : List ESite}
    {w1 : Walk} {k1 : Nat} {prev1 : Prev}, sitesStmt e s w k prev = some (l, w1, k1, prev1) →
    ∀ x ∈ l, w.pc ≤ x.1
  | .assign .. | .goto .. | .ifGoto .. | .stop .. => fun h => by
    rw [((sitesStmt_simple_iff rfl).1 h).2.2.1]; exact hereOf_ge
  | .mark m q => fun h => by
    rw [(sitesStmt_mark_iff.1 h).2.2.1]
    intro x hx
    rw [List.mem_singleton] at hx
    subst hx
    exact Nat.le_add_right _ _
  | .loop id x body q => fun h => by
    obtain ⟨_, lb, wb, kb, pb, hb, _, _, rfl, _, _⟩ := (sitesStmt_frame (.loop id x body q)).1 h
    intro y hy
    rcases List.mem_append.1 hy with hy | hy
    · exact hereOf_ge y hy
    · exact Nat.le_trans (Nat.le_trans (Nat.le_add_right _ _) (Nat.le_add_right _ _))
        (sitesStmts_ge body hb y hy)
  | .while_ x body q => fun h => by
    obtain ⟨_, lb, wb, kb, pb, hb, _, _, rfl, _, _⟩ := (sitesStmt_frame (.while_ x body q)).1 h
    intro y hy
    rcases List.mem_append.1 hy with hy | hy
    · exact hereOf_ge y hy
    · exact Nat.le_trans (Nat.le_trans (Nat.le_add_right _ _) (Nat.le_add_right _ _))
        (sitesStmts_ge body hb y hy)
theorem sitesStmts_ge {e : VEnv} : ∀ (ss : Stmts) {w : Walk} {k : Nat} {prev : Prev} {l : List ESite}
    {w' : Walk} {k' : Nat} {prev' : Prev}, sitesStmts e ss w k prev = some (l, w', k', prev') →
    ∀ x ∈ l, w.pc ≤ x.1
  | .nil => fun h => by
    obtain ⟨rfl, _, _, _⟩ := sitesStmts_nil_inv h
    exact fun x hx => nomatch hx
  | .cons s ss => fun h => by
    obtain ⟨l1, w1, k1, prev1, l2, h1, h2, rfl⟩ := sitesStmts_cons_iff.1 h
    intro x hx
    rcases List.mem_append.1 hx with hx | hx
    · exact sitesStmt_ge s h1 x hx
    · exact Nat.le_trans (checkStmt_pc_le e s _ _ (sitesStmt_walk h1)) (sitesStmts_ge ss h2 x hx)
end

end Sim
end Theo
