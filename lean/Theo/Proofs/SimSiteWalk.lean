/-
  Consuming the expected-site list along the site walk: the exact site-aware position relations
  of a routine body.
-/
import Theo.Proofs.SimMatchT
import Theo.Proofs.SimSiteClauses

namespace Theo
namespace Sim
open Sem

def INV (code : List Instr) (w : Walk) (k : Nat) : Prop :=
  ∀ i, i < k → code[w.pc + i]? = some Instr.potBreak

/-- after a mark, the last site attributed at the walker pc names the mark's line -/
def PrevInv (p : Program) (w : Walk) (k : Nat) (prev : Prev) : Prop :=
  ∀ q, prev = some (q, true) → 1 ≤ k ∧ (p.lineAt ((w.pc + k - 1 : Nat) : Int)).map posOfBp = some q

def σOf (w : Walk) (k : Nat) (prev : Prev) (s : Stmt) : Nat :=
  if sameLine prev s then w.pc + k - 1 else w.pc + k

def cursor (w : Walk) (k : Nat) (prev : Prev) : Stmts → Nat
  | .nil => w.pc + k
  | .cons s _ => σOf w k prev s

/-- what is known when the site walk enters a statement or statement list at `w`, `k`, `prev` and
    leaves it at `w'` with the sites `l`: `l` followed by `post` are the site positions of the
    code from `w.pc + k` up to `hi` -/
structure WalkIn (p : Program) (G : Walk) (hi : Nat) (w : Walk) (k : Nat) (prev : Prev)
    (l : List ESite) (w' : Walk) (post : List Nat) : Prop where
  sub : Sub w' G
  inv : INV p.code w k
  pinv : PrevInv p w k prev
  sp : sitePositions p.code (w.pc + k) hi = l.map (·.1) ++ post
  lb : ∀ y ∈ post, w'.pc ≤ y
  hi : w'.pc < hi
  line : ∀ x ∈ l, (p.lineAt (x.1 : Int)).map posOfBp = some x.2.1

theorem sameLine_eq {prev : Prev} {s : Stmt} (h : sameLine prev s = true)
    (h2 : (sameLine prev s && !afterMk prev) = false) : prev = some (s.pos, true) := by
  rw [h] at h2
  cases prev with
  | none => cases h
  | some qm =>
    obtain ⟨q, m⟩ := qm
    cases m with
    | false => cases h2
    | true => rw [show q = s.pos from beq_iff_eq.1 h]

/-- the site of a statement: its own, or the one of the mark on its line -/
theorem own_site {p : Program} {G : Walk} {hi : Nat} {w : Walk} {k : Nat} {prev : Prev} {s : Stmt}
    {l' : List ESite} {w' : Walk} {post : List Nat}
    (hok : (sameLine prev s && !afterMk prev) = false)
    (hin : WalkIn p G hi w k prev (hereOf w k prev s ++ l') w' post) :
    SiteAt p (σOf w k prev s) s.pos ∧ σOf w k prev s + 1 = w.pc + kOf k prev s ∧
      INV p.code w (kOf k prev s) ∧
      sitePositions p.code (w.pc + kOf k prev s) hi = l'.map (·.1) ++ post := by
  by_cases hs : sameLine prev s = true
  · have hp := sameLine_eq hs hok
    obtain ⟨hk, hl⟩ := hin.pinv _ hp
    have hsp := hin.sp
    unfold hereOf at hsp
    unfold σOf kOf
    rw [if_pos hs] at hsp ⊢
    rw [if_pos hs]
    refine ⟨⟨?_, hl⟩, Nat.sub_add_cancel (Nat.le_trans hk (Nat.le_add_left _ _)), hin.inv, hsp⟩
    rw [Nat.add_sub_assoc hk]
    exact hin.inv (k - 1) (Nat.sub_lt hk Nat.one_pos)
  · have hsp := hin.sp
    have hline := hin.line (w.pc + k, s.pos, markName s) (by
      unfold hereOf; rw [if_neg hs]; exact List.mem_append_left _ (List.mem_singleton.2 rfl))
    unfold hereOf at hsp
    unfold σOf kOf
    rw [if_neg hs] at hsp ⊢
    rw [if_neg hs]
    simp only [List.cons_append, List.nil_append, List.map_cons] at hsp
    obtain ⟨h1, _, h3⟩ := sitePositions_head' hsp
    refine ⟨⟨h1, hline⟩, rfl, ?_, h3⟩
    intro i hi'
    rcases Nat.lt_or_ge i k with h | h
    · exact hin.inv i h
    · obtain rfl : i = k := Nat.le_antisymm (Nat.le_of_lt_succ hi') h
      exact h1

theorem stmt_range {code : List Instr} {hi : Nat} {w : Walk} {k' : Nat} {Rl : List Nat} {mid : Nat}
    (hinv : INV code w k') (hsp : sitePositions code (w.pc + k') hi = Rl)
    (hb : ∀ y ∈ Rl, mid ≤ y) (hmid : mid ≤ hi) (hlt : w.pc + k' < mid) :
    skipc code w.pc = w.pc + k' ∧ Clean code (w.pc + k') mid ∧
      sitePositions code mid hi = Rl := by
  have hcl := clean_of_sites hsp hb hmid
  exact ⟨skipc_eq_of_run hinv (hcl _ (Nat.le_refl _) hlt), hcl,
    sites_after hsp hb (Nat.le_of_lt hlt) hmid⟩

/-- one instruction behind the site `σ`, the last of the `k'` sites at the walker position `w.pc` -/
theorem t1_one {p : Program} {e : VEnv} (he : e.code = p.code) {hi : Nat} {w w1 : Walk} {k' σ : Nat}
    {post : List Nat} (hσ : σ + 1 = w.pc + k') (hinv : INV p.code w k')
    (hsp : sitePositions p.code (w.pc + k') hi = post) (hb : ∀ y ∈ post, w1.pc ≤ y) (hhi : w1.pc < hi)
    {ins : Instr} (h1 : e.at w.pc = some ins) (hw1 : w1.pc = e.next w.pc) :
    skipc p.code w.pc = σ + 1 ∧ p.code[σ + 1]? = some ins ∧ w1.pc = σ + 2 ∧
      sitePositions p.code w1.pc hi = post := by
  rw [hw1, next_code he] at hb hhi ⊢
  obtain ⟨hsk, _, hsp'⟩ := stmt_range hinv hsp hb (Nat.le_of_lt hhi)
    (Nat.lt_succ_of_le (skipc_ge_of_run hinv))
  have h1' := at_code he h1
  rw [← hσ] at hsk
  rw [hsk] at h1' hsp' ⊢
  exact ⟨rfl, h1', rfl, hsp'⟩

structure StmtOut (p : Program) (e : VEnv) (G : Walk) (hi : Nat) (s : Stmt) (w : Walk) (k : Nat)
    (prev : Prev) (l : List ESite) (w1 : Walk) (k1 : Nat) (prev1 : Prev) (post : List Nat) : Prop where
  site : SiteAt p (σOf w k prev s) s.pos
  body : isMark s = false → ∀ nxt, TAt1 p e G s nxt (σOf w k prev s) w1.pc
  ismk : isMark s = true → w1.pc = w.pc ∧ k1 = k + 1 ∧ sameLine prev s = false ∧
    prev1 = some (s.pos, true)
  nmk : isMark s = false → k1 = 0 ∧ afterMk prev1 = false
  sp : sitePositions p.code (w1.pc + k1) hi = post
  inv : INV p.code w1 k1
  pinv : PrevInv p w1 k1 prev1
  lab : ∀ m rest K pcR pcEnd, TAt p e G rest (cursor w1 k1 prev1 rest) pcR →
    TKAt p e G K pcR pcEnd → ∀ ss' K', findLabelStmt m s rest K = some (ss', K') →
    ∃ pm q pcE, (pm, q, some m) ∈ l ∧ TAt p e G ss' pm pcE ∧ TKAt p e G K' pcE pcEnd

structure StmtsOut (p : Program) (e : VEnv) (G : Walk) (hi : Nat) (ss : Stmts) (w : Walk) (k : Nat)
    (prev : Prev) (l : List ESite) (w' : Walk) (k' : Nat) (prev' : Prev) (post : List Nat) : Prop where
  tat : TAt p e G ss (cursor w k prev ss) (w'.pc + k')
  sp : sitePositions p.code (w'.pc + k') hi = post
  inv : INV p.code w' k'
  pinv : PrevInv p w' k' prev'
  lab : ∀ m K pcEnd, TKAt p e G K (w'.pc + k') pcEnd → ∀ ss' K', findLabel m ss K = some (ss', K') →
    ∃ pm q pcE, (pm, q, some m) ∈ l ∧ TAt p e G ss' pm pcE ∧ TKAt p e G K' pcE pcEnd

abbrev StmtOK (p : Program) (e : VEnv) (G : Walk) (hi : Nat) (s : Stmt) : Prop :=
  ∀ {w : Walk} {k : Nat} {prev : Prev} {l : List ESite} {w1 : Walk} {k1 : Nat} {prev1 : Prev}
    {post : List Nat}, sitesStmt e s w k prev = some (l, w1, k1, prev1) →
    WalkIn p G hi w k prev l w1 post → StmtOut p e G hi s w k prev l w1 k1 prev1 post
abbrev StmtsOK (p : Program) (e : VEnv) (G : Walk) (hi : Nat) (ss : Stmts) : Prop :=
  ∀ {w : Walk} {k : Nat} {prev : Prev} {l : List ESite} {w' : Walk} {k' : Nat} {prev' : Prev}
    {post : List Nat}, sitesStmts e ss w k prev = some (l, w', k', prev') →
    WalkIn p G hi w k prev l w' post → StmtsOut p e G hi ss w k prev l w' k' prev' post

theorem cursor_nonmark {e : VEnv} {ss : Stmts} {w : Walk} {prev : Prev} {l : List ESite} {w' : Walk}
    {k' : Nat} {prev' : Prev} (h : sitesStmts e ss w 0 prev = some (l, w', k', prev'))
    (ham : afterMk prev = false) : cursor w 0 prev ss = w.pc := by
  cases ss with
  | nil => rfl
  | cons s ss =>
    obtain ⟨l1, w1, k1, prev1, l2, h1, _, _⟩ := sitesStmts_cons_iff.1 h
    have := sitesStmt_ok h1
    rw [ham] at this
    simp only [Bool.not_false, Bool.and_true] at this
    show σOf w 0 prev s = w.pc
    unfold σOf
    rw [this]
    rfl

theorem cursor_after_mark (w : Walk) (k : Nat) (q : Pos) (ss : Stmts) :
    cursor w (k + 1) (some (q, true)) ss = if ss.headPos = some q then w.pc + k else w.pc + k + 1 := by
  cases ss with
  | nil => rfl
  | cons s ss =>
    show (if (q == s.pos) = true then w.pc + (k + 1) - 1 else w.pc + (k + 1)) =
      if some s.pos = some q then w.pc + k else w.pc + k + 1
    by_cases h : q = s.pos
    · rw [if_pos (beq_iff_eq.2 h), if_pos (congrArg some h.symm)]
      rfl
    · rw [if_neg (fun hb => h (beq_iff_eq.1 hb)), if_neg (fun he => h (Option.some.inj he).symm)]
      rfl

theorem loopJumpsExact_inv {code : List Instr} {jc backTo hi : Nat} {offE s offL : Int}
    (h : loopJumpsExact code jc backTo (hi + 1) = true) (h1 : code[jc]? = some (.jmpc offE s))
    (h2 : code[hi]? = some (.jmp offL)) :
    (jc : Int) + offE = ((hi + 1 : Nat) : Int) ∧ (hi : Int) + offL = (backTo : Int) := by
  unfold loopJumpsExact at h
  rw [Nat.add_sub_cancel, h1, h2] at h
  simpa only [Bool.and_eq_true, decide_eq_true_eq] using h

theorem cursor_none (w : Walk) (ss : Stmts) : cursor w 0 none ss = w.pc := by
  cases ss <;> rfl

section
variable {p : Program} {e : VEnv} (he : e.code = p.code) {G : Walk} {hi : Nat}
include he

/-- what `loop` and `while` share: behind the site come two header instructions `i1`, `i2`, then
    the body, whose walk ends at `wS`; the tail runs from there to `pcT` and holds no site -/
theorem block_out {body : Stmts} {q : Pos}
    (ih : StmtsOK p e G hi body)
    {w : Walk} {k' : Nat} {lb : List ESite} {wb wS : Walk} {kb : Nat} {pb : Prev} {post : List Nat}
    {pcT : Nat} {i1 i2 : Instr}
    (hb : sitesStmts e body { w with pc := w.pc + k' + 2 } 0 (some (q, false)) = some (lb, wb, kb, pb))
    (hbS : checkStmts e body { w with pc := e.next (e.next w.pc) } = some wS)
    (g1 : e.at w.pc = some i1) (g2 : e.at (e.next w.pc) = some i2)
    (hinv : INV p.code w k') (hsp : sitePositions p.code (w.pc + k') hi = lb.map (·.1) ++ post)
    (hsub : Sub wS G) (hline : ∀ x ∈ lb, (p.lineAt (x.1 : Int)).map posOfBp = some x.2.1)
    (hlb : ∀ y ∈ post, pcT ≤ y) (hhi : pcT < hi) (hT : skipc p.code wS.pc < pcT) :
    p.code[w.pc + k']? = some i1 ∧ p.code[w.pc + k' + 1]? = some i2 ∧
    TAt p e G body (w.pc + k' + 2) (wS.pc + kb) ∧
    skipc p.code wS.pc = wS.pc + kb ∧ Clean p.code (wS.pc + kb) pcT ∧
    sitePositions p.code pcT hi = post ∧
    ∀ m K pcEnd, TKAt p e G K (wS.pc + kb) pcEnd → ∀ ss' K', findLabel m body K = some (ss', K') →
      ∃ pm q pcE, (pm, q, some m) ∈ lb ∧ TAt p e G ss' pm pcE ∧ TKAt p e G K' pcE pcEnd := by
  have hA : w.pc + k' + 2 ≤ wS.pc := by
    have m1 : e.next (e.next w.pc) ≤ wS.pc := checkStmts_pc_le e body _ _ hbS
    have hge := skipc_ge_of_run hinv
    have hn0 : e.next w.pc = skipc p.code w.pc + 1 := next_code he _
    have l1 := lt_next e (e.next w.pc)
    omega
  have hB : wS.pc < pcT := Nat.lt_of_le_of_lt (le_skipc p.code wS.pc) hT
  have hbd : ∀ y ∈ lb.map (·.1) ++ post, w.pc + k' + 2 ≤ y := by
    intro y hy
    rcases List.mem_append.1 hy with hy | hy
    · obtain ⟨x', hx', rfl⟩ := List.mem_map.1 hy
      exact sitesStmts_ge body hb x' hx'
    · exact Nat.le_trans hA (Nat.le_trans (Nat.le_of_lt hB) (hlb y hy))
  obtain ⟨hsk, hcl0, hspB⟩ := stmt_range hinv hsp hbd
    (Nat.le_trans hA (Nat.le_of_lt (Nat.lt_trans hB hhi))) (Nat.lt_add_of_pos_right (by decide))
  have n1 : e.next w.pc = w.pc + k' + 1 := by rw [next_code he, hsk]
  have c1 := at_code he g1
  rw [hsk] at c1
  rw [n1] at g2 hbS
  have c2 := at_exact he hcl0 (Nat.le_succ _) (Nat.lt_succ_self _) g2
  rw [next_exact he hcl0 (Nat.le_succ _) (Nat.lt_succ_self _)] at hbS
  obtain rfl : wS = wb := Option.some.inj (hbS.symm.trans (sitesStmts_walk hb))
  have out := ih hb
    { sub := hsub
      inv := fun i hi' => absurd hi' (Nat.not_lt_zero i)
      pinv := fun q' hq' => nomatch hq'
      sp := hspB
      lb := fun y hy => Nat.le_trans (Nat.le_of_lt hB) (hlb y hy)
      hi := Nat.lt_trans hB hhi
      line := hline }
  have htat := out.tat
  rw [cursor_nonmark hb rfl] at htat
  obtain ⟨hskB, hclT, hspE⟩ := stmt_range out.inv out.sp hlb (Nat.le_of_lt hhi)
    (Nat.lt_of_le_of_lt (skipc_ge_of_run out.inv) hT)
  exact ⟨c1, c2, htat, hskB, hclT, hspE, out.lab⟩

theorem loop_out {id : Nat} {x : Name} {body : Stmts} {q : Pos} (ih : StmtsOK p e G hi body) :
    StmtOK p e G hi (.loop id x body q) := by
  intro w k prev l w1 k1 prev1 post h hin
  obtain ⟨hok, lb, wb, kb, pb, hb, hchk, hj, rfl, rfl, rfl⟩ :=
    (sitesStmt_frame (.loop id x body q)).1 h
  obtain ⟨hsite, hσ, hinv', hsp'⟩ := own_site hok hin
  generalize kOf k prev (.loop id x body q) = k' at hb hj hσ hinv' hsp'
  obtain ⟨ctr, rx, offE, offL, wS, g1, g2, g3, g4, hbS, g5, g6, _, _, hw1⟩ := checkStmt_loop_iff.1 hchk
  have hlb := hin.lb
  have hhi := hin.hi
  have hpc : w1.pc = skipc p.code (e.next wS.pc) + 1 := by rw [hw1, he]
  rw [hpc] at hlb hhi hj
  have hnB : e.next wS.pc = skipc p.code wS.pc + 1 := next_code he _
  have l3 := le_skipc p.code (e.next wS.pc)
  obtain ⟨c1, c2, htat, hskB, hclT, hspE, hlab⟩ := block_out he ih hb hbS g3 g4 hinv' hsp'
    (Sub.of_eq (by rw [hw1]) (by rw [hw1]) hin.sub)
    (fun x' hx' => hin.line x' (List.mem_append_right _ hx')) hlb hhi
    (Nat.lt_succ_of_le (Nat.le_trans (Nat.le_of_lt (by rw [hnB]; exact Nat.lt_succ_self _)) l3))
  rw [hnB, hskB] at hclT hpc hj hspE g6
  have hskJ : skipc p.code (wS.pc + kb + 1) = wS.pc + kb + 1 :=
    hclT.skipc (Nat.le_succ _) (Nat.lt_succ_of_le (le_skipc _ _))
  have c3 := at_code he g5
  have c4 := at_code he g6
  rw [hskB] at c3
  rw [hskJ] at c4 hj hspE hpc
  obtain ⟨hjE, hjL⟩ := loopJumpsExact_inv (he ▸ hj) c2 c4
  rw [← hσ] at c1 c2 htat hjE hjL
  refine ⟨hsite, fun _ nxt => ⟨ctr, rx, offE, offL, wS.pc + kb, g1, g2, c1, c2, htat, c3, c4, hjL,
      hjE, hpc⟩, fun hm => (by cases hm), fun _ => ⟨rfl, rfl⟩, by rw [hpc]; exact hspE,
    fun i hi' => absurd hi' (Nat.not_lt_zero i), (fun q' hq' => nomatch hq'), ?_⟩
  intro m rest K pcR pcEnd hrest hK ss' K' hfl
  rw [cursor_none, hpc] at hrest
  obtain ⟨pm, q', pcE, hmem, h1', h2'⟩ := hlab m _ pcEnd
    (show TKAt p e G (.loop id body rest K) (wS.pc + kb) pcEnd from
      ⟨ctr, offE, offL, _, pcR, g1, c2, htat, c3, c4, hjL, hjE, hrest, hK⟩) ss' K' hfl
  exact ⟨pm, q', pcE, List.mem_append_right _ hmem, h1', h2'⟩

theorem while_out {x : Name} {body : Stmts} {q : Pos} (ih : StmtsOK p e G hi body) :
    StmtOK p e G hi (.while_ x body q) := by
  intro w k prev l w1 k1 prev1 post h hin
  obtain ⟨hok, lb, wb, kb, pb, hb, hchk, hj, rfl, rfl, rfl⟩ :=
    (sitesStmt_frame (.while_ x body q)).1 h
  obtain ⟨hsite, hσ, hinv', hsp'⟩ := own_site hok hin
  generalize kOf k prev (.while_ x body q) = k' at hb hj hσ hinv' hsp'
  obtain ⟨rx, tmp, offE, offL, wS, g1, g2, g3, g4, hbS, g5, _, _, hw1⟩ := checkStmt_while_iff.1 hchk
  have hlb := hin.lb
  have hhi := hin.hi
  have hpc : w1.pc = skipc p.code wS.pc + 1 := by rw [hw1, he]
  rw [hpc] at hlb hhi hj
  obtain ⟨c1, c2, htat, hskB, hclT, hspE, hlab⟩ := block_out he ih hb hbS g3 g4 hinv' hsp'
    (Sub.of_eq (by rw [hw1]) (by rw [hw1]) hin.sub)
    (fun x' hx' => hin.line x' (List.mem_append_right _ hx')) hlb hhi (Nat.lt_succ_self _)
  have c3 := at_code he g5
  rw [hskB] at c3 hj hspE hpc
  obtain ⟨hjE, hjL⟩ := loopJumpsExact_inv (he ▸ hj) c2 c3
  rw [← hσ] at c1 c2 htat hjE hjL
  refine ⟨hsite, fun _ nxt => ⟨rx, tmp, offE, offL, wS.pc + kb, g1, g2, c1, c2, htat, c3, hjL, hjE,
      hpc⟩, fun hm => (by cases hm), fun _ => ⟨rfl, rfl⟩, by rw [hpc]; exact hspE,
    fun i hi' => absurd hi' (Nat.not_lt_zero i), (fun q' hq' => nomatch hq'), ?_⟩
  intro m rest K pcR pcEnd hrest hK ss' K' hfl
  rw [cursor_none, hpc] at hrest
  obtain ⟨pm, q', pcE, hmem, h1', h2'⟩ := hlab m _ pcEnd
    (show TKAt p e G (.while_ x body rest K) (wS.pc + kb) pcEnd from
      ⟨rx, tmp, offE, offL, _, pcR, g1, g2, c1, c2, htat, c3, hjL, hjE, hrest, hK⟩) ss' K' hfl
  exact ⟨pm, q', pcE, List.mem_append_right _ hmem, h1', h2'⟩

theorem simple_out {s : Stmt} (hs : isSimple s = true) : StmtOK p e G hi s := by
  intro w k prev l w1 k1 prev1 post h hin
  obtain ⟨hok, hchk, rfl, rfl, rfl⟩ := (sitesStmt_simple_iff hs).1 h
  have hin' : WalkIn p G hi w k prev (hereOf w k prev s ++ []) w1 post := by
    rw [List.append_nil]; exact hin
  obtain ⟨hsite, hσ, hinv, hsp⟩ := own_site hok hin'
  simp only [List.map_nil, List.nil_append] at hsp
  have hb := hin.lb
  have hhi := hin.hi
  have hsub := hin.sub
  generalize hσd : σOf w k prev s = σ at hσ hsite
  generalize kOf k prev s = k' at hσ hinv hsp
  have key : ∀ nxt, TAt1 p e G s nxt σ w1.pc ∧ sitePositions p.code w1.pc hi = post := by
    intro nxt
    cases s with
    | mark m q => cases hs
    | loop id x body q => cases hs
    | while_ x body q => cases hs
    | assign x v pos =>
      obtain ⟨rx, pc1, hcv, hrx, rfl⟩ := checkStmt_assign_iff.1 hchk
      rw [← checkValue_skipc, he] at hcv
      obtain ⟨hsk, hcl, hsp'⟩ := stmt_range hinv hsp hb (Nat.le_of_lt hhi)
        (Nat.lt_of_le_of_lt (skipc_ge_of_run hinv) (checkValue_lt hcv))
      rw [hsk, ← hσ] at hcv
      exact ⟨⟨rx, hrx, hcv, hσ ▸ hcl⟩, hsp'⟩
    | goto m pos =>
      obtain ⟨off, h1, hw1⟩ := checkStmt_goto_iff.1 hchk
      obtain ⟨hsk, c1, hpc, hsp'⟩ := t1_one he hσ hinv hsp hb hhi h1 (by rw [hw1])
      have hg : (skipc e.code w.pc, off, m) ∈ G.gotos :=
        hsub.gotos _ (by rw [hw1]; exact List.mem_append_right _ (List.mem_singleton.2 rfl))
      rw [he, hsk] at hg
      exact ⟨⟨off, c1, hg, hpc⟩, hsp'⟩
    | stop pos =>
      obtain ⟨h1, hw1⟩ := checkStmt_stop_iff.1 hchk
      obtain ⟨_, c1, hpc, hsp'⟩ := t1_one he hσ hinv hsp hb hhi h1 (by rw [hw1])
      exact ⟨⟨c1, hpc⟩, hsp'⟩
    | ifGoto x cst m pos =>
      obtain ⟨rx, t1, t2, t0, off, g1, g2, g3, g4, g5, g6, g7, g8, g9, g10, rfl⟩ :=
        checkStmt_ifGoto_iff.1 hchk
      have hn : e.next w.pc = skipc p.code w.pc + 1 := next_code he _
      have h2 : σ + 1 + 1 ≤ e.next w.pc := by
        rw [hσ, hn]; exact Nat.succ_le_succ (skipc_ge_of_run hinv)
      have hend : σ + 5 ≤ e.next (e.next (e.next (e.next w.pc))) :=
        Nat.succ_le_of_lt (Nat.lt_of_le_of_lt (Nat.succ_le_of_lt (Nat.lt_of_le_of_lt
          (Nat.succ_le_of_lt (Nat.lt_of_le_of_lt h2 (lt_next e _))) (lt_next e _))) (lt_next e _))
      obtain ⟨hsk, hcl, hsp'⟩ := stmt_range (mid := σ + 5) hinv hsp
        (fun y hy => Nat.le_trans hend (hb y hy)) (Nat.le_trans hend (Nat.le_of_lt hhi))
        (hσ ▸ Nat.add_lt_add_left (by decide) σ)
      rw [← hσ] at hsk hcl
      have n1 : e.next w.pc = σ + 2 := by rw [hn, hsk]
      have lo : ∀ {i}, 1 ≤ i → σ + 1 ≤ σ + i := fun h => Nat.add_le_add_left h σ
      have up : ∀ {i}, i < 5 → σ + i < σ + 5 := fun h => Nat.add_lt_add_left h σ
      have n2 : e.next (σ + 2) = σ + 3 := next_exact he hcl (lo (by decide)) (up (by decide))
      have n3 : e.next (σ + 3) = σ + 4 := next_exact he hcl (lo (by decide)) (up (by decide))
      have n4 : e.next (σ + 4) = σ + 5 := next_exact he hcl (lo (by decide)) (up (by decide))
      rw [n1] at g4
      rw [n1, n2] at g8
      rw [n1, n2, n3] at g10 hsub ⊢
      rw [n4]
      have c1 := at_code he g2
      rw [hsk] at c1
      have c2 := at_exact he hcl (lo (by decide)) (up (by decide)) g4
      have c3 := at_exact he hcl (lo (by decide)) (up (by decide)) g8
      have c4 := at_exact he hcl (lo (by decide)) (up (by decide)) g10
      have hg : (skipc e.code (σ + 4), off, m) ∈ G.gotos :=
        hsub.gotos _ (List.mem_append_right _ (List.mem_singleton.2 rfl))
      rw [he, hcl.skipc (lo (by decide)) (up (by decide))] at hg
      exact ⟨⟨rx, t1, t2, t0, off, g1, c1, g3, c2, g5, g6, g7, c3, g9, c4, hg, rfl⟩, hsp'⟩
  have hnm : isMark s = false := by cases s <;> first | rfl | cases hs
  subst hσd
  refine ⟨hsite, fun _ nxt => (key nxt).1, fun hm => (by rw [hnm] at hm; cases hm),
    fun _ => ⟨rfl, rfl⟩, (key none).2, fun i hi' => absurd hi' (Nat.not_lt_zero i),
    fun q' hq' => (by cases hq'), ?_⟩
  intro m rest K pcR pcEnd _ _ ss' K' hfl
  cases s <;> first | (simp only [findLabelStmt] at hfl; cases hfl) | cases hs

end

section
variable {p : Program} {e : VEnv} (he : e.code = p.code) {G : Walk} {hi : Nat}

theorem mark_out {m0 : Name} {q : Pos} : StmtOK p e G hi (.mark m0 q) := by
  intro w k prev l w1 k1 prev1 post h hin
  obtain ⟨hsl, rfl, rfl, rfl, rfl⟩ := sitesStmt_mark_iff.1 h
  have hin' : WalkIn p G hi w k prev (hereOf w k prev (.mark m0 q) ++ [])
      { w with marks := w.marks ++ [(m0, w.pc)] } post := by
    rw [List.append_nil]
    unfold hereOf
    rw [hsl]
    exact hin
  obtain ⟨hsite, hσ, hinv', hsp'⟩ := own_site (by rw [hsl]; rfl) hin'
  have hk' : kOf k prev (.mark m0 q) = k + 1 := by unfold kOf; rw [hsl]; rfl
  have hσ' : σOf w k prev (.mark m0 q) = w.pc + k := by unfold σOf; rw [hsl]; rfl
  rw [hk'] at hinv' hsp'
  simp only [List.map_nil, List.nil_append] at hsp'
  refine ⟨hsite, fun hm => (by cases hm), fun _ => ⟨rfl, rfl, hsl, rfl⟩, fun hm => (by cases hm),
    hsp', hinv', ?_, ?_⟩
  · intro q' hq'
    cases hq'
    have := hsite.2
    rw [hσ'] at this
    exact ⟨Nat.succ_pos k, this⟩
  · intro m rest K pcR pcEnd hrest hK ss' K' hfl
    simp only [findLabelStmt] at hfl
    split at hfl
    · rename_i hm
      subst hm
      cases hfl
      rw [cursor_after_mark] at hrest
      exact ⟨w.pc + k, q, pcR, List.mem_singleton.2 rfl, ⟨hσ' ▸ hsite, _, rfl, hrest⟩, hK⟩
    · cases hfl

theorem cons_out {s : Stmt} {ss : Stmts} (ih1 : StmtOK p e G hi s) (ih2 : StmtsOK p e G hi ss) :
    StmtsOK p e G hi (.cons s ss) := by
  intro w k prev l w' k' prev' post h hin
  obtain ⟨l1, w1, k1, prev1, l2, h1, h2, rfl⟩ := sitesStmts_cons_iff.1 h
  have hwalk2 := sitesStmts_walk h2
  have hmono := checkStmts_mono e ss _ _ hwalk2
  have hle2 := checkStmts_pc_le e ss _ _ hwalk2
  have hin1 : WalkIn p G hi w k prev l1 w1 (l2.map (·.1) ++ post) :=
    { sub := hmono.trans hin.sub
      inv := hin.inv
      pinv := hin.pinv
      sp := by have := hin.sp; rwa [List.map_append, List.append_assoc] at this
      lb := by
        intro y hy
        rcases List.mem_append.1 hy with hy | hy
        · obtain ⟨x', hx', rfl⟩ := List.mem_map.1 hy
          exact sitesStmts_ge ss h2 x' hx'
        · exact Nat.le_trans hle2 (hin.lb y hy)
      hi := Nat.lt_of_le_of_lt hle2 hin.hi
      line := fun x' hx' => hin.line x' (List.mem_append_left _ hx') }
  have o1 := ih1 h1 hin1
  have hin2 : WalkIn p G hi w1 k1 prev1 l2 w' post :=
    { sub := hin.sub, inv := o1.inv, pinv := o1.pinv, sp := o1.sp, lb := hin.lb, hi := hin.hi
      line := fun x' hx' => hin.line x' (List.mem_append_right _ hx') }
  have o2 := ih2 h2 hin2
  have hT : ∃ pc', TAt1 p e G s ss.headPos (σOf w k prev s) pc' ∧ pc' = cursor w1 k1 prev1 ss := by
    by_cases hm : isMark s = true
    · obtain ⟨g1, g2, g3, g4⟩ := o1.ismk hm
      cases s with
      | mark m0 q =>
        subst g2 g4
        refine ⟨_, ?_, rfl⟩
        show cursor w1 (k + 1) (some (q, true)) ss = _
        rw [cursor_after_mark, g1, show σOf w k prev (.mark m0 q) = w.pc + k by
          unfold σOf; rw [g3]; rfl]
      | _ => cases hm
    · have hm' : isMark s = false := by simpa using hm
      obtain ⟨g1, g2⟩ := o1.nmk hm'
      subst g1
      exact ⟨w1.pc, o1.body hm' _, (cursor_nonmark h2 g2).symm⟩
  obtain ⟨pc', hT1, hpc'⟩ := hT
  have htat2 := o2.tat
  rw [← hpc'] at htat2
  refine ⟨?_, o2.sp, o2.inv, o2.pinv, ?_⟩
  · show TAt p e G (.cons s ss) (σOf w k prev s) _
    simp only [TAt]
    exact ⟨o1.site, pc', hT1, htat2⟩
  · intro m K pcEnd hK ss' K' hfl
    simp only [findLabel] at hfl
    cases hf : findLabelStmt m s ss K with
    | some r =>
      rw [hf] at hfl
      simp only [] at hfl
      cases hfl
      obtain ⟨pm, q', pcE, hmem, a1, a2⟩ := o1.lab m ss K _ pcEnd o2.tat hK _ _ hf
      exact ⟨pm, q', pcE, List.mem_append_left _ hmem, a1, a2⟩
    | none =>
      rw [hf] at hfl
      simp only [] at hfl
      obtain ⟨pm, q', pcE, hmem, a1, a2⟩ := o2.lab m K pcEnd hK _ _ hfl
      exact ⟨pm, q', pcE, List.mem_append_right _ hmem, a1, a2⟩

theorem nil_out : StmtsOK p e G hi .nil := by
  intro w k prev l w' k' prev' post h hin
  obtain ⟨rfl, rfl, rfl, rfl⟩ := sitesStmts_nil_inv h
  refine ⟨by simp only [TAt, cursor], by simpa using hin.sp, hin.inv, hin.pinv, ?_⟩
  intro m K pcEnd _ ss' K' hfl
  simp only [findLabel] at hfl
  cases hfl

include he

-- `he` reaches `consume_stmts` through the recursion only, which the linter does not see
set_option linter.unusedSectionVars false

mutual
theorem consume_stmt : ∀ (s : Stmt) {w : Walk} {k : Nat} {prev : Prev} {l : List ESite} {w1 : Walk}
    {k1 : Nat} {prev1 : Prev} {post : List Nat},
    sitesStmt e s w k prev = some (l, w1, k1, prev1) → WalkIn p G hi w k prev l w1 post →
    StmtOut p e G hi s w k prev l w1 k1 prev1 post
  | .assign .. | .goto .. | .ifGoto .. | .stop .. => simple_out he rfl
  | .mark _ _ => mark_out
  | .loop _ _ body _ => loop_out he (consume_stmts body)
  | .while_ _ body _ => while_out he (consume_stmts body)
theorem consume_stmts : ∀ (ss : Stmts) {w : Walk} {k : Nat} {prev : Prev} {l : List ESite}
    {w' : Walk} {k' : Nat} {prev' : Prev} {post : List Nat},
    sitesStmts e ss w k prev = some (l, w', k', prev') → WalkIn p G hi w k prev l w' post →
    StmtsOut p e G hi ss w k prev l w' k' prev' post
  | .nil => nil_out
  | .cons s ss => cons_out (consume_stmt s) (consume_stmts ss)
end

end

end Sim
end Theo
