/-
  Executing the code of values and calls on the VM, at the level of the register file of the top
  activation: single instructions at exact positions (`x_*`, `Run 0 1`) and behind the sites the
  VM is anchored at (`r_*`, `Run S 1`), then values and calls.  `S` bounds the sites in front of
  each instruction executed: any bound of the code's runs of sites (`SiteBound`) for the counted
  simulation, `0` inside a range without sites for the simulation with events.
-/
import Theo.Proofs.SimMatch
import Theo.Proofs.SemRules

namespace Theo
namespace Sim
open Sem WF InvB

structure Pres (vm vm' : VM) (a : Act) (ts : List Int) : Prop where
  stack : vm'.stack = vm.stack
  other : ∀ r w, r ∉ ts → Holds vm.data a r w → Holds vm'.data a r w
  below : SameBelow a.dataStart vm.data vm'.data

theorem Pres.refl (vm : VM) (a : Act) (ts : List Int) : Pres vm vm a ts :=
  ⟨rfl, fun _ _ _ h => h, SameBelow.refl _ _⟩

theorem Pres.of_eq {vm vm' : VM} (a : Act) (ts : List Int) (hs : vm'.stack = vm.stack)
    (hd : vm'.data = vm.data) : Pres vm vm' a ts :=
  ⟨hs, fun _ _ _ h => by rw [hd]; exact h, by rw [hd]; exact SameBelow.refl _ _⟩

theorem Pres.trans {vm vm' vm'' : VM} {a : Act} {ts1 ts2 : List Int} (h1 : Pres vm vm' a ts1)
    (h2 : Pres vm' vm'' a ts2) : Pres vm vm'' a (ts1 ++ ts2) :=
  ⟨h2.stack.trans h1.stack,
   fun r w hr h => h2.other r w (fun hh => hr (List.mem_append_right _ hh))
     (h1.other r w (fun hh => hr (List.mem_append_left _ hh)) h),
   h1.below.trans h2.below⟩

theorem Pres.weaken {vm vm' : VM} {a : Act} {ts ts' : List Int} (h : Pres vm vm' a ts)
    (hsub : ∀ t ∈ ts, t ∈ ts') : Pres vm vm' a ts' :=
  ⟨h.stack, fun r w hr hh => h.other r w (fun hm => hr (hsub r hm)) hh, h.below⟩

theorem Pres.of_set {vm vm' : VM} {a : Act} {t : Int} {v : Int} (hs : vm'.stack = vm.stack)
    (hd : vm'.data = vm.data.set (a.dataStart + t.toNat) v) (h0 : 0 ≤ t) : Pres vm vm' a [t] := by
  refine ⟨hs, fun r w hr h => ?_, ?_⟩
  · rw [hd]
    exact h.set_other v (fun he => hr (by rw [he]; exact List.mem_singleton.2 rfl)) h0
  · rw [hd]
    exact SameBelow.set _ _ (by omega)

section
variable {src : Source} {p : Program} {V : Valid src p} {c : Cert} {R : PcInfo}
  (hc : CertOK p c R) (hV : V.OK)
include hc hV

-- the proof does not need `hc`
set_option linter.unusedSectionVars false in
theorem actmap_regs {j : Nat} (hj : j ≤ src.progs.length) {a : Act} (ham : ActMap p a)
    (hdbg : a.dbg = (j : Int)) :
    ∀ r nm, (r, nm) ∈ (V.ri j).regs → 0 ≤ r ∧ r < a.segSize := by
  obtain ⟨hm, h0⟩ := ham
  unfold mapOK at hm
  rw [Bool.and_eq_true, decide_eq_true_eq] at hm
  obtain ⟨sm, hsm, hregs⟩ := hV.regs j hj
  have hd : a.dbg.toNat = j := by rw [hdbg]; exact Int.toNat_natCast j
  simp only [hd, hsm] at hm
  intro r nm hmem
  rw [hregs] at hmem
  have := regOK_iff.1 (List.all_eq_true.1 hm.2 _ hmem)
  exact ⟨this.1, by rw [← Int.toNat_of_nonneg h0]; exact this.2⟩

end

section
variable {p : Program} {c : Cert} {R : PcInfo}

theorem Good.top_in {vm : VM} (hg : Good p c R.rid vm) {a : Act} {rest : List Act}
    (hst : vm.stack = a :: rest) : a.dataStart + a.segSize.toNat = vm.data.length := by
  have := hg.tiles
  rw [hst] at this
  exact this.2.1

theorem at_code {e : VEnv} (he : e.code = p.code) {pc : Nat} {ins : Instr} (h : e.at pc = some ins) :
    p.code[skipc p.code pc]? = some ins := by
  unfold VEnv.at at h
  rwa [he] at h

theorem next_code {e : VEnv} (he : e.code = p.code) (pc : Nat) : e.next pc = skipc p.code pc + 1 := by
  unfold VEnv.next
  rw [he]

theorem env_infos {src : Source} {V : Valid src p} (hV : V.OK) {r j : Nat} {ri : RInfo}
    (h : (V.env r).infos[j]? = some ri) : j < r ∧ (r ≤ src.progs.length → ri = V.ri j) := by
  have h' : (V.infos.take r)[j]? = some ri := h
  rw [List.getElem?_take] at h'
  split at h'
  · rename_i hlt
    refine ⟨hlt, fun hr => ?_⟩
    rw [hV.info j (by omega)] at h'
    cases h'
    rfl
  · cases h'

/-- the number of instructions of a value computed without a call -/
def scost : Value → Nat
  | .var _ => 1
  | .num _ => 1
  | .inc _ _ => 3
  | .dec _ _ => 3
  | .call _ _ => 0

theorem SimpleVal.scost_pos {env : Env} {v : Value} {n : Nat} (h : SimpleVal env v n) :
    0 < scost v := by
  cases h <;> exact Nat.succ_pos _

def FrameInit (d : List Int) (a : Act) (vs : List Nat) : Prop :=
  ∀ r : Nat, (r : Int) < a.segSize → d[a.dataStart + r]? = some ((((vs[r]?).getD 0 : Nat)) : Int)

theorem FrameInit.fresh (d : List Int) (cnt tgt ra dbg : Int) :
    FrameInit (d ++ List.replicate cnt.toNat 0) ⟨d.length, cnt, tgt, ra, dbg⟩ [] := by
  intro r hr
  have hr' : (r : Int) < cnt := hr
  rw [List.getElem?_append_right (Nat.le_add_right _ _), Nat.add_sub_cancel_left,
    List.getElem?_replicate, if_pos (by omega)]
  rfl

theorem FrameInit.snoc {d : List Int} {a : Act} {done : List Nat} (h : FrameInit d a done) (v : Nat)
    (hlt : a.dataStart + done.length < d.length) :
    FrameInit (d.set (a.dataStart + done.length) (v : Int)) a (done ++ [v]) := by
  intro r hr
  by_cases hri : r = done.length
  · subst hri
    rw [List.getElem?_set_self hlt, List.getElem?_append_right (Nat.le_refl _), Nat.sub_self]
    rfl
  · rw [List.getElem?_set_ne (by omega), h r hr]
    by_cases hlt : r < done.length
    · rw [List.getElem?_append_left hlt]
    · rw [List.getElem?_eq_none (by omega), List.getElem?_eq_none (by simp; omega)]

theorem HoldAll.le {d : List Int} {a : Act} : ∀ {temps : List Int} {vals : List Nat},
    HoldAll (Holds d a) temps vals → ∀ v ∈ vals, v ≤ WORD_MAX := by
  intro temps
  induction temps with
  | nil =>
    intro vals h v hv
    have := h.1
    cases vals with
    | nil => cases hv
    | cons _ _ => simp at this
  | cons t ts ih =>
    intro vals h v hv
    cases vals with
    | nil => cases hv
    | cons w ws =>
      obtain ⟨h1, h2⟩ := h.cons_inv
      rcases List.mem_cons.1 hv with rfl | hv
      · exact h1.2.2.2
      · exact ih h2 v hv

theorem Holds.rd {d : List Int} {a : Act} {r : Int} {n : Nat} (h : Holds d a r n) :
    rd d ((a.dataStart : Int) + r) = .ok (n : Int) := by
  obtain ⟨h0, _, h2, _⟩ := h
  refine rd_eq (by omega) ?_
  rwa [show ((a.dataStart : Int) + r).toNat = a.dataStart + r.toNat by omega]

theorem Pres.after {vm vm1 vm' : VM} {a : Act} {ts : List Int} (h : Pres vm1 vm' a ts)
    (hs : vm1.stack = vm.stack) (hd : vm1.data = vm.data) : Pres vm vm' a ts :=
  (Pres.of_eq a [] hs hd).trans h

theorem Pres.of_write {vm vm' : VM} {a : Act} {t : Int} {m : Nat} (hs : vm'.stack = vm.stack)
    (hd : vm'.data = vm.data.set (a.dataStart + t.toNat) (m : Int)) (h0 : 0 ≤ t)
    (h1 : t < a.segSize) (hl : a.dataStart + a.segSize.toNat ≤ vm.data.length)
    (hm : m ≤ WORD_MAX) : Pres vm vm' a [t] ∧ Holds vm'.data a t m :=
  ⟨Pres.of_set hs hd h0, hd ▸ Holds.set_same h0 h1 hl hm⟩

section
variable (hc : CertOK p c R) {vm : VM} (hg : Good p c R.rid vm) {a : Act} {rest : List Act}
  (hst : vm.stack = a :: rest) {pc : Nat} (hip : vm.ip = (pc : Int))
include hc hg hip

theorem x_jmp {off : Int} (hins : p.code[pc]? = some (.jmp off)) :
    ∃ vm', Run 0 1 vm vm' ∧ Good p c R.rid vm' ∧ vm'.ip = (pc : Int) + off ∧
      vm'.stack = vm.stack ∧ vm'.data = vm.data := by
  obtain ⟨h1, h2⟩ := hg.run1 hc hip hins rfl .jmp
  exact ⟨_, h1, h2, by show vm.ip + off = _; rw [hip], rfl, rfl⟩

include hst

theorem x_add {t s k : Int} (hins : p.code[pc]? = some (.add t s k)) {n m : Nat}
    (hs : Holds vm.data a s n) (hm : addClamp (n : Int) k = (m : Int)) (hle : m ≤ WORD_MAX) :
    0 ≤ t ∧ t < a.segSize ∧
    ∃ vm', Run 0 1 vm vm' ∧ Good p c R.rid vm' ∧ vm'.ip = ((pc + 1 : Nat) : Int) ∧
      Pres vm vm' a [t] ∧ Holds vm'.data a t m := by
  obtain ⟨I, hk, _, hseg, hn⟩ := hg.chk_top hc hst hip hins
  cases hk with | add hp ht _ _ =>
  obtain ⟨t0, t1, tl⟩ := reg_lt ht (hseg hp) hn
  obtain ⟨h1, h2⟩ := hg.run1 hc hip hins rfl (.add hst hs.rd (wr_eq' _ t0 tl))
  exact ⟨t0, t1, _, h1, h2, by show vm.ip + 1 = _; rw [hip]; rfl,
    Pres.of_write rfl (congrArg _ hm) t0 t1 hn hle⟩

theorem x_const {t k : Int} (hins : p.code[pc]? = some (.const t k)) :
    0 ≤ t ∧ t < a.segSize ∧
    ∃ vm', Run 0 1 vm vm' ∧ Good p c R.rid vm' ∧ vm'.ip = ((pc + 1 : Nat) : Int) ∧
      Pres vm vm' a [t] ∧ ∀ m : Nat, k = (m : Int) → m ≤ WORD_MAX → Holds vm'.data a t m := by
  obtain ⟨I, hk, _, hseg, hn⟩ := hg.chk_top hc hst hip hins
  cases hk with | const hp ht _ =>
  obtain ⟨t0, t1, tl⟩ := reg_lt ht (hseg hp) hn
  obtain ⟨h1, h2⟩ := hg.run1 hc hip hins rfl (.const hst (wr_eq' k t0 tl))
  refine ⟨t0, t1, _, h1, h2, by show vm.ip + 1 = _; rw [hip]; rfl, Pres.of_set rfl rfl t0, ?_⟩
  rintro m rfl hle
  exact Holds.set_same t0 t1 hn hle

theorem x_test {t x y : Int} (hins : p.code[pc]? = some (.test t x y)) {n1 n2 : Nat}
    (hx : Holds vm.data a x n1) (hy : Holds vm.data a y n2) :
    0 ≤ t ∧ t < a.segSize ∧
    ∃ vm', Run 0 1 vm vm' ∧ Good p c R.rid vm' ∧ vm'.ip = ((pc + 1 : Nat) : Int) ∧
      Pres vm vm' a [t] ∧ Holds vm'.data a t (if n1 = n2 then 0 else 1) := by
  obtain ⟨I, hk, _, hseg, hn⟩ := hg.chk_top hc hst hip hins
  cases hk with | test hp ht _ _ _ =>
  obtain ⟨t0, t1, tl⟩ := reg_lt ht (hseg hp) hn
  obtain ⟨h1, h2⟩ := hg.run1 hc hip hins rfl (.test hst hx.rd hy.rd (wr_eq' _ t0 tl))
  have hval : (if (n1 : Int) = (n2 : Int) then (0 : Int) else 1) =
      (((if n1 = n2 then 0 else 1 : Nat)) : Int) := by
    simp only [Int.natCast_inj]
    split <;> rfl
  exact ⟨t0, t1, _, h1, h2, by show vm.ip + 1 = _; rw [hip]; rfl,
    Pres.of_write rfl (congrArg _ hval) t0 t1 hn (by split <;> decide)⟩

theorem x_jmpc {off s : Int} (hins : p.code[pc]? = some (.jmpc off s)) {n : Nat}
    (hs : Holds vm.data a s n) :
    ∃ vm', Run 0 1 vm vm' ∧ Good p c R.rid vm' ∧
      vm'.ip = (if n = 0 then (pc : Int) + off else ((pc + 1 : Nat) : Int)) ∧
      vm'.stack = vm.stack ∧ vm'.data = vm.data := by
  obtain ⟨h1, h2⟩ := hg.run1 hc hip hins rfl (.jmpc hst hs.rd)
  refine ⟨_, h1, h2, ?_, rfl, rfl⟩
  show (if (n : Int) = 0 then vm.ip + off else vm.ip + 1) = _
  rw [hip]
  simp only [Int.natCast_eq_zero]
  rfl

theorem x_prepare {cnt idx tgt : Int} (hins : p.code[pc]? = some (.prepare cnt idx tgt)) :
    ∃ vm', Run 0 1 vm vm' ∧ Good p c R.rid vm' ∧ vm'.ip = ((pc + 1 : Nat) : Int) ∧
      vm'.stack = ⟨vm.data.length, cnt, tgt, -1, idx⟩ :: a :: rest ∧
      SameBelow vm.data.length vm.data vm'.data ∧
      FrameInit vm'.data ⟨vm.data.length, cnt, tgt, -1, idx⟩ [] := by
  obtain ⟨h1, h2⟩ := hg.run1 hc hip hins rfl .prepare
  exact ⟨_, h1, h2, by show vm.ip + 1 = _; rw [hip]; rfl, congrArg _ hst,
    SameBelow.append _ _ (Nat.le_refl _), FrameInit.fresh _ _ _ _ _⟩

theorem x_exec {entry : Int} (hins : p.code[pc]? = some (.exec entry)) :
    ∃ vm', Run 0 1 vm vm' ∧ Good p c R.rid vm' ∧ vm'.ip = entry ∧
      vm'.stack = { a with retAddr := ((pc + 1 : Nat) : Int) } :: rest ∧ vm'.data = vm.data := by
  obtain ⟨h1, h2⟩ := hg.run1 hc hip hins rfl (.exec hst)
  exact ⟨_, h1, h2, rfl, by show { a with retAddr := vm.ip + 1 } :: rest = _; rw [hip]; rfl, rfl⟩

/-- `t := s; if t = 0 jump`: the test at a loop head -/
theorem x_copy_jmpc {t s off : Int} (h1 : p.code[pc]? = some (.add t s 0))
    (h2 : p.code[pc + 1]? = some (.jmpc off t)) {n : Nat} (hs : Holds vm.data a s n) :
    ∃ vm', Run 0 2 vm vm' ∧ Good p c R.rid vm' ∧
      vm'.ip = (if n = 0 then ((pc + 1 : Nat) : Int) + off else ((pc + 2 : Nat) : Int)) ∧
      Pres vm vm' a [t] ∧ Holds vm'.data a t n := by
  obtain ⟨_, _, vm2, s2, g2, ip2, p2, hh2⟩ :=
    x_add hc hg hst hip h1 hs (clamp_zero hs.2.2.2) hs.2.2.2
  obtain ⟨vm3, s3, g3, ip3, st3, d3⟩ := x_jmpc hc g2 (p2.stack.trans hst) ip2 h2 hh2
  exact ⟨vm3, s2.trans s3, g3, ip3, p2.trans (.of_eq a [] st3 d3), d3 ▸ hh2⟩

end

theorem x_arg (hc : CertOK p c R) {vm : VM} (hg : Good p c R.rid vm) {callee a : Act}
    {rest : List Act} (hst : vm.stack = callee :: a :: rest) {pc : Nat} (hip : vm.ip = (pc : Int))
    {t : Int} {done : List Nat} (hins : p.code[pc]? = some (.arg (done.length : Int) t)) {v : Nat}
    (hv : Holds vm.data a t v) (hfi : FrameInit vm.data callee done) :
    ∃ vm', Run 0 1 vm vm' ∧ Good p c R.rid vm' ∧ vm'.ip = ((pc + 1 : Nat) : Int) ∧
      vm'.stack = vm.stack ∧ SameBelow callee.dataStart vm.data vm'.data ∧
      FrameInit vm'.data callee (done ++ [v]) := by
  obtain ⟨I, hk, hs, ht⟩ := hg.chk hc hst hip hins
  cases hk with | arg hp hk _ _ =>
  obtain ⟨_, _, _, hca, _⟩ := pend_of hs hp hst
  rw [hst] at ht
  obtain ⟨i0, i1, il⟩ := reg_lt hk hca (Nat.le_of_eq ht.2.1)
  rw [Int.toNat_natCast] at il
  obtain ⟨h1, h2⟩ := hg.run1 hc hip hins rfl (.arg hst hv.rd (wr_eq' _ i0 il))
  exact ⟨_, h1, h2, by show vm.ip + 1 = _; rw [hip]; rfl, rfl,
    SameBelow.set _ _ (Nat.le_add_right _ _), hfi.snoc v il⟩

theorem Holds.ret_same {d : List Int} {b : Act} {rt : Int} {n N : Nat} (h0 : 0 ≤ rt)
    (h1 : rt < b.segSize) (hN : b.dataStart + b.segSize.toNat ≤ N) (hl : N ≤ d.length)
    (hn : n ≤ WORD_MAX) : Holds ((d.set (b.dataStart + rt.toNat) (n : Int)).take N) b rt n :=
  (Holds.set_same h0 h1 (Nat.le_trans hN hl) hn).below hN (SameBelow.take _ (Nat.le_refl N))

theorem Holds.ret_other {d : List Int} {b : Act} {rt r' : Int} {w N : Nat} (v : Int)
    (h : Holds d b r' w) (hne : r' ≠ rt) (h0 : 0 ≤ rt)
    (hN : b.dataStart + b.segSize.toNat ≤ N) :
    Holds ((d.set (b.dataStart + rt.toNat) v).take N) b r' w :=
  (h.set_other v hne h0).below hN (SameBelow.take _ (Nat.le_refl N))

theorem x_ret (hc : CertOK p c R) {vm : VM} (hg : Good p c R.rid vm) {a b : Act} {rest : List Act}
    (hst : vm.stack = a :: b :: rest) {pc : Nat} (hip : vm.ip = (pc : Int)) {s : Int}
    (hins : p.code[pc]? = some (.ret s)) {n : Nat} (hs : Holds vm.data a s n) :
    ∃ vm', Run 0 1 vm vm' ∧ Good p c R.rid vm' ∧ vm'.ip = a.retAddr ∧ vm'.stack = b :: rest ∧
      Holds vm'.data b a.retTarget n ∧
      (∀ r w, r ≠ a.retTarget → Holds vm.data b r w → Holds vm'.data b r w) ∧
      SameBelow b.dataStart vm.data vm'.data := by
  obtain ⟨I, hk, hso, ht⟩ := hg.chk hc hst hip hins
  cases hk with | ret hp _ _ =>
  obtain ⟨a', rest0, h, _, _, hch⟩ := hso.1 hp
  rw [hst] at h ht
  cases h
  obtain ⟨J, _, _, hbs, _, hrt0, hrt1, _, _⟩ := hch
  obtain ⟨ha, hab, hb⟩ := tiles_two ht
  obtain ⟨_, r1, rl⟩ := reg_lt (regOK_iff.2 ⟨hrt0, hrt1⟩) hbs hb
  obtain ⟨h1, h2⟩ := hg.run1 hc hip hins rfl (.ret hst hs.rd (wr_eq' _ hrt0 rl))
  refine ⟨_, h1, h2, rfl, rfl,
    Holds.ret_same hrt0 r1 (Nat.le_of_eq hab) (ha ▸ Nat.le_add_right _ _) hs.2.2.2,
    fun r w hne hw => Holds.ret_other _ hw hne hrt0 (Nat.le_of_eq hab),
    (SameBelow.set _ _ (Nat.le_add_right _ _)).trans (SameBelow.take _ (hab ▸ Nat.le_add_right _ _))⟩

theorem Anch.lt_next {e : VEnv} (he : e.code = p.code) {ip : Int} {pc : Nat}
    (ha : Anch p.code ip pc) : ip.toNat < e.next pc := by
  rw [next_code he, ← ha.2]
  exact Nat.lt_succ_of_le (le_skipc _ _)

section
variable (hc : CertOK p c R) {e : VEnv} (he : e.code = p.code) {vm : VM} (hg : Good p c R.rid vm)
  {a : Act} {rest : List Act} (hst : vm.stack = a :: rest) {pc : Nat} (ha : Anch p.code vm.ip pc)
  {S : Nat} (hS : skipc p.code pc ≤ vm.ip.toNat + S)
include hc he hg hst ha hS

theorem r_add {t s k : Int} (hins : e.at pc = some (.add t s k)) {n m : Nat}
    (hs : Holds vm.data a s n) (hm : addClamp (n : Int) k = (m : Int)) (hle : m ≤ WORD_MAX) :
    0 ≤ t ∧ t < a.segSize ∧
    ∃ vm', Run S 1 vm vm' ∧ Good p c R.rid vm' ∧ vm'.ip = ((e.next pc : Nat) : Int) ∧
      Pres vm vm' a [t] ∧ Holds vm'.data a t m := by
  obtain ⟨vm1, s1, g1, ip1, st1, d1⟩ := to_anchor hc hg ha hS
  obtain ⟨h0, h1, vm2, s2, g2, ip2, p2, hh⟩ :=
    x_add hc g1 (st1.trans hst) ip1 (at_code he hins) (d1 ▸ hs) hm hle
  exact ⟨h0, h1, vm2, s1.then s2, g2, next_code he pc ▸ ip2, p2.after st1 d1, hh⟩

theorem r_const {t k : Int} (hins : e.at pc = some (.const t k)) :
    0 ≤ t ∧ t < a.segSize ∧
    ∃ vm', Run S 1 vm vm' ∧ Good p c R.rid vm' ∧ vm'.ip = ((e.next pc : Nat) : Int) ∧
      Pres vm vm' a [t] ∧ ∀ m : Nat, k = (m : Int) → m ≤ WORD_MAX → Holds vm'.data a t m := by
  obtain ⟨vm1, s1, g1, ip1, st1, d1⟩ := to_anchor hc hg ha hS
  obtain ⟨h0, h1, vm2, s2, g2, ip2, p2, hh⟩ := x_const hc g1 (st1.trans hst) ip1 (at_code he hins)
  exact ⟨h0, h1, vm2, s1.then s2, g2, next_code he pc ▸ ip2, p2.after st1 d1, hh⟩

theorem r_test {t x y : Int} (hins : e.at pc = some (.test t x y)) {n1 n2 : Nat}
    (hx : Holds vm.data a x n1) (hy : Holds vm.data a y n2) :
    0 ≤ t ∧ t < a.segSize ∧
    ∃ vm', Run S 1 vm vm' ∧ Good p c R.rid vm' ∧ vm'.ip = ((e.next pc : Nat) : Int) ∧
      Pres vm vm' a [t] ∧ Holds vm'.data a t (if n1 = n2 then 0 else 1) := by
  obtain ⟨vm1, s1, g1, ip1, st1, d1⟩ := to_anchor hc hg ha hS
  obtain ⟨h0, h1, vm2, s2, g2, ip2, p2, hh⟩ :=
    x_test hc g1 (st1.trans hst) ip1 (at_code he hins) (d1 ▸ hx) (d1 ▸ hy)
  exact ⟨h0, h1, vm2, s1.then s2, g2, next_code he pc ▸ ip2, p2.after st1 d1, hh⟩

theorem r_jmpc {off s : Int} (hins : e.at pc = some (.jmpc off s)) {n : Nat}
    (hs : Holds vm.data a s n) :
    ∃ vm', Run S 1 vm vm' ∧ Good p c R.rid vm' ∧
      vm'.ip = (if n = 0 then ((skipc p.code pc : Nat) : Int) + off else ((e.next pc : Nat) : Int)) ∧
      vm'.stack = vm.stack ∧ vm'.data = vm.data := by
  obtain ⟨vm1, s1, g1, ip1, st1, d1⟩ := to_anchor hc hg ha hS
  obtain ⟨vm2, s2, g2, ip2, st2, d2⟩ :=
    x_jmpc hc g1 (st1.trans hst) ip1 (at_code he hins) (d1 ▸ hs)
  exact ⟨vm2, s1.then s2, g2, next_code he pc ▸ ip2, st2.trans st1, d2.trans d1⟩

theorem r_copy_jmpc {t s off : Int} (h1 : e.at pc = some (.add t s 0))
    (h2 : e.at (e.next pc) = some (.jmpc off t)) (hS2 : skipc p.code (e.next pc) ≤ e.next pc + S)
    {n : Nat} (hs : Holds vm.data a s n) :
    ∃ vm', Run S 2 vm vm' ∧ Good p c R.rid vm' ∧
      vm'.ip = (if n = 0 then ((skipc p.code (e.next pc) : Nat) : Int) + off
                else ((e.next (e.next pc) : Nat) : Int)) ∧
      Pres vm vm' a [t] ∧ Holds vm'.data a t n := by
  obtain ⟨_, _, vm1, s1, g1, ip1, p1, hh1⟩ :=
    r_add hc he hg hst ha hS h1 hs (clamp_zero hs.2.2.2) hs.2.2.2
  obtain ⟨vm2, s2, g2, ip2, st2, d2⟩ :=
    r_jmpc hc he g1 (p1.stack.trans hst) (.of_eq ip1) (by rw [ip1]; exact hS2) h2 hh1
  exact ⟨vm2, s1.trans s2, g2, ip2, p1.trans (.of_eq a [] st2 d2), d2 ▸ hh1⟩

end

theorem r_jmp (hc : CertOK p c R) {vm : VM} (hg : Good p c R.rid vm) {pc : Nat}
    (ha : Anch p.code vm.ip pc) {S : Nat} (hS : skipc p.code pc ≤ vm.ip.toNat + S) {off : Int}
    (hins : p.code[skipc p.code pc]? = some (.jmp off)) :
    ∃ vm', Run S 1 vm vm' ∧ Good p c R.rid vm' ∧ vm'.ip = ((skipc p.code pc : Nat) : Int) + off ∧
      vm'.stack = vm.stack ∧ vm'.data = vm.data := by
  obtain ⟨vm1, s1, g1, ip1, st1, d1⟩ := to_anchor hc hg ha hS
  obtain ⟨vm2, s2, g2, ip2, st2, d2⟩ := x_jmp hc g1 ip1 hins
  exact ⟨vm2, s1.then s2, g2, ip2, st2.trans st1, d2.trans d1⟩

theorem skips_run (hc : CertOK p c R) {S n pc pcF : Nat} (hs : SkipsS p.code S n pc pcF) :
    ∀ {vm : VM}, Good p c R.rid vm → vm.ip = (pc : Int) →
    ∃ vm', Run S n vm vm' ∧ Good p c R.rid vm' ∧ vm'.ip = (pcF : Int) ∧ vm'.stack = vm.stack ∧
      vm'.data = vm.data := by
  induction hs with
  | refl pc => exact fun hg ha => ⟨_, .refl _, hg, ha, rfl, rfl⟩
  | jump hb h1 h2 _ ih =>
    intro vm hg ha
    obtain ⟨vm1, s1, g1, ip1, st1, d1⟩ := r_jmp hc hg (.of_eq ha) (by rw [ha]; exact hb) h1
    obtain ⟨vm2, s2, g2, a2, st2, d2⟩ := ih g1 (ip1.trans h2)
    exact ⟨vm2, (s1.trans s2).cast (Nat.add_comm _ _), g2, a2, st2.trans st1, d2.trans d1⟩

/-- `y + k` / `y - k`: copy `y`, load the constant, add — the `ADD` carries `k` as its immediate,
    so the register the `CONST` loads is never read -/
theorem eval_incdec (hc : CertOK p c R) {e : VEnv} (he : e.code = p.code) {vm : VM}
    (hg : Good p c R.rid vm) {a : Act} {rest : List Act} (hst : vm.stack = a :: rest) {pc : Nat}
    (ha : Anch p.code vm.ip pc) {env : Env} {ctrs : Ctrs} (hfo : FrameOK vm.data a e.me env ctrs)
    {y : Name} {k : Nat} {isInc : Bool} {live : List Int} {tgt : Int} {pc' : Nat}
    (hcv : checkIncDec e y k isInc live pc = some (tgt, pc')) {S : Nat}
    (hS : SiteBoundIn p.code S vm.ip.toNat pc') {m : Nat}
    (hm : env.get y ≤ WORD_MAX →
      addClamp (env.get y : Int) (if isInc then (k : Int) else -(k : Int)) = (m : Int) ∧
        m ≤ WORD_MAX) :
    ∃ vm' ts, Run S 3 vm vm' ∧ Good p c R.rid vm' ∧ vm'.ip = (pc' : Int) ∧
      Pres vm vm' a (tgt :: ts) ∧ Holds vm'.data a tgt m ∧ ∀ t ∈ ts, tempOK e live t = true := by
  obtain ⟨ry, t1, t2, c2, h1, h2, ht1, h3, ht2, hne, h4, hk, _, rfl⟩ := checkIncDec_iff.1 hcv
  have hy := hfo.reg h1
  have l0 := ha.lt_next he
  have l1 := lt_next e (e.next pc)
  have l2 := lt_next e (e.next (e.next pc))
  obtain ⟨_, _, vm1, s1, g1, ip1, p1, hh1⟩ :=
    r_add hc he hg hst ha (hS.anch ha (Nat.le_refl _) (Nat.lt_trans l0 (Nat.lt_trans l1 l2))) h2 hy
      (clamp_zero hy.2.2.2) hy.2.2.2
  have st1 := p1.stack.trans hst
  obtain ⟨_, _, vm2, s2, g2, ip2, p2, _⟩ :=
    r_const hc he g1 st1 (.of_eq ip1) (hS.at ip1 (Nat.le_of_lt l0) (Nat.lt_trans l1 l2)) h3
  have hh2 : Holds vm2.data a t1 (env.get y) :=
    p2.other _ _ (fun h => hne (List.mem_singleton.1 h).symm) hh1
  obtain ⟨_, _, vm3, s3, g3, ip3, p3, hh3⟩ :=
    r_add hc he g2 (p2.stack.trans st1) (.of_eq ip2)
      (hS.at ip2 (Nat.le_of_lt (Nat.lt_trans l0 l1)) l2) h4 hh2
      (hm hy.2.2.2).1 (hm hy.2.2.2).2
  refine ⟨vm3, [t1, t2], (s1.trans s2).trans s3, g3, ip3,
    ((p1.trans p2).trans p3).weaken (by simp), hh3, ?_⟩
  intro t ht
  rcases List.mem_cons.1 ht with rfl | ht
  · exact ht1
  · rw [List.mem_singleton.1 ht]; exact ht2

theorem eval_simple (hc : CertOK p c R) {e : VEnv} (he : e.code = p.code) {vm : VM}
    (hg : Good p c R.rid vm) {a : Act} {rest : List Act} (hst : vm.stack = a :: rest) {pc : Nat}
    (ha : Anch p.code vm.ip pc) {env : Env} {ctrs : Ctrs} (hfo : FrameOK vm.data a e.me env ctrs)
    {v : Value} {live : List Int} {tgt : Int} {pc' : Nat}
    (hcv : checkValue e v live pc = some (tgt, pc')) {S : Nat}
    (hS : SiteBoundIn p.code S vm.ip.toNat pc') {n : Nat} (hv : SimpleVal env v n) :
    ∃ vm' ts, Run S (scost v) vm vm' ∧ Good p c R.rid vm' ∧ vm'.ip = (pc' : Int) ∧
      Pres vm vm' a (tgt :: ts) ∧ Holds vm'.data a tgt n ∧ ∀ t ∈ ts, tempOK e live t = true := by
  cases hv with
  | var y =>
    obtain ⟨ry, h1, h2, _, rfl⟩ := checkValue_var_iff.1 hcv
    have hy := hfo.reg h1
    obtain ⟨_, _, vm', s1, g1, ip1, p1, hh⟩ :=
      r_add hc he hg hst ha (hS.anch ha (Nat.le_refl _) (ha.lt_next he)) h2 hy
        (clamp_zero hy.2.2.2) hy.2.2.2
    exact ⟨vm', [], s1, g1, ip1, p1, hh, fun _ h => nomatch h⟩
  | num n =>
    obtain ⟨h2, hn, _, rfl⟩ := checkValue_num_iff.1 hcv
    obtain ⟨_, _, vm', s1, g1, ip1, p1, hh⟩ :=
      r_const hc he hg hst ha (hS.anch ha (Nat.le_refl _) (ha.lt_next he)) h2
    exact ⟨vm', [], s1, g1, ip1, p1, hh n rfl (Nat.le_of_lt hn), fun _ h => nomatch h⟩
  | inc y k =>
    simp only [checkValue] at hcv
    exact eval_incdec hc he hg hst ha hfo hcv hS (fun _ => ⟨clamp_inc, addSat_le _ _⟩)
  | dec y k =>
    simp only [checkValue] at hcv
    exact eval_incdec hc he hg hst ha hfo hcv hS
      (fun h => ⟨clamp_dec h, Nat.le_trans (Nat.sub_le _ _) h⟩)

theorem arg_loop (hc : CertOK p c R) {e : VEnv} (he : e.code = p.code) {callee a : Act}
    {rest : List Act} {S pc2 : Nat} : ∀ (temps : List Int) (vals : List Nat) (pc : Nat) (vm : VM)
    (done : List Nat), Good p c R.rid vm → vm.stack = callee :: a :: rest → vm.ip = (pc : Int) →
    SiteBoundIn p.code S pc pc2 →
    checkArgInstrs e temps done.length pc = some pc2 → HoldAll (Holds vm.data a) temps vals →
    FrameInit vm.data callee done →
    ∃ vm', Run S temps.length vm vm' ∧ Good p c R.rid vm' ∧ vm'.ip = (pc2 : Int) ∧
      vm'.stack = vm.stack ∧
      SameBelow callee.dataStart vm.data vm'.data ∧ FrameInit vm'.data callee (done ++ vals) := by
  intro temps
  induction temps with
  | nil =>
    intro vals pc vm done hg hst hip hS hchk hh hfi
    obtain rfl : vals = [] := List.length_eq_zero_iff.1 hh.1.symm
    obtain rfl : pc = pc2 := Option.some.inj hchk
    exact ⟨vm, .refl _, hg, hip, rfl, SameBelow.refl _ _, by rwa [List.append_nil]⟩
  | cons t ts ih =>
    intro vals pc vm done hg hst hip hS hchk hh hfi
    cases vals with
    | nil => exact absurd hh.1 (by simp)
    | cons v vs =>
      obtain ⟨hv, hh'⟩ := hh.cons_inv
      obtain ⟨h1, h2⟩ := checkArgInstrs_cons hchk
      have hlt := Nat.lt_of_lt_of_le (lt_next e pc) (checkArgInstrs_le h2)
      obtain ⟨vm1, s1, g1, ip1, st1, d1⟩ :=
        to_anchor hc hg (.of_eq hip) (hS.at hip (Nat.le_refl _) hlt)
      obtain ⟨vm2, s2, g2, ip2, st2, sb2, fi2⟩ :=
        x_arg hc g1 (st1.trans hst) ip1 (at_code he h1) (d1 ▸ hv) (d1 ▸ hfi)
      rw [d1] at sb2
      have hsum := hg.tiles
      rw [hst] at hsum
      obtain ⟨vm3, s3, g3, ip3, st3, sb3, fi3⟩ :=
        ih vs (e.next pc) vm2 (done ++ [v]) g2 ((st2.trans st1).trans hst) (next_code he pc ▸ ip2)
          (hS.mono (Nat.le_of_lt (lt_next e pc)) (Nat.le_refl _))
          (by rw [List.length_append]; exact h2)
          (hh'.mono (fun t _ n hn => hn.below (Nat.le_of_eq hsum.2.2.2.1) sb2)) fi2
      rw [List.append_assoc] at fi3
      exact ⟨vm3, ((s1.then s2).trans s3).cast (Nat.add_comm _ _), g3, ip3,
        (st3.trans st2).trans st1, sb2.trans sb3, fi3⟩

theorem doCall_eq {src : Source} (fr : Frame) (rest : List Frame) {f : Name} {vals : List Nat}
    {j : Nat} {pd : ProgDef} (h1 : lookupProg src f fr.routine = some (j, pd))
    (h2 : pd.params.length = vals.length) :
    doCall src fr rest f vals =
      ⟨⟨j, bindParams pd.params vals [], [], pd.body, .done, .run⟩ :: fr :: rest, .running⟩ := by
  unfold doCall
  simp only [h1]
  rw [if_pos h2]

/-- `PREPARE; ARG*; EXEC`: 2 + the number of arguments instructions -/
theorem do_call {src : Source} {V : Valid src p} (hc : CertOK p c R) (hV : V.OK) {r : Nat}
    (hr : r ≤ src.progs.length) {vm : VM} (hg : Good p c R.rid vm) {a : Act} {rest : List Act}
    (hst : vm.stack = a :: rest) {pc1 : Nat} (ha : Anch p.code vm.ip pc1) {f : Name}
    {live temps : List Int} {tgt : Int} {pc' : Nat}
    (hct : CallTail (V.env r) f live temps pc1 tgt pc') {S : Nat}
    (hS : SiteBoundIn p.code S vm.ip.toNat pc') {vals : List Nat}
    (hh : HoldAll (Holds vm.data a) temps vals) :
    ∃ j pd, lookupProg src f r = some (j, pd) ∧ j < r ∧ src.progs[j]? = some pd ∧
      pd.params.length = vals.length ∧
      ∃ vm' callee, Run S (vals.length + 2) vm vm' ∧ Good p c R.rid vm' ∧
        vm'.ip = ((V.start j : Nat) : Int) ∧
        vm'.stack = callee :: a :: rest ∧ callee.retAddr = (pc' : Int) ∧ callee.retTarget = tgt ∧
        callee.dbg = (j : Int) ∧ SameBelow vm.data.length vm.data vm'.data ∧
        FrameOK vm'.data callee (V.ri j) (bindParams pd.params vals []) [] := by
  have he : (V.env r).code = p.code := rfl
  obtain ⟨j, pd, ri, cnt, pc2, h1, h2, h3, h4, _, h6, h7, rfl⟩ := hct
  obtain ⟨hjr, hpd⟩ := lookupProg_spec h1
  obtain rfl := (env_infos hV h2).2 hr
  have hjn : j < src.progs.length := Nat.lt_of_lt_of_le hjr hr
  have hjl := Nat.le_of_lt hjn
  have hmi : ((V.ri j).mi : Int) = j := by rw [hV.mi j hjl]
  refine ⟨j, pd, h1, hjr, hpd, by rw [h3, hh.1], ?_⟩
  have l0 := ha.lt_next he
  have l1 := checkArgInstrs_le h6
  have l2 := lt_next (V.env r) pc2
  obtain ⟨vm1, s1, g1, ip1, st1, d1⟩ :=
    to_anchor hc hg ha (hS.anch ha (Nat.le_refl _) (Nat.lt_of_lt_of_le l0 (Nat.le_trans l1 (Nat.le_of_lt l2))))
  obtain ⟨vm2, s2, g2, ip2, st2, sb2, fi2⟩ := x_prepare hc g1 (st1.trans hst) ip1 (at_code he h4)
  rw [d1] at st2 sb2 fi2
  obtain ⟨vm3, s3, g3, ip3, st3, sb3, fi3⟩ :=
    arg_loop hc he temps vals _ vm2 [] g2 st2 (next_code he pc1 ▸ ip2)
      (hS.mono (Nat.le_of_lt l0) (Nat.le_of_lt l2)) h6
      (hh.mono (fun t _ n hn => hn.below (Nat.le_of_eq (hg.top_in hst)) sb2)) fi2
  rw [st2] at st3
  obtain ⟨vm4, s4, g4, ip4, st4, d4⟩ :=
    to_anchor hc g3 (.of_eq ip3) (hS.at ip3 (Nat.le_trans (Nat.le_of_lt l0) l1) l2)
  obtain ⟨vm5, s5, g5, ip5, st5, d5⟩ := x_exec hc g4 (st4.trans st3) ip4 (at_code he h7)
  rw [d4] at d5
  refine ⟨vm5, _, (((s1.then s2).trans s3).trans (s4.then s5)).cast (by rw [hh.1]; omega), g5,
    by rw [ip5, hV.entry j hjn], st5, congrArg _ (next_code he pc2).symm, rfl, hmi,
    by rw [d5]; exact sb2.trans sb3, ?_⟩
  obtain ⟨pd', ro, q1, q2, _, _⟩ := hV.rout j hjn
  obtain rfl := Option.some.inj (hpd.symm.trans q1)
  have ham := winv_actMap g5.winv _ (by rw [st5]; exact List.mem_cons_self)
  exact callee_frameOK (hV.nodup j hjl) q2 (by rw [h3, hh.1]) hh.le (by rw [d5]; exact fi3)
    (actmap_regs hc hV hjl ham hmi)

/-! The same under one bound for the whole code, counted in `SC`. -/

section
variable {S : Nat} (hS : SiteBound p.code S)
include hS

theorem r_add_c (hc : CertOK p c R) {vm : VM} (hg : Good p c R.rid vm) {a : Act} {rest : List Act}
    (hst : vm.stack = a :: rest) {pc : Nat} (ha : Anch p.code vm.ip pc) {t s k : Int}
    (hins : p.code[skipc p.code pc]? = some (.add t s k)) {n m : Nat} (hs : Holds vm.data a s n)
    (hm : addClamp (n : Int) k = (m : Int)) (hle : m ≤ WORD_MAX) :
    0 ≤ t ∧ t < a.segSize ∧
    ∃ vm', SC S 1 vm vm' ∧ Good p c R.rid vm' ∧ vm'.ip = ((skipc p.code pc + 1 : Nat) : Int) ∧
      Pres vm vm' a [t] ∧ Holds vm'.data a t m := by
  obtain ⟨vm1, s1, g1, ip1, st1, d1⟩ := to_anchor_c hS hc hg ha
  obtain ⟨h0, h1, vm2, s2, g2, ip2, p2, hh⟩ :=
    x_add hc g1 (st1.trans hst) ip1 hins (d1 ▸ hs) hm hle
  exact ⟨h0, h1, vm2, (s1.then s2).sc, g2, ip2, p2.after st1 d1, hh⟩

theorem r_const_c (hc : CertOK p c R) {vm : VM} (hg : Good p c R.rid vm) {a : Act} {rest : List Act}
    (hst : vm.stack = a :: rest) {pc : Nat} (ha : Anch p.code vm.ip pc) {t k : Int}
    (hins : p.code[skipc p.code pc]? = some (.const t k)) :
    0 ≤ t ∧ t < a.segSize ∧
    ∃ vm', SC S 1 vm vm' ∧ Good p c R.rid vm' ∧ vm'.ip = ((skipc p.code pc + 1 : Nat) : Int) ∧
      Pres vm vm' a [t] ∧ ∀ m : Nat, k = (m : Int) → m ≤ WORD_MAX → Holds vm'.data a t m := by
  obtain ⟨vm1, s1, g1, ip1, st1, d1⟩ := to_anchor_c hS hc hg ha
  obtain ⟨h0, h1, vm2, s2, g2, ip2, p2, hh⟩ := x_const hc g1 (st1.trans hst) ip1 hins
  exact ⟨h0, h1, vm2, (s1.then s2).sc, g2, ip2, p2.after st1 d1, hh⟩

theorem r_test_c (hc : CertOK p c R) {vm : VM} (hg : Good p c R.rid vm) {a : Act} {rest : List Act}
    (hst : vm.stack = a :: rest) {pc : Nat} (ha : Anch p.code vm.ip pc) {t x y : Int}
    (hins : p.code[skipc p.code pc]? = some (.test t x y)) {n1 n2 : Nat}
    (hx : Holds vm.data a x n1) (hy : Holds vm.data a y n2) :
    0 ≤ t ∧ t < a.segSize ∧
    ∃ vm', SC S 1 vm vm' ∧ Good p c R.rid vm' ∧ vm'.ip = ((skipc p.code pc + 1 : Nat) : Int) ∧
      Pres vm vm' a [t] ∧ Holds vm'.data a t (if n1 = n2 then 0 else 1) := by
  obtain ⟨vm1, s1, g1, ip1, st1, d1⟩ := to_anchor_c hS hc hg ha
  obtain ⟨h0, h1, vm2, s2, g2, ip2, p2, hh⟩ :=
    x_test hc g1 (st1.trans hst) ip1 hins (d1 ▸ hx) (d1 ▸ hy)
  exact ⟨h0, h1, vm2, (s1.then s2).sc, g2, ip2, p2.after st1 d1, hh⟩

theorem r_jmp_c (hc : CertOK p c R) {vm : VM} (hg : Good p c R.rid vm) {pc : Nat}
    (ha : Anch p.code vm.ip pc) {off : Int} (hins : p.code[skipc p.code pc]? = some (.jmp off)) :
    ∃ vm', SC S 1 vm vm' ∧ Good p c R.rid vm' ∧ vm'.ip = ((skipc p.code pc : Nat) : Int) + off ∧
      vm'.stack = vm.stack ∧ vm'.data = vm.data := by
  obtain ⟨vm', s, r⟩ := r_jmp hc hg ha (hS.anch ha) hins
  exact ⟨vm', s.sc, r⟩

theorem r_jmpc_c (hc : CertOK p c R) {vm : VM} (hg : Good p c R.rid vm) {a : Act} {rest : List Act}
    (hst : vm.stack = a :: rest) {pc : Nat} (ha : Anch p.code vm.ip pc) {off s : Int}
    (hins : p.code[skipc p.code pc]? = some (.jmpc off s)) {n : Nat} (hs : Holds vm.data a s n) :
    ∃ vm', SC S 1 vm vm' ∧ Good p c R.rid vm' ∧
      vm'.ip = (if n = 0 then ((skipc p.code pc : Nat) : Int) + off
                else ((skipc p.code pc + 1 : Nat) : Int)) ∧
      vm'.stack = vm.stack ∧ vm'.data = vm.data := by
  obtain ⟨vm1, s1, g1, ip1, st1, d1⟩ := to_anchor_c hS hc hg ha
  obtain ⟨vm2, s2, g2, ip2, st2, d2⟩ := x_jmpc hc g1 (st1.trans hst) ip1 hins (d1 ▸ hs)
  exact ⟨vm2, (s1.then s2).sc, g2, ip2, st2.trans st1, d2.trans d1⟩

theorem eval_simple_c (hc : CertOK p c R) {e : VEnv} (he : e.code = p.code) {vm : VM}
    (hg : Good p c R.rid vm) {a : Act} {rest : List Act} (hst : vm.stack = a :: rest) {pc : Nat}
    (ha : Anch p.code vm.ip pc) {env : Env} {ctrs : Ctrs} (hfo : FrameOK vm.data a e.me env ctrs)
    {v : Value} {live : List Int} {tgt : Int} {pc' : Nat}
    (hcv : checkValue e v live pc = some (tgt, pc')) {n : Nat} (hv : SimpleVal env v n) :
    ∃ vm' ts, SC S (scost v) vm vm' ∧ Good p c R.rid vm' ∧ vm'.ip = (pc' : Int) ∧
      Pres vm vm' a (tgt :: ts) ∧ Holds vm'.data a tgt n ∧ ∀ t ∈ ts, tempOK e live t = true := by
  obtain ⟨vm', ts, s, r⟩ := eval_simple hc he hg hst ha hfo hcv (hS.within _ _) hv
  exact ⟨vm', ts, s.sc, r⟩

theorem do_call_c {src : Source} {V : Valid src p} (hc : CertOK p c R) (hV : V.OK) {r : Nat}
    (hr : r ≤ src.progs.length) {vm : VM} (hg : Good p c R.rid vm) {a : Act} {rest : List Act}
    (hst : vm.stack = a :: rest) {pc1 : Nat} (ha : Anch p.code vm.ip pc1) {f : Name}
    {live temps : List Int} {tgt : Int} {pc' : Nat}
    (hct : CallTail (V.env r) f live temps pc1 tgt pc') {vals : List Nat}
    (hh : HoldAll (Holds vm.data a) temps vals) :
    ∃ j pd, lookupProg src f r = some (j, pd) ∧ j < r ∧ src.progs[j]? = some pd ∧
      pd.params.length = vals.length ∧
      ∃ vm' callee, SC S (vals.length + 2) vm vm' ∧ Good p c R.rid vm' ∧
        vm'.ip = ((V.start j : Nat) : Int) ∧
        vm'.stack = callee :: a :: rest ∧ callee.retAddr = (pc' : Int) ∧ callee.retTarget = tgt ∧
        callee.dbg = (j : Int) ∧ SameBelow vm.data.length vm.data vm'.data ∧
        FrameOK vm'.data callee (V.ri j) (bindParams pd.params vals []) [] := by
  obtain ⟨j, pd, h1, h2, h3, h4, vm', callee, s, r⟩ :=
    do_call hc hV hr hg hst ha hct (hS.within _ _) hh
  exact ⟨j, pd, h1, h2, h3, h4, vm', callee, s.sc, r⟩

end

end

end Sim
end Theo
