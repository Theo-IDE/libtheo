/-
  C04 (static rules): the generator's primitives as far as the verdict depends on them.
  `Quiet gs gs'` = nothing the verdict depends on changed (errors may only have grown, the
  backpatch list stays valid because every instruction that is no site stays where it is:
  `CodeSafe`); the label/mark bookkeeping (`MarksWF`, `mstate`,
  `LabAcc`, `TodoOK`) and what `markLabel`, `setLabel`, `createLabel`, `popSymbols` do to it.
  Last, what `backpatch` makes of one instruction (`GenShape.patch`).
-/
import Theo.Spec.Static
import Theo.Proofs.Order
import Theo.Proofs.GenWalk
import Theo.Proofs.SortedList

namespace Theo
namespace Static
open GS

@[simp] theorem err_errors (gs : GS) (k : Nat) : (gs.err k).errors = gs.errors ++ [⟨k, gs.fsName, gs.fsLine⟩] := rfl
@[simp] theorem err_funcAddrs (gs : GS) (k : Nat) : (gs.err k).funcAddrs = gs.funcAddrs := rfl
@[simp] theorem err_labels (gs : GS) (k : Nat) : (gs.err k).labels = gs.labels := rfl
@[simp] theorem err_todo (gs : GS) (k : Nat) : (gs.err k).todo = gs.todo := rfl
@[simp] theorem err_code (gs : GS) (k : Nat) : (gs.err k).code = gs.code := rfl
@[simp] theorem err_symbols (gs : GS) (k : Nat) : (gs.err k).symbols = gs.symbols := rfl
@[simp] theorem err_top (gs : GS) (k : Nat) : (gs.err k).top = gs.top := rfl

theorem err_ne_nil (gs : GS) (k : Nat) : (gs.err k).errors ≠ [] := by simp

@[simp] theorem emit_errors (gs : GS) (i : Instr) : (gs.emit i).errors = gs.errors := rfl
@[simp] theorem emit_funcAddrs (gs : GS) (i : Instr) : (gs.emit i).funcAddrs = gs.funcAddrs := rfl
@[simp] theorem emit_labels (gs : GS) (i : Instr) : (gs.emit i).labels = gs.labels := rfl
@[simp] theorem emit_todo (gs : GS) (i : Instr) : (gs.emit i).todo = gs.todo := rfl
@[simp] theorem emit_code (gs : GS) (i : Instr) : (gs.emit i).code = gs.code ++ [i] := rfl
@[simp] theorem emit_symbols (gs : GS) (i : Instr) : (gs.emit i).symbols = gs.symbols := rfl
@[simp] theorem emit_top (gs : GS) (i : Instr) : (gs.emit i).top = gs.top := rfl

@[simp] theorem setTop_top (gs : GS) (f : FGS) : (gs.setTop f).top = f := rfl
@[simp] theorem setTop_drop (gs : GS) (f : FGS) : (gs.setTop f).symbols.drop 1 = gs.symbols.drop 1 := rfl
@[simp] theorem setTop_errors (gs : GS) (f : FGS) : (gs.setTop f).errors = gs.errors := rfl
@[simp] theorem setTop_funcAddrs (gs : GS) (f : FGS) : (gs.setTop f).funcAddrs = gs.funcAddrs := rfl
@[simp] theorem setTop_labels (gs : GS) (f : FGS) : (gs.setTop f).labels = gs.labels := rfl
@[simp] theorem setTop_todo (gs : GS) (f : FGS) : (gs.setTop f).todo = gs.todo := rfl
@[simp] theorem setTop_code (gs : GS) (f : FGS) : (gs.setTop f).code = gs.code := rfl

def CodeSafe (c c' : List Instr) : Prop :=
  ∀ (loc : Nat) (i : Instr), c[loc]? = some i → i ≠ Instr.potBreak → c'[loc]? = some i

theorem CodeSafe.refl (c : List Instr) : CodeSafe c c := fun _ _ h _ => h
theorem CodeSafe.trans {a b c : List Instr} (h1 : CodeSafe a b) (h2 : CodeSafe b c) : CodeSafe a c :=
  fun loc i h hn => h2 loc i (h1 loc i h hn) hn
theorem CodeSafe.append (c : List Instr) (x : List Instr) : CodeSafe c (c ++ x) := by
  intro loc i h _
  have hl : loc < c.length := (List.getElem?_eq_some_iff.1 h).1
  rw [List.getElem?_append_left hl]; exact h
theorem CodeSafe.dropLast (c : List Instr) (h : c.getLast? = some Instr.potBreak) : CodeSafe c c.dropLast := by
  intro loc i hi hn
  obtain ⟨hl, hv⟩ := List.getElem?_eq_some_iff.1 hi
  have hne : loc ≠ c.length - 1 := by
    intro he
    subst he
    rw [List.getLast?_eq_getElem?] at h
    rw [h] at hi
    exact hn (Option.some.inj hi).symm
  rw [List.getElem?_dropLast]
  rw [if_pos (by omega)]
  exact hi

def isSetB (gs : GS) (l : Nat) : Bool := (gs.labels[l]?).getD (-1) != -1
def isSet (gs : GS) (l : Nat) : Prop := (gs.labels[l]?).getD (-1) ≠ -1
theorem isSetB_iff (gs : GS) (l : Nat) : isSetB gs l = true ↔ isSet gs l := by
  unfold isSetB isSet; simp

def mlab (gs : GS) (m : Bytes) : Option Nat := (gs.top.marks.find? (fun e => e.1 = m)).map (·.2)

/-- `none`: never mentioned; `some false`: jumped to, not (yet) defined; `some true`: defined -/
def mstate (gs : GS) (m : Bytes) : Option Bool := (mlab gs m).map (isSetB gs)

structure MarksWF (gs : GS) : Prop where
  keys : (gs.top.marks.map (·.1)).Nodup
  vals : (gs.top.marks.map (·.2)).Nodup
  lt : ∀ e ∈ gs.top.marks, e.2 < gs.labels.length

/-- every label is set, or excused by `P`, or the label of a mark of the current function
    (as long as no error was recorded) -/
def LabAcc (P : Nat → Prop) (gs : GS) : Prop :=
  gs.errors = [] → ∀ l, l < gs.labels.length → isSet gs l ∨ P l ∨ ∃ e ∈ gs.top.marks, e.2 = l

def IsJump (o : Option Instr) (lab : Nat) : Prop :=
  o = some (Instr.jmp (lab : Int)) ∨ ∃ s, o = some (Instr.jmpc (lab : Int) s)

structure TodoOK (gs : GS) : Prop where
  nodup : gs.todo.Nodup
  jumps : ∀ loc ∈ gs.todo, ∃ lab : Nat, lab < gs.labels.length ∧ IsJump gs.code[loc]? lab

theorem IsJump.safe {c c' : List Instr} (h : CodeSafe c c') {loc lab : Nat} (hj : IsJump c[loc]? lab) :
    IsJump c'[loc]? lab :=
  hj.imp (fun hj => h loc _ hj nofun) fun ⟨s, hj⟩ => ⟨s, h loc _ hj nofun⟩

theorem TodoOK.safe {gs gs' : GS} (ht : gs'.todo = gs.todo) (hl : gs.labels.length ≤ gs'.labels.length)
    (hc : CodeSafe gs.code gs'.code) (h : TodoOK gs) : TodoOK gs' := by
  refine ⟨ht ▸ h.nodup, ?_⟩
  intro loc hloc
  rw [ht] at hloc
  obtain ⟨lab, h1, h2⟩ := h.jumps loc hloc
  exact ⟨lab, by omega, h2.safe hc⟩

structure Quiet (gs gs' : GS) : Prop where
  errs : gs'.errors = [] → gs.errors = []
  funcAddrs : gs'.funcAddrs = gs.funcAddrs
  labels : gs'.labels = gs.labels
  marks : gs'.top.marks = gs.top.marks
  name : gs'.top.name = gs.top.name
  argnum : gs'.top.argnum = gs.top.argnum
  outer : gs'.symbols.drop 1 = gs.symbols.drop 1
  todoOK : TodoOK gs → TodoOK gs'

theorem quiet_code (gs : GS) {c : List Instr} (hc : CodeSafe gs.code c) (pb li lo fn fl) :
    Quiet gs { gs with code := c, potBreaks := pb, lineInfo := li, loops := lo, fsName := fn, fsLine := fl } :=
  ⟨id, rfl, rfl, rfl, rfl, rfl, rfl, TodoOK.safe rfl (Nat.le_refl _) hc⟩

theorem quiet_regs (gs : GS) (regs : List VReg) : Quiet gs (gs.setTop { gs.top with regs := regs }) :=
  ⟨id, rfl, rfl, rfl, rfl, rfl, rfl, TodoOK.safe rfl (Nat.le_refl _) (CodeSafe.refl _)⟩

theorem Quiet.refl (gs : GS) : Quiet gs gs := quiet_code gs (CodeSafe.refl _) _ _ _ _ _
theorem Quiet.trans {a b c : GS} (h1 : Quiet a b) (h2 : Quiet b c) : Quiet a c :=
  ⟨fun h => h1.errs (h2.errs h), h2.funcAddrs.trans h1.funcAddrs, h2.labels.trans h1.labels,
   h2.marks.trans h1.marks, h2.name.trans h1.name, h2.argnum.trans h1.argnum,
   h2.outer.trans h1.outer, fun h => h2.todoOK (h1.todoOK h)⟩

theorem quiet_err (gs : GS) (k : Nat) : Quiet gs (gs.err k) :=
  ⟨fun h => absurd h (err_ne_nil gs k), rfl, rfl, rfl, rfl, rfl, rfl, TodoOK.safe rfl (Nat.le_refl _) (CodeSafe.refl _)⟩
theorem quiet_emit (gs : GS) (i : Instr) : Quiet gs (gs.emit i) := quiet_code gs (CodeSafe.append _ _) _ _ _ _ _

theorem err_errors_iff (gs : GS) (k : Nat) {p : Prop} (hp : ¬ p) : (gs.err k).errors = [] ↔ gs.errors = [] ∧ p :=
  ⟨fun h => absurd h (err_ne_nil _ _), fun h => absurd h.2 hp⟩

theorem quiet_errIf (gs : GS) (c : Prop) [Decidable c] (k : Nat) : Quiet gs (if c then gs.err k else gs) := by
  split
  · exact quiet_err _ _
  · exact Quiet.refl _
theorem errIf_errors (gs : GS) (c : Prop) [Decidable c] (k : Nat) :
    (if c then gs.err k else gs).errors = [] ↔ gs.errors = [] ∧ ¬ c := by
  by_cases h : c
  · rw [if_pos h]; exact err_errors_iff _ _ (fun h' => h' h)
  · rw [if_neg h]; exact (and_iff_left h).symm

@[simp] theorem breakpoint_errors (gs : GS) : gs.breakpoint.errors = gs.errors := rfl
theorem quiet_breakpoint (gs : GS) : Quiet gs gs.breakpoint := quiet_code gs (CodeSafe.append _ _) _ _ _ _ _

theorem quiet_removeTopPotBreak (gs : GS) : Quiet gs gs.removeTopPotBreak := by
  unfold removeTopPotBreak
  split
  · next h =>
    have hc := CodeSafe.dropLast gs.code (by simpa [lastIsSite] using h)
    dsimp only
    split <;> exact quiet_code gs hc _ _ _ _ _
  · exact Quiet.refl _

attribute [simp] GS.advanceLine_errors
theorem quiet_advanceLine (gs : GS) (line : Int) (file : Bytes) : Quiet gs (gs.advanceLine line file) := by
  rcases advanceLine_cases gs line file with h | ⟨_, h⟩
  · rw [h]; exact Quiet.refl _
  · rw [h]; exact quiet_code gs (CodeSafe.append _ _) _ _ _ _ _

theorem fetchTemporary_spec (gs : GS) : Quiet gs gs.fetchTemporary.1 ∧ gs.fetchTemporary.1.errors = gs.errors := by
  unfold fetchTemporary
  dsimp only
  split <;> exact ⟨quiet_regs gs _, rfl⟩
@[simp] theorem fetchTemporary_errors (gs : GS) : gs.fetchTemporary.1.errors = gs.errors := (fetchTemporary_spec gs).2
theorem quiet_fetchTemporary (gs : GS) : Quiet gs gs.fetchTemporary.1 := (fetchTemporary_spec gs).1

@[simp] theorem releaseTemporary_errors (gs : GS) (i : Int) : (gs.releaseTemporary i).errors = gs.errors := rfl
theorem quiet_releaseTemporary (gs : GS) (i : Int) : Quiet gs (gs.releaseTemporary i) := quiet_regs gs _

theorem fetchVar_spec (gs : GS) (n : Bytes) : Quiet gs (gs.fetchVar n).1 ∧ (gs.fetchVar n).1.errors = gs.errors := by
  unfold fetchVar
  dsimp only
  split
  · exact ⟨Quiet.refl _, rfl⟩
  · exact ⟨quiet_regs gs _, rfl⟩
@[simp] theorem fetchVar_errors (gs : GS) (n : Bytes) : (gs.fetchVar n).1.errors = gs.errors := (fetchVar_spec gs n).2
theorem quiet_fetchVar (gs : GS) (n : Bytes) : Quiet gs (gs.fetchVar n).1 := (fetchVar_spec gs n).1

theorem isSet_congr {gs gs' : GS} (h : gs'.labels = gs.labels) (l : Nat) : isSet gs' l ↔ isSet gs l := by
  unfold isSet; rw [h]
theorem mlab_congr {gs gs' : GS} (h : gs'.top.marks = gs.top.marks) (m : Bytes) : mlab gs' m = mlab gs m := by
  unfold mlab; rw [h]
theorem mstate_eq_of {gs gs' : GS} {m : Bytes} (h1 : mlab gs' m = mlab gs m)
    (h2 : ∀ l, mlab gs m = some l → (isSet gs' l ↔ isSet gs l)) : mstate gs' m = mstate gs m := by
  unfold mstate
  rw [h1]
  cases hm : mlab gs m with
  | none => rfl
  | some l =>
    simp only [Option.map_some]; congr 1
    rw [Bool.eq_iff_iff, isSetB_iff, isSetB_iff]
    exact h2 l hm
theorem MarksWF.congr {gs gs' : GS} (hl : gs.labels.length ≤ gs'.labels.length) (h : gs'.top.marks = gs.top.marks)
    (w : MarksWF gs) : MarksWF gs' :=
  ⟨h ▸ w.keys, h ▸ w.vals, fun e he => Nat.lt_of_lt_of_le (w.lt e (h ▸ he)) hl⟩
theorem LabAcc.congr {P : Nat → Prop} {gs gs' : GS} (he : gs'.errors = [] → gs.errors = [])
    (hl : gs'.labels = gs.labels) (h : gs'.top.marks = gs.top.marks) (a : LabAcc P gs) : LabAcc P gs' := by
  intro h0 l hlt
  rw [hl] at hlt
  rcases a (he h0) l hlt with h1 | h1 | h1
  · exact Or.inl ((isSet_congr hl l).2 h1)
  · exact Or.inr (Or.inl h1)
  · exact Or.inr (Or.inr (h ▸ h1))
theorem LabAcc.mono {P Q : Nat → Prop} {gs : GS} (hpq : ∀ l, P l → Q l) (a : LabAcc P gs) : LabAcc Q gs := by
  intro h0 l hlt
  rcases a h0 l hlt with h1 | h1 | h1
  · exact Or.inl h1
  · exact Or.inr (Or.inl (hpq l h1))
  · exact Or.inr (Or.inr h1)

theorem Quiet.mstate {gs gs' : GS} (q : Quiet gs gs') (m : Bytes) : mstate gs' m = mstate gs m :=
  mstate_eq_of (mlab_congr q.marks m) fun l _ => isSet_congr q.labels l
theorem Quiet.wf {gs gs' : GS} (q : Quiet gs gs') (w : MarksWF gs) : MarksWF gs' :=
  w.congr (by rw [q.labels]; exact Nat.le_refl _) q.marks
theorem Quiet.acc {gs gs' : GS} (q : Quiet gs gs') {P : Nat → Prop} (a : LabAcc P gs) : LabAcc P gs' :=
  a.congr q.errs q.labels q.marks

/-- the arity table: what a call can see -/
def look (gs : GS) (f : Bytes) : Option Nat := (gs.lookupFunc f).map (·.argnum)

theorem look_congr {gs gs' : GS} (h : gs'.funcAddrs = gs.funcAddrs) (f : Bytes) : look gs' f = look gs f := by
  unfold look lookupFunc; rw [h]

theorem look_eq {gs gs' : GS} (h : gs'.funcAddrs = gs.funcAddrs) : look gs' = look gs := funext (look_congr h)

theorem nextPos_ne (gs : GS) : gs.nextPos ≠ -1 := by unfold nextPos; omega
theorem markPos_ne (gs : GS) : gs.markPos ≠ -1 := by
  unfold markPos nextPos
  split
  · rename_i h
    have : gs.code ≠ [] := by
      intro h0; simp [lastIsSite, h0] at h
    have := List.length_pos_iff.2 this
    omega
  · omega

theorem createLabel_fst (gs : GS) : gs.createLabel.1 = { gs with labels := gs.labels ++ [-1] } := rfl
@[simp] theorem createLabel_snd (gs : GS) : gs.createLabel.2 = gs.labels.length := rfl
@[simp] theorem createLabel_errors (gs : GS) : gs.createLabel.1.errors = gs.errors := rfl
@[simp] theorem createLabel_funcAddrs (gs : GS) : gs.createLabel.1.funcAddrs = gs.funcAddrs := rfl
@[simp] theorem createLabel_symbols (gs : GS) : gs.createLabel.1.symbols = gs.symbols := rfl
@[simp] theorem createLabel_top (gs : GS) : gs.createLabel.1.top = gs.top := rfl
@[simp] theorem createLabel_todo (gs : GS) : gs.createLabel.1.todo = gs.todo := rfl
@[simp] theorem createLabel_code (gs : GS) : gs.createLabel.1.code = gs.code := rfl
@[simp] theorem createLabel_labels (gs : GS) : gs.createLabel.1.labels = gs.labels ++ [-1] := rfl

theorem createLabel_isSet (gs : GS) (l : Nat) : isSet gs.createLabel.1 l ↔ isSet gs l := by
  unfold isSet
  rw [createLabel_labels]
  by_cases h : l < gs.labels.length
  · rw [List.getElem?_append_left h]
  · have h' : gs.labels.length ≤ l := Nat.le_of_not_lt h
    rw [List.getElem?_append_right h', List.getElem?_eq_none h']
    by_cases h2 : l - gs.labels.length = 0
    · rw [h2]; simp
    · rw [List.getElem?_eq_none (by simp; omega)]

theorem createLabel_mstate (gs : GS) (m : Bytes) : mstate gs.createLabel.1 m = mstate gs m :=
  mstate_eq_of (mlab_congr rfl m) (fun l _ => createLabel_isSet gs l)

theorem createLabel_wf (gs : GS) (w : MarksWF gs) : MarksWF gs.createLabel.1 :=
  MarksWF.congr (gs := gs) (by simp) rfl w
theorem createLabel_todoOK (gs : GS) (h : TodoOK gs) : TodoOK gs.createLabel.1 :=
  TodoOK.safe (gs := gs) rfl (by simp) (CodeSafe.refl _) h
theorem createLabel_acc (gs : GS) {P : Nat → Prop} (a : LabAcc P gs) :
    LabAcc (fun l => P l ∨ l = gs.labels.length) gs.createLabel.1 := by
  intro h0 l hlt
  by_cases h : l < gs.labels.length
  · rcases a h0 l h with h1 | h1 | h1
    · exact Or.inl ((createLabel_isSet gs l).2 h1)
    · exact Or.inr (Or.inl (Or.inl h1))
    · exact Or.inr (Or.inr h1)
  · simp at hlt
    exact Or.inr (Or.inl (Or.inr (by omega)))

@[simp] theorem setLabel_errors (gs : GS) (l : Nat) (p : Int) : (gs.setLabel l p).errors = gs.errors := rfl
@[simp] theorem setLabel_funcAddrs (gs : GS) (l : Nat) (p : Int) : (gs.setLabel l p).funcAddrs = gs.funcAddrs := rfl
@[simp] theorem setLabel_symbols (gs : GS) (l : Nat) (p : Int) : (gs.setLabel l p).symbols = gs.symbols := rfl
@[simp] theorem setLabel_top (gs : GS) (l : Nat) (p : Int) : (gs.setLabel l p).top = gs.top := rfl
@[simp] theorem setLabel_todo (gs : GS) (l : Nat) (p : Int) : (gs.setLabel l p).todo = gs.todo := rfl
@[simp] theorem setLabel_code (gs : GS) (l : Nat) (p : Int) : (gs.setLabel l p).code = gs.code := rfl
@[simp] theorem setLabel_labels (gs : GS) (l : Nat) (p : Int) : (gs.setLabel l p).labels = gs.labels.set l p := rfl
theorem setLabel_lablen (gs : GS) (l : Nat) (p : Int) : (gs.setLabel l p).labels.length = gs.labels.length := by simp

theorem setLabel_isSet (gs : GS) (l : Nat) (p : Int) (hp : p ≠ -1) (x : Nat) :
    isSet (gs.setLabel l p) x ↔ (x = l ∧ l < gs.labels.length) ∨ isSet gs x := by
  unfold isSet
  rw [setLabel_labels, List.getElem?_set]
  by_cases hx : l = x
  · subst hx
    rw [if_pos rfl]
    by_cases hl : l < gs.labels.length
    · rw [if_pos hl]; simp [hp, hl]
    · rw [if_neg hl, List.getElem?_eq_none (Nat.le_of_not_lt hl)]; simp; omega
  · rw [if_neg hx]
    have : ¬ x = l := fun h => hx h.symm
    simp [this]

theorem setLabel_wf (gs : GS) (l : Nat) (p : Int) (w : MarksWF gs) : MarksWF (gs.setLabel l p) :=
  MarksWF.congr (gs := gs) (by simp) rfl w
theorem setLabel_todoOK (gs : GS) (l : Nat) (p : Int) (h : TodoOK gs) : TodoOK (gs.setLabel l p) :=
  TodoOK.safe (gs := gs) rfl (by simp) (CodeSafe.refl _) h

theorem LabAcc.set {gs g : GS} {e : Nat} {P : Nat → Prop} (herr : g.errors = gs.errors)
    (hlen : g.labels.length = gs.labels.length) (hm : g.top.marks = gs.top.marks)
    (hs : ∀ x, isSet g x ↔ (x = e ∧ e < gs.labels.length) ∨ isSet gs x)
    (a : LabAcc (fun x => P x ∨ x = e) gs) : LabAcc P g := by
  intro h0 x hlt
  rw [herr] at h0
  rw [hlen] at hlt
  rcases a h0 x hlt with h1 | (h1 | h1) | h1
  · exact Or.inl ((hs x).2 (Or.inr h1))
  · exact Or.inr (Or.inl h1)
  · exact Or.inl ((hs x).2 (Or.inl ⟨h1, h1 ▸ hlt⟩))
  · exact Or.inr (Or.inr (hm ▸ h1))

theorem setLabel_acc (gs : GS) (l : Nat) (p : Int) (hp : p ≠ -1) {P : Nat → Prop}
    (a : LabAcc P gs) : LabAcc P (gs.setLabel l p) :=
  LabAcc.set (gs := gs) (e := l) rfl (setLabel_lablen gs l p) rfl (setLabel_isSet gs l p hp) (a.mono fun _ => Or.inl)

theorem mlab_some_mem {gs : GS} {m : Bytes} {l : Nat} (h : mlab gs m = some l) : (m, l) ∈ gs.top.marks := by
  obtain ⟨e, hf, rfl⟩ := Option.map_eq_some_iff.1 h
  obtain ⟨h1, rfl⟩ := find_key_some hf
  exact h1

theorem mlab_of_mem {gs : GS} (w : MarksWF gs) {m : Bytes} {l : Nat} (h : (m, l) ∈ gs.top.marks) :
    mlab gs m = some l := by
  unfold mlab
  rw [find?_of_nodup_map (f := Prod.fst) w.keys h]; rfl

theorem mlab_none {gs : GS} {m : Bytes} (h : mlab gs m = none) : ∀ e ∈ gs.top.marks, e.1 ≠ m :=
  find_key_none (Option.map_eq_none_iff.1 h)

theorem mstate_eq_of_isSet {gs g : GS} (hm : g.top.marks = gs.top.marks) {S : Nat → Prop}
    (hs : ∀ x, isSet g x ↔ S x ∨ isSet gs x) (hn : ∀ e ∈ gs.top.marks, ¬ S e.2) (m : Bytes) :
    mstate g m = mstate gs m :=
  mstate_eq_of (mlab_congr hm m) fun x hx =>
    (hs x).trans ⟨fun h => h.resolve_left (hn _ (mlab_some_mem hx)), Or.inr⟩

theorem setLabel_mstate_other (gs : GS) (l : Nat) (p : Int) (hp : p ≠ -1)
    (hn : ∀ e ∈ gs.top.marks, e.2 ≠ l) (m : Bytes) : mstate (gs.setLabel l p) m = mstate gs m :=
  mstate_eq_of_isSet (gs := gs) (g := gs.setLabel l p) rfl (setLabel_isSet gs l p hp) (fun e he h => hn e he h.1) m

theorem setLabel_mstate_mark (gs : GS) (w : MarksWF gs) (m : Bytes) (l : Nat) (p : Int) (hp : p ≠ -1)
    (hm : (m, l) ∈ gs.top.marks) (m' : Bytes) :
    mstate (gs.setLabel l p) m' = if m' = m then some true else mstate gs m' := by
  have hl : l < gs.labels.length := w.lt _ hm
  by_cases hmm : m' = m
  · subst hmm
    rw [if_pos rfl]
    unfold mstate
    rw [mlab_congr (gs := gs) (gs' := gs.setLabel l p) rfl, mlab_of_mem w hm]
    simp only [Option.map_some]
    congr 1
    exact (isSetB_iff _ _).2 ((setLabel_isSet gs l p hp l).2 (Or.inl ⟨rfl, hl⟩))
  · rw [if_neg hmm]
    refine mstate_eq_of (mlab_congr rfl m') (fun x hx => ?_)
    rw [setLabel_isSet gs l p hp]
    constructor
    · rintro (⟨h1, _⟩ | h1)
      · exfalso
        have h2 := mlab_some_mem hx
        rw [h1] at h2
        exact hmm (congrArg Prod.fst (inj_of_nodup_map w.vals h2 hm rfl))
      · exact h1
    · exact Or.inr

/-- `markLabel gs m = (gs', l)`: mark `m` has label `l` (`mem`); the marks only grow (`ext`), and
    an added one has a label that `gs` had not created (`new`); no label gets a position -/
structure MLSpec (gs : GS) (m : Bytes) (gs' : GS) (l : Nat) : Prop where
  errors : gs'.errors = gs.errors
  funcAddrs : gs'.funcAddrs = gs.funcAddrs
  todo : gs'.todo = gs.todo
  code : gs'.code = gs.code
  name : gs'.top.name = gs.top.name
  argnum : gs'.top.argnum = gs.top.argnum
  outer : gs'.symbols.drop 1 = gs.symbols.drop 1
  lablen : gs.labels.length ≤ gs'.labels.length
  mem : (m, l) ∈ gs'.top.marks
  ext : ∀ e ∈ gs.top.marks, e ∈ gs'.top.marks
  new : ∀ e ∈ gs'.top.marks, e ∈ gs.top.marks ∨ gs.labels.length ≤ e.2
  isSet : ∀ x, isSet gs' x ↔ isSet gs x
  wf : MarksWF gs → MarksWF gs'
  acc : ∀ P : Nat → Prop, LabAcc P gs → LabAcc P gs'
  mstate : MarksWF gs → ∀ m', mstate gs' m' = if m' = m then some ((mstate gs m).getD false) else mstate gs m'

theorem markLabel_fresh {gs gs' : GS} {m : Bytes} (hnone : ∀ e ∈ gs.top.marks, e.1 ≠ m)
    (he : gs'.errors = gs.errors) (hf : gs'.funcAddrs = gs.funcAddrs) (ht : gs'.todo = gs.todo)
    (hc : gs'.code = gs.code) (hn : gs'.top.name = gs.top.name) (ha : gs'.top.argnum = gs.top.argnum)
    (ho : gs'.symbols.drop 1 = gs.symbols.drop 1) (hl : gs'.labels = gs.labels ++ [-1])
    (hp : gs'.top.marks.Perm ((m, gs.labels.length) :: gs.top.marks)) : MLSpec gs m gs' gs.labels.length := by
  have hmem : ∀ e, e ∈ gs'.top.marks ↔ e = (m, gs.labels.length) ∨ e ∈ gs.top.marks :=
    fun e => hp.mem_iff.trans List.mem_cons
  have hnew := (hmem _).2 (Or.inl rfl)
  have hset : ∀ x, isSet gs' x ↔ isSet gs x := fun x =>
    (isSet_congr (gs := gs.createLabel.1) hl x).trans (createLabel_isSet gs x)
  have hlen : gs'.labels.length = gs.labels.length + 1 := by rw [hl, List.length_append]; rfl
  have hwf : MarksWF gs → MarksWF gs' := fun w => by
    refine ⟨?_, ?_, fun e he => ?_⟩
    · rw [(hp.map _).nodup_iff, List.map_cons, List.nodup_cons]
      exact ⟨fun hin => by obtain ⟨e, he, hem⟩ := List.mem_map.1 hin; exact hnone e he hem, w.keys⟩
    · rw [(hp.map _).nodup_iff, List.map_cons, List.nodup_cons]
      exact ⟨fun hin => by obtain ⟨e, he, hem⟩ := List.mem_map.1 hin; exact Nat.ne_of_lt (w.lt e he) hem, w.vals⟩
    · rw [hlen]
      rcases (hmem e).1 he with rfl | he
      · exact Nat.lt_succ_self _
      · exact Nat.lt_succ_of_lt (w.lt e he)
  refine ⟨he, hf, ht, hc, hn, ha, ho, by rw [hlen]; exact Nat.le_succ _, hnew,
    fun e he => (hmem e).2 (Or.inr he), fun e he => ((hmem e).1 he).elim (fun h => h ▸ Or.inr (Nat.le_refl _)) Or.inl,
    hset, hwf, fun P a h0 l hlt => ?_, fun w m' => ?_⟩
  · rw [hlen] at hlt
    by_cases h : l < gs.labels.length
    · rcases a (he ▸ h0) l h with h1 | h1 | ⟨e, he, hel⟩
      · exact Or.inl ((hset l).2 h1)
      · exact Or.inr (Or.inl h1)
      · exact Or.inr (Or.inr ⟨e, (hmem e).2 (Or.inr he), hel⟩)
    · exact Or.inr (Or.inr ⟨_, hnew, Nat.le_antisymm (Nat.le_of_not_lt h) (Nat.le_of_lt_succ hlt)⟩)
  · by_cases hmm : m' = m
    · subst hmm
      have hml : mlab gs m' = none := by
        unfold mlab; rw [List.find?_eq_none.2 fun e he => by simpa using hnone e he]; rfl
      have hb : isSetB gs' gs.labels.length = false := Bool.eq_false_iff.2 fun hb =>
        (hset _).1 ((isSetB_iff _ _).1 hb) (by rw [List.getElem?_eq_none (Nat.le_refl _)]; rfl)
      rw [if_pos rfl]
      unfold mstate
      rw [mlab_of_mem (hwf w) hnew, hml, Option.map_some, hb]; rfl
    · rw [if_neg hmm]
      refine mstate_eq_of (Option.ext fun x => ⟨fun hx => ?_, fun hx => ?_⟩) (fun x _ => hset x)
      · exact ((hmem _).1 (mlab_some_mem hx)).elim (fun h => absurd (Prod.mk.inj h).1 hmm) (mlab_of_mem w)
      · exact mlab_of_mem (hwf w) ((hmem _).2 (Or.inr (mlab_some_mem hx)))

theorem markLabel_spec (gs : GS) (m : Bytes) : MLSpec gs m (gs.markLabel m).1 (gs.markLabel m).2 := by
  unfold markLabel
  cases hf : gs.top.marks.find? (fun e => e.1 = m) with
  | some e =>
    obtain ⟨he, rfl⟩ := find_key_some hf
    refine ⟨rfl, rfl, rfl, rfl, rfl, rfl, rfl, Nat.le_refl _, he, fun _ h => h, fun _ h => Or.inl h,
      fun _ => Iff.rfl, id, fun _ h => h, fun _ m' => ?_⟩
    by_cases hmm : m' = e.1
    · have : mlab gs e.1 = some e.2 := by unfold mlab; rw [hf]; rfl
      rw [if_pos hmm, hmm]; unfold mstate; rw [this]; rfl
    · rw [if_neg hmm]
  | none =>
    have hnone := find_key_none hf
    exact markLabel_fresh hnone rfl rfl rfl rfl rfl rfl rfl rfl (sortedInsert_perm _ _ _ _ fun e he =>
      Decidable.or_iff_not_imp_left.2 fun h1 => Decidable.by_contra fun h2 =>
        hnone e he (bytesLt_tri m e.1 (Bool.eq_false_iff.2 h1) (Bool.eq_false_iff.2 h2)).symm)

theorem MLSpec.todoOK {gs gs' : GS} {m : Bytes} {l : Nat} (s : MLSpec gs m gs' l) (h : TodoOK gs) : TodoOK gs' :=
  TodoOK.safe s.todo s.lablen (s.code ▸ CodeSafe.refl _) h
theorem MLSpec.lt {gs gs' : GS} {m : Bytes} {l : Nat} (s : MLSpec gs m gs' l) (w : MarksWF gs) :
    l < gs'.labels.length := (s.wf w).lt _ s.mem

@[simp] theorem emitBackpatched_errors (gs : GS) (i : Instr) : (gs.emitBackpatched i).errors = gs.errors := rfl
theorem emitBackpatched_todo (gs : GS) (i : Instr) : (gs.emitBackpatched i).todo = gs.todo ++ [gs.code.length] := by
  simp [emitBackpatched, emit]
theorem emitBackpatched_code (gs : GS) (i : Instr) : (gs.emitBackpatched i).code = gs.code ++ [i] := rfl

theorem quiet_emitBackpatched (gs : GS) (i : Instr) (lab : Nat) (hl : lab < gs.labels.length)
    (hi : i = Instr.jmp (lab : Int) ∨ ∃ s, i = Instr.jmpc (lab : Int) s) : Quiet gs (gs.emitBackpatched i) := by
  refine ⟨id, rfl, rfl, rfl, rfl, rfl, rfl, fun h => ⟨?_, fun loc hloc => ?_⟩⟩
  · rw [emitBackpatched_todo, List.nodup_append]
    refine ⟨h.nodup, List.pairwise_singleton _ _, fun a ha b hb hab => ?_⟩
    obtain ⟨_, _, hj⟩ := h.jumps a ha
    have : a < gs.code.length := by rcases hj with hj | ⟨s, hj⟩ <;> exact (List.getElem?_eq_some_iff.1 hj).1
    rw [List.mem_singleton] at hb
    omega
  · rw [emitBackpatched_todo, List.mem_append, List.mem_singleton] at hloc
    rw [emitBackpatched_code]
    rcases hloc with hloc | rfl
    · obtain ⟨lab', h1, h2⟩ := h.jumps loc hloc
      exact ⟨lab', h1, h2.safe (CodeSafe.append _ _)⟩
    · refine ⟨lab, hl, ?_⟩
      unfold IsJump
      rw [List.getElem?_append_right (Nat.le_refl _), Nat.sub_self]
      exact hi.imp (congrArg some) fun ⟨s, hs⟩ => ⟨s, congrArg some hs⟩

theorem quiet_jmp (gs : GS) {lab : Nat} (h : lab < gs.labels.length) : Quiet gs (gs.emitBackpatched (.jmp lab)) :=
  quiet_emitBackpatched gs _ lab h (Or.inl rfl)
theorem quiet_jmpc (gs : GS) {lab : Nat} (c : Int) (h : lab < gs.labels.length) :
    Quiet gs (gs.emitBackpatched (.jmpc lab c)) :=
  quiet_emitBackpatched gs _ lab h (Or.inr ⟨c, rfl⟩)

@[simp] theorem pushSymbols_errors (gs : GS) (n : Bytes) : (gs.pushSymbols n).errors = gs.errors := rfl
@[simp] theorem pushSymbols_funcAddrs (gs : GS) (n : Bytes) : (gs.pushSymbols n).funcAddrs = gs.funcAddrs := rfl
@[simp] theorem pushSymbols_labels (gs : GS) (n : Bytes) : (gs.pushSymbols n).labels = gs.labels := rfl
@[simp] theorem pushSymbols_todo (gs : GS) (n : Bytes) : (gs.pushSymbols n).todo = gs.todo := rfl
@[simp] theorem pushSymbols_code (gs : GS) (n : Bytes) : (gs.pushSymbols n).code = gs.code := rfl
@[simp] theorem pushSymbols_top (gs : GS) (n : Bytes) : (gs.pushSymbols n).top = ⟨n, [], 0, []⟩ := rfl
@[simp] theorem pushSymbols_drop (gs : GS) (n : Bytes) : (gs.pushSymbols n).symbols.drop 1 = gs.symbols := rfl

/-- `popSymbols`: an error for each mark of the frame whose label has no position (`errs`); the
    frame's name gets its arity in the table (`look`) -/
structure PopSpec (gs gs' : GS) : Prop where
  labels : gs'.labels = gs.labels
  todo : gs'.todo = gs.todo
  code : gs'.code = gs.code
  symbols : gs'.symbols = gs.symbols.drop 1
  errs : gs'.errors = [] ↔ gs.errors = [] ∧ ∀ e ∈ gs.top.marks, isSet gs e.2
  look : ∀ f, look gs' f = if f = gs.top.name then some gs.top.argnum else look gs f

theorem lookupFunc_cons_filter (fa : List (Bytes × ProgRec)) (nm : Bytes) (p : ProgRec) (f : Bytes) (g g' : GS)
    (h' : g'.funcAddrs = (nm, p) :: fa.filter (fun e => e.1 ≠ nm)) (h : g.funcAddrs = fa) :
    g'.lookupFunc f = if f = nm then some p else g.lookupFunc f := by
  unfold lookupFunc
  rw [h', h]
  by_cases hf : f = nm
  · rw [if_pos hf, List.find?_cons_of_pos (by simp [hf])]; rfl
  · rw [if_neg hf, assoc_find_other fa p hf]

theorem popSymbols_spec (gs : GS) (addr : Int) : PopSpec gs (gs.popSymbols addr) := by
  rw [popSymbols_eq]
  refine ⟨rfl, rfl, rfl, rfl, ?_, fun f => ?_⟩
  · show gs.errors ++ gs.unsetMarks = [] ↔ _
    unfold unsetMarks isSet
    simp [List.filter_eq_nil_iff]
  · unfold look
    rw [lookupFunc_cons_filter _ _ _ f gs _ rfl rfl]
    split <;> rfl

theorem PopSpec.todoOK {gs gs' : GS} (s : PopSpec gs gs') (h : TodoOK gs) : TodoOK gs' :=
  TodoOK.safe s.todo (Nat.le_of_eq (congrArg List.length s.labels).symm) (s.code ▸ CodeSafe.refl _) h

end Static

namespace GenShape

def isJmp : Instr → Bool
  | .jmp _ => true
  | .jmpc _ _ => true
  | _ => false

/-- what `backpatch` makes of an instruction at position `p`, given the final label table -/
def patch (L : List Int) (p : Nat) : Instr → Instr
  | .jmp lab => .jmp ((L[lab.toNat]?).getD (-1) - (p : Int))
  | .jmpc lab s => .jmpc ((L[lab.toNat]?).getD (-1) - (p : Int)) s
  | i => i

theorem patch_of_not_jmp (L : List Int) (p : Nat) {i : Instr} (h : isJmp i = false) : patch L p i = i := by
  cases i <;> first | rfl | (simp [isJmp] at h)

end GenShape
end Theo
