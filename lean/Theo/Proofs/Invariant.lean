/-
  Steps that proofs all over the development repeat, none of them about the model.  For invariants: a
  property of both branches of an `if` holds of the `if`, a list property survives appending one
  element that has it, a fold keeps what every step keeps; fuel above a bound is a successor.  For
  lists read by position: the element or the segment between a prefix and a suffix, an element of
  `l` inside `l ++ t`, a one-element list; the last element of `a ++ b` with a property is the
  last such of `b`, or `b` has none and it is the last of `a`.  A bound by a maximum taken with `foldr`; association
  lists.
-/

namespace Theo

theorem ite_ind {α : Sort _} {p : α → Prop} {c : Prop} [Decidable c] {a b : α} (ha : p a) (hb : p b) :
    p (if c then a else b) := by
  split <;> assumption

theorem pos_fuel {a f : Nat} (h : a < f) : ∃ g, f = g + 1 := ⟨f - 1, by omega⟩

theorem forall_snoc {α : Type} {p : α → Prop} {l : List α} {a : α}
    (hl : ∀ x ∈ l, p x) (ha : p a) : ∀ x ∈ l ++ [a], p x :=
  List.forall_mem_append.2 ⟨hl, List.forall_mem_singleton.2 ha⟩

theorem foldl_inv {α β : Type} (I : β → Prop) (Q : α → Prop) (f : β → α → β)
    (hf : ∀ b a, I b → Q a → I (f b a)) :
    ∀ (l : List α) (b : β), I b → (∀ a ∈ l, Q a) → I (l.foldl f b)
  | [], _, hb, _ => hb
  | x :: xs, b, hb, hq =>
    foldl_inv I Q f hf xs (f b x) (hf b x hb (hq x List.mem_cons_self))
      (fun a ha => hq a (List.mem_cons_of_mem _ ha))

theorem foldl_preserves {σ α : Type} {I : σ → Prop} (f : σ → α → σ) (hf : ∀ g x, I g → I (f g x))
    (l : List α) (g : σ) (h : I g) : I (l.foldl f g) :=
  foldl_inv I (fun _ => True) f (fun g x hg _ => hf g x hg) l g h fun _ _ => trivial

theorem getElem?_mid {α : Type _} (pre : List α) (x : α) (post : List α) :
    (pre ++ x :: post)[pre.length]? = some x := by simp

theorem drop_mid {α : Type _} (pre : List α) (x : α) (post : List α) :
    (pre ++ x :: post).drop (pre.length + 1) = post := by simp

theorem drop_cons_get {α : Type _} (l : List α) (d : Nat) (x : α) (r : List α)
    (h : l.drop d = x :: r) : l[d]? = some x ∧ l.drop (d + 1) = r :=
  ⟨by rw [← Nat.add_zero d, ← List.getElem?_drop, h]; rfl, by rw [← List.drop_drop, h]; rfl⟩

theorem getElem?_seg {α : Type _} (pre g post : List α) {m : Nat} (h : m < g.length) :
    (pre ++ g ++ post)[pre.length + m]? = g[m]? := by
  rw [List.append_assoc, List.getElem?_append_right (Nat.le_add_right _ _), Nat.add_sub_cancel_left,
    List.getElem?_append_left h]

theorem getElem?_after {α : Type _} (pre g post : List α) (m : Nat) :
    (pre ++ g ++ post)[pre.length + g.length + m]? = post[m]? := by
  rw [List.getElem?_append_right (by rw [List.length_append]; exact Nat.le_add_right _ _), List.length_append,
    Nat.add_sub_cancel_left]

theorem getElem?_append_some {α : Type _} {l : List α} {j : Nat} {a : α} (h : l[j]? = some a)
    (t : List α) : (l ++ t)[j]? = some a := by
  rw [List.getElem?_append_left (List.getElem?_eq_some_iff.1 h).1]; exact h

theorem mem_of_getElem?_append {α : Type _} {l t : List α} {j : Nat} {a : α}
    (h : (l ++ t)[j]? = some a) : l[j]? = some a ∨ a ∈ t := by
  rw [List.getElem?_append] at h
  split at h
  · exact Or.inl h
  · exact Or.inr (List.mem_of_getElem? h)

theorem getLast?_filter_append {α : Type _} (p : α → Bool) (a b : List α) :
    ((a ++ b).filter p).getLast? = (b.filter p).getLast? ∨
      ((∀ e ∈ b, p e = false) ∧ ((a ++ b).filter p).getLast? = (a.filter p).getLast?) := by
  rw [List.filter_append, List.getLast?_append]
  cases hb : (b.filter p).getLast? with
  | some y => exact .inl rfl
  | none =>
    refine .inr ⟨fun e he => Bool.eq_false_iff.2 fun hp => ?_, rfl⟩
    have := List.mem_filter.2 ⟨he, hp⟩
    rw [List.getLast?_eq_none_iff.1 hb] at this
    cases this

theorem getElem?_singleton {α : Type _} {a x : α} {k : Nat} (h : [a][k]? = some x) : k = 0 ∧ x = a := by
  cases k with
  | zero => exact ⟨rfl, (Option.some.inj h).symm⟩
  | succ k => cases h

theorem le_foldr_max {α : Type _} (f : α → Nat) (b : Nat) {l : List α} {x : α} (h : x ∈ l) :
    f x ≤ (l.map f).foldr max b := by
  induction l with
  | nil => cases h
  | cons y ys ih =>
    rw [List.map_cons, List.foldr_cons]
    rcases List.mem_cons.mp h with rfl | h
    · exact Nat.le_max_left _ _
    · exact Nat.le_trans (ih h) (Nat.le_max_right _ _)

/- Association lists written by `(k, v) :: l.filter (·.1 ≠ k)` and read by `find? (·.1 = j)`:
   environments and loop counters of the reference machine, the instances of a process. -/

theorem assoc_find_same {α β : Type} [DecidableEq α] (l : List (α × β)) (k : α) (v : β) :
    ((k, v) :: l.filter (fun e => e.1 ≠ k)).find? (fun e => e.1 = k) = some (k, v) :=
  List.find?_cons_of_pos (decide_eq_true rfl)

theorem assoc_find_other {α β : Type} [DecidableEq α] (l : List (α × β)) {k j : α} (v : β)
    (h : j ≠ k) :
    ((k, v) :: l.filter (fun e => e.1 ≠ k)).find? (fun e => e.1 = j) =
      l.find? (fun e => e.1 = j) := by
  rw [List.find?_cons_of_neg (by simpa using Ne.symm h), List.find?_filter]
  congr 1
  funext e
  by_cases hj : e.1 = j
  · simp [hj, h]
  · simp [hj]

end Theo
