/-
  C03 for the generator: from the layout of the code before backpatching (`PFacts`: the
  finished routines, the root pieces between them, the main body and the final HALT) to the local
  well-formedness (`LocalWF`) of the backpatched program, with the frame-size and routine-id
  functions read off the routine table.
-/
import Theo.Proofs.GenWFTop
import Theo.Proofs.GenWFPatch

namespace Theo
namespace GenWF
open GenShape (patch)

def inR (r : Rt) (pc : Nat) : Bool := decide (r.entry ≤ pc) && decide (pc ≤ r.ret)

def frOf (rts : List Rt) (FR : Nat) (pc : Nat) : Nat :=
  match rts.find? (fun r => inR r pc) with
  | some r => r.frame
  | none => FR

def rdOf (rts : List Rt) (pc : Nat) : Nat :=
  match rts.find? (fun r => inR r pc) with
  | some r => r.id
  | none => rts.length

theorem inR_iff {r : Rt} {pc : Nat} : inR r pc = true ↔ r.entry ≤ pc ∧ pc ≤ r.ret := by
  unfold inR
  rw [Bool.and_eq_true, decide_eq_true_eq, decide_eq_true_eq]

theorem mapOK_intro (p : Program) (idx : Int) (cnt : Nat) (sm : StackMap) (h0 : 0 ≤ idx)
    (h : p.stackMaps[idx.toNat]? = some sm) (hr : ∀ e ∈ sm.map, RegIn e.1 cnt) : mapOK p idx cnt = true := by
  unfold mapOK
  rw [h, Bool.and_eq_true, decide_eq_true_eq, List.all_eq_true]
  exact ⟨h0, fun e he => (hr e he).regOK⟩

/-- the layout of the code `P` before backpatching (`L`, `td`, `SM`: labels, backpatch list, stack
    maps at that moment): `P` is `pre`, which holds the root PREPARE and the finished routines
    `rts`, then the main body `seg` — groups over `FR` registers and the labels from `lo0` on, which
    all point to group boundaries of `seg` — and the final HALT; the last stack map is the root's -/
structure PFacts (P : List Instr) (L : List Int) (td : List Nat) (SM : List StackMap) (rts : List Rt)
    (pre seg : List Instr) (FR lo0 : Nat) : Prop where
  core : TopCore P pre.length L td SM rts
  dec : P = pre ++ seg ++ [Instr.halt]
  head : P[0]? = some (Instr.prepare (FR : Int) (rts.length : Int) 0)
  mgroups : Groups (Callee rts rts.length) FR lo0 L.length seg
  mlabs : ∀ l : Nat, lo0 ≤ l → l < L.length → ∃ k : Nat, k ≤ seg.length ∧
    L[l]? = some (((pre.length + k : Nat)) : Int) ∧ ∀ i, seg[k]? = some i → notAE i = true
  rootmap : ∃ sm, SM[rts.length]? = some sm ∧ ∀ e ∈ sm.map, RegIn e.1 FR

section
variable {P F : List Instr} {L : List Int} {td : List Nat} {SM : List StackMap} {rts : List Rt}
  {n : Nat} {pre seg : List Instr} {FR lo0 : Nat} {pb : List (BreakPoint × List Int)} {li : List (Int × BreakPoint)}

theorem owner_out {pc : Nat} (h : Outside rts pc) : frOf rts FR pc = FR ∧ rdOf rts pc = rts.length := by
  have : rts.find? (fun r => inR r pc) = none :=
    List.find?_eq_none.2 (fun r hr hin => h r hr (inR_iff.1 hin))
  unfold frOf rdOf
  rw [this]
  exact ⟨rfl, rfl⟩

theorem TopCore.disjoint (h : TopCore P n L td SM rts) {j k : Nat} {rj rk : Rt} (hjk : j < k)
    (hj : rts[j]? = some rj) (hk : rts[k]? = some rk) {x y : Nat} (hx : x ≤ rj.ret) (hy : rk.entry ≤ y) :
    x + 1 < y :=
  Nat.lt_of_le_of_lt (Nat.succ_le_succ hx) (Nat.lt_of_lt_of_le (h.ord j k rj rk hjk hj hk) hy)

theorem TopCore.owner_in (h : TopCore P n L td SM rts) {k : Nat} {r : Rt} {pc : Nat} (hr : rts[k]? = some r)
    (h1 : r.entry ≤ pc) (h2 : pc ≤ r.ret) : frOf rts FR pc = r.frame ∧ rdOf rts pc = k := by
  have : rts.find? (fun r => inR r pc) = some r := by
    cases hf : rts.find? (fun r => inR r pc) with
    | none => exact absurd (inR_iff.2 ⟨h1, h2⟩) (List.find?_eq_none.1 hf r (List.mem_of_getElem? hr))
    | some r' =>
      have hp : inR r' pc = true := List.find?_some (p := fun r => inR r pc) hf
      obtain ⟨p1, p2⟩ := inR_iff.1 hp
      obtain ⟨k', hk'⟩ := List.mem_iff_getElem?.1 (List.mem_of_find?_eq_some hf)
      rcases Nat.lt_trichotomy k' k with hlt | heq | hgt
      · exact absurd (h.disjoint hlt hk' hr p2 h1) (Nat.not_lt.2 (Nat.le_succ pc))
      · rw [heq, hr] at hk'; exact hk'.symm
      · exact absurd (h.disjoint hgt hr hk' h2 p1) (Nat.not_lt.2 (Nat.le_succ pc))
  unfold frOf rdOf
  rw [this]
  exact ⟨rfl, (h.rt k r hr).id⟩

theorem TopCore.outside_ge (h : TopCore P n L td SM rts) {pc : Nat} (hpc : n ≤ pc) : Outside rts pc := by
  intro r hr hin
  obtain ⟨k, hk⟩ := List.mem_iff_getElem?.1 hr
  exact Nat.lt_irrefl _ (Nat.lt_of_le_of_lt (Nat.le_trans hpc hin.2) (h.rlt k r hk))

theorem TopCore.outside_one (h : TopCore P n L td SM rts) : Outside rts 1 := by
  intro r hr hin
  obtain ⟨k, hk⟩ := List.mem_iff_getElem?.1 hr
  exact Nat.lt_irrefl _ (Nat.lt_of_lt_of_le (h.rt k r hk).e2 hin.1)

theorem TopCore.outside_after (h : TopCore P n L td SM rts) {k : Nat} {r : Rt} (hk : rts[k]? = some r) :
    Outside rts (r.ret + 1) := by
  intro r' hr' hin
  obtain ⟨k', hk'⟩ := List.mem_iff_getElem?.1 hr'
  have her := (h.rt k r hk).er
  rcases Nat.lt_trichotomy k' k with hlt | heq | hgt
  · exact absurd (h.disjoint hlt hk' hk hin.2 (Nat.le_succ_of_le her)) (Nat.not_lt.2 (Nat.le_succ _))
  · rw [heq, hk] at hk'
    rw [← Option.some.inj hk'] at hin
    exact Nat.lt_irrefl _ (Nat.lt_of_lt_of_le (Nat.lt_succ_self _) hin.2)
  · exact Nat.lt_irrefl _ (h.disjoint hgt hk hk' (Nat.le_refl _) hin.1)

/-- a root position is a site or the `JMP` around a definition: never an ARG / EXEC -/
theorem TopCore.root_cases (h : TopCore P n L td SM rts) {pc : Nat} (h1 : 1 ≤ pc) (h2 : pc < n)
    (h3 : Outside rts pc) : P[pc]? = some Instr.potBreak ∨
      ∃ (k : Nat) (r : Rt), rts[k]? = some r ∧ pc + 1 = r.entry ∧
        P[pc]? = some (Instr.jmp ((r.lo - 1 : Nat) : Int)) := by
  rcases h.root pc h1 h2 h3 with h4 | ⟨r, hr, h4⟩
  · exact Or.inl h4
  · obtain ⟨k, hk⟩ := List.mem_iff_getElem?.1 hr
    have hj := (h.rt k r hk).jmp
    rw [← h4, Nat.add_sub_cancel] at hj
    exact Or.inr ⟨k, r, hk, h4, hj⟩

theorem TopCore.root_plain (h : TopCore P n L td SM rts) {pc : Nat} (h1 : 1 ≤ pc) (h2 : pc < n)
    (h3 : Outside rts pc) : Plain P pc := by
  intro i hi
  rcases h.root_cases h1 h2 h3 with h4 | ⟨_, _, _, _, h4⟩ <;>
    (rw [h4] at hi; rw [← Option.some.inj hi]; rfl)

theorem TopCore.outside_succ (h : TopCore P n L td SM rts) {pc : Nat} (h3 : Outside rts pc)
    (hp : P[pc]? = some Instr.potBreak) : Outside rts (pc + 1) := by
  intro r hr hin
  obtain ⟨k, hk⟩ := List.mem_iff_getElem?.1 hr
  have hj := (h.rt k r hk).jmp
  have he : r.entry = pc + 1 :=
    Nat.le_antisymm hin.1 (Nat.lt_of_not_le (fun hle => h3 r hr ⟨hle, Nat.le_of_succ_le hin.2⟩))
  rw [he, Nat.add_sub_cancel, hp] at hj
  cases hj

theorem RtOK.entry_plain {k : Nat} {r : Rt} (ok : RtOK P L td SM rts k r) : Plain P r.entry := by
  intro i hi
  by_cases hlt : r.entry < r.ret
  · refine ok.groups.head i ?_
    rw [slice_getElem?, if_pos (Nat.sub_pos_of_lt hlt), Nat.add_zero]; exact hi
  · obtain ⟨s, hs1, _⟩ := ok.retI
    rw [← Nat.le_antisymm ok.er (Nat.le_of_not_lt hlt), hi] at hs1
    rw [Option.some.inj hs1]; rfl

theorem seg_pcwf (hsame : SameCode P F) (pre sg post : List Instr) (hdec : P = pre ++ sg ++ post)
    (a : Nat) (ha : pre.length = a) (K Fk lo hi R : Nat) (ha1 : 1 ≤ a)
    (hpost : ∀ i, post[0]? = some i → notAE i = true) (hpne : post ≠ [])
    (hg : Groups (Callee rts K) Fk lo hi sg)
    (hreg : ∀ pc, a ≤ pc → pc ≤ a + sg.length → frOf rts FR pc = Fk ∧ rdOf rts pc = K)
    (hlab : ∀ l : Nat, lo ≤ l → l < hi → ∃ x : Nat, a ≤ x ∧ x ≤ a + sg.length ∧ L[l]? = some ((x : Nat) : Int) ∧ Plain P x)
    (htop : TopCore P n L td SM rts) :
    ∀ k ins, sg[k]? = some ins →
      PcWF ⟨F, SM, pb, li⟩ (frOf rts FR) (rdOf rts) R (a + k) (patch L (a + k) ins) := by
  subst ha
  intro k ins hk
  have hklt : k < sg.length := (List.getElem?_eq_some_iff.1 hk).1
  obtain ⟨pre', g, post', e, hgrp, hp', c1, c2⟩ := hg.group_at pre post hpost k hklt
  have hP : P = pre' ++ g ++ post' := hdec.trans e
  have hpos : pre'.length + (pre.length + k - pre'.length) = pre.length + k := Nat.add_sub_cancel' c1
  have hm : g[pre.length + k - pre'.length]? = some ins := by
    rw [← getElem?_seg pre' g post' (Nat.sub_lt_left_of_lt_add c1 c2), hpos, ← e, getElem?_seg pre sg post hklt]
    exact hk
  obtain ⟨hfr, hrd⟩ := hreg (pre.length + k) (Nat.le_add_right _ _) (Nat.add_le_add_left (Nat.le_of_lt hklt) _)
  have hend : pre.length + sg.length < F.length := by
    rw [hsame.length, hdec, List.length_append, List.length_append]
    exact Nat.lt_add_of_pos_right (List.length_pos_iff.2 hpne)
  have hnext : Next F (frOf rts FR) (rdOf rts) (pre.length + k) := by
    obtain ⟨g1, g2⟩ := hreg (pre.length + k + 1) (Nat.le_add_right_of_le (Nat.le_add_right _ _))
      (Nat.add_le_add_left hklt _)
    exact ⟨Nat.lt_of_le_of_lt (Nat.add_le_add_left hklt _) hend, g1.trans hfr.symm, g2.trans hrd.symm⟩
  have hjump : ∀ l : Int, LabIn l lo hi →
      JumpOK F (frOf rts FR) (rdOf rts) (pre.length + k)
        ((L[l.toNat]?).getD (-1) - ((pre.length + k : Nat) : Int)) := by
    intro l hl
    obtain ⟨x', rfl, n1, n2⟩ := hl
    obtain ⟨x, x1, x2, x3, x4⟩ := hlab x' n1 n2
    rw [Int.toNat_natCast, x3]
    obtain ⟨g1, g2⟩ := hreg x x1 x2
    exact ⟨x, by rw [Option.getD_some, Int.add_comm, Int.sub_add_cancel], Nat.le_trans ha1 x1,
      Nat.lt_of_le_of_lt x2 hend, g1.trans hfr.symm, g2.trans hrd.symm, hsame.plain x4⟩
  cases hgrp with
  | @simple i hs =>
    obtain ⟨hm0, rfl⟩ := getElem?_singleton hm
    have hpl : Plain F (pre.length + k + 1) := by
      have := plain_of_head pre' [ins] hp'
      rw [← hP, List.length_singleton, ← Nat.add_zero pre'.length, ← hm0, hpos] at this
      exact hsame.plain this
    cases ins with
    | potBreak => exact ⟨hnext, hpl⟩
    | halt => trivial
    | add t s c => exact ⟨hfr ▸ hs.1.regOK, hfr ▸ hs.2.regOK, hnext, hpl⟩
    | const t c => exact ⟨hfr ▸ RegIn.regOK hs, hnext, hpl⟩
    | test t x y => exact ⟨hfr ▸ hs.1.regOK, hfr ▸ hs.2.1.regOK, hfr ▸ hs.2.2.regOK, hnext, hpl⟩
    | jmp l => exact hjump l hs
    | jmpc l s => exact ⟨hfr ▸ hs.2.regOK, hjump l hs.1, hnext, hpl⟩
    | _ => exact hs.elim
  | @call p tgt srcs hc ht hsrc hl =>
    obtain ⟨j, r, j1, j2, j3, j4, j5, j6⟩ := hc
    have ok := htop.rt j r j2
    obtain ⟨f1, f2⟩ := htop.owner_in (FR := FR) j2 (Nat.le_refl _) ok.er
    have hidx : p.mi.toNat < rdOf rts (pre.length + k) := by rw [hrd, j3]; exact j1
    have hfacts := callSeg_facts pre' p tgt srcs hp' hm
    rw [← hP, hpos] at hfacts
    rcases hfacts with ⟨rfl, hin⟩ | ⟨i, hi, rfl, hpb, hin⟩ | ⟨rfl, hpb, hpl⟩
    · obtain ⟨sm, s1, s2⟩ := ok.smap
      refine ⟨j5 ▸ Int.natCast_nonneg _, j3 ▸ Int.natCast_nonneg _, hfr ▸ ht.regOK, ?_, hidx, hnext, hsame.inside hin⟩
      refine mapOK_intro _ _ _ sm (j3 ▸ Int.natCast_nonneg _) (by rw [j3]; exact s1) ?_
      rw [j5]; exact s2
    · refine ⟨p.stackSize, p.mi, hsame.prepBefore _ ▸ hpb, ?_, hfr ▸ (hsrc _ (List.getElem_mem hi)).regOK, hnext,
        hsame.inside hin⟩
      exact (RegIn.mono (regIn_nat hi) (hl ▸ j5 ▸ j6) : RegIn (i : Int) (p.stackSize : Int).toNat).regOK
    · refine ⟨p.stackSize, p.mi, hsame.prepBefore _ ▸ hpb, hidx, ?_, hnext, hsame.plain hpl⟩
      refine ⟨r.entry, j4, Nat.le_of_succ_le ok.e2, hsame.length ▸ Nat.lt_of_le_of_lt ok.er ok.rl,
        by rw [f1, j5]; rfl, by rw [f2, j3]; rfl, hsame.plain ok.entry_plain, ?_⟩
      show retsBefore F p.ind = _
      rw [j4, retsBefore_eq, hsame.countRet, htop.cnt j r j2, j3]; rfl

theorem localWF_of_facts (hf : PFacts P L td SM rts pre seg FR lo0) (hlen : F.length = P.length)
    (hF : ∀ pc i, P[pc]? = some i → F[pc]? = some (patch L pc i)) (hsites : sitesOKb ⟨F, SM, pb, li⟩ = true) :
    LocalWF ⟨F, SM, pb, li⟩ (frOf rts FR) (rdOf rts) rts.length := by
  have hsame : SameCode P F := patch_sameCode hlen hF
  have hc := hf.core
  have hhalt : ∀ i, [Instr.halt][0]? = some i → notAE i = true := fun i hi => by rw [← Option.some.inj hi]; rfl
  have hPlen : P.length = pre.length + seg.length + 1 := by
    rw [hf.dec, List.length_append, List.length_append, List.length_singleton]
  have hhaltP : P[pre.length + seg.length]? = some Instr.halt := by
    rw [hf.dec]; exact getElem?_after pre seg [Instr.halt] 0
  have hmainplain : ∀ k, k ≤ seg.length → (∀ i, seg[k]? = some i → notAE i = true) → Plain P (pre.length + k) :=
    fun k hk h => hf.dec ▸ plain_of_boundary pre hk h hhalt
  have hrootplain : ∀ x, 1 ≤ x → x ≤ pre.length → Outside rts x → Plain P x := fun x h1 h2 h3 =>
    (Nat.lt_or_eq_of_le h2).elim (fun hlt => hc.root_plain h1 hlt h3)
      (fun he => he ▸ hmainplain 0 (Nat.zero_le _) hf.mgroups.head)
  obtain ⟨o1, o2⟩ := owner_out (FR := FR) hc.outside_one
  refine ⟨?_, ?_, ⟨o2, ?_⟩, hsame.plain (hrootplain 1 (Nat.le_refl _) hc.n1 hc.outside_one), ?_, hsites⟩
  · have h0 : F[0]? = some (Instr.prepare (FR : Int) (rts.length : Int) 0) := hF 0 _ hf.head
    obtain ⟨sm, s1, s2⟩ := hf.rootmap
    cases hFc : F with
    | nil => rw [hFc] at h0; cases h0
    | cons x rest =>
      rw [hFc] at h0
      exact ⟨(FR : Int), (rts.length : Int), 0, rest, by rw [Option.some.inj h0], Int.natCast_nonneg _,
        mapOK_intro _ _ _ sm (Int.natCast_nonneg _) s1 s2, o1⟩
  · rw [List.getLast?_eq_getElem?, hlen, hPlen, Nat.add_sub_cancel]
    exact hF _ _ hhaltP
  · show rts.length = retsBefore F (F.length : Int)
    have hnr : ∀ i ∈ seg ++ [Instr.halt], isRet i = false := fun i hi =>
      (List.mem_append.1 hi).elim (hf.mgroups.noRet i) (fun h => by rw [List.mem_singleton.1 h]; rfl)
    rw [retsBefore_eq, hsame.countRet, hsame.length, ← hc.cntAll, hf.dec, List.append_assoc, countRet_full_append,
      filter_isRet_eq_nil hnr, countRet_append_le _ _ _ (Nat.le_refl _)]
    rfl
  · intro pc ins hpc1 hins
    show PcWF ⟨F, SM, pb, li⟩ (frOf rts FR) (rdOf rts) rts.length pc ins
    obtain ⟨i0, hi0, rfl⟩ : ∃ i0, P[pc]? = some i0 ∧ ins = patch L pc i0 := by
      have hi0 := List.getElem?_eq_getElem (hlen ▸ (List.getElem?_eq_some_iff.1 hins).1)
      exact ⟨_, hi0, Option.some.inj (hins.symm.trans (hF pc _ hi0))⟩
    by_cases hmain : pre.length ≤ pc
    · obtain ⟨m, rfl⟩ := Nat.exists_eq_add_of_le hmain
      by_cases hm : m < seg.length
      · rw [hf.dec, getElem?_seg pre seg _ hm] at hi0
        refine seg_pcwf hsame pre seg [Instr.halt] hf.dec _ rfl rts.length FR lo0 L.length rts.length hc.n1 hhalt
          (List.cons_ne_nil _ _) hf.mgroups (fun x h1 _ => owner_out (hc.outside_ge h1)) ?_
          hc _ _ hi0
        intro l h1 h2
        obtain ⟨k, k1, k2, k3⟩ := hf.mlabs l h1 h2
        exact ⟨pre.length + k, Nat.le_add_right _ _, Nat.add_le_add_left k1 _, k2, hmainplain k k1 k3⟩
      · have hlt : pre.length + m < P.length := (List.getElem?_eq_some_iff.1 hi0).1
        rw [hPlen, Nat.add_assoc] at hlt
        have hme : m = seg.length :=
          Nat.le_antisymm (Nat.le_of_lt_succ (Nat.lt_of_add_lt_add_left hlt)) (Nat.le_of_not_lt hm)
        rw [hme, hhaltP] at hi0
        rw [← Option.some.inj hi0]
        trivial
    · have hpcn : pc < pre.length := Nat.lt_of_not_le hmain
      by_cases hreg : ∃ r ∈ rts, r.entry ≤ pc ∧ pc ≤ r.ret
      · obtain ⟨r, hr, h1, h2⟩ := hreg
        obtain ⟨k, hk⟩ := List.mem_iff_getElem?.1 hr
        have ok := hc.rt k r hk
        obtain ⟨s, hs1, hs2⟩ := ok.retI
        by_cases hret : pc = r.ret
        · obtain ⟨f1, f2⟩ := hc.owner_in (FR := FR) hk h1 h2
          rw [hret, hs1] at hi0
          rw [← Option.some.inj hi0]
          show regOK s (frOf rts FR pc) = true ∧ rdOf rts pc < rts.length
          rw [f1, f2]
          exact ⟨hs2.regOK, (List.getElem?_eq_some_iff.1 hk).1⟩
        · obtain ⟨m, rfl⟩ := Nat.exists_eq_add_of_le h1
          have hm : m < r.ret - r.entry :=
            Nat.lt_sub_iff_add_lt'.2 (Nat.lt_of_le_of_ne h2 hret)
          have hend : r.entry + (slice P r.entry r.ret).length = r.ret := by
            rw [slice_length _ _ _ (Nat.le_of_lt ok.rl), Nat.add_sub_cancel' ok.er]
          have hsg : (slice P r.entry r.ret)[m]? = some i0 := by
            rw [slice_getElem?, if_pos hm]; exact hi0
          refine seg_pcwf hsame (P.take r.entry) (slice P r.entry r.ret) (P.drop r.ret)
            (slice_decomp P _ _ ok.er) r.entry (List.length_take_of_le (Nat.le_of_lt (Nat.lt_of_le_of_lt ok.er ok.rl)))
            k r.frame r.lo r.hi rts.length (Nat.le_of_succ_le ok.e2) ?_ ?_ ok.groups ?_ ?_
            hc _ _ hsg
          · intro i hi
            rw [List.getElem?_drop, Nat.add_zero, hs1] at hi
            rw [← Option.some.inj hi]; rfl
          · intro h0
            have := congrArg List.length h0
            rw [List.length_drop, List.length_nil] at this
            exact Nat.lt_irrefl _ (Nat.lt_of_lt_of_le ok.rl (Nat.le_of_sub_eq_zero this))
          · intro x x1 x2
            exact hc.owner_in hk x1 (hend ▸ x2)
          · intro l l1 l2
            obtain ⟨x, x1, x2, x3, x4⟩ := ok.labs l l1 l2
            exact ⟨x, x1, hend.symm ▸ x2, x3, x4⟩
      · have hroot : Outside rts pc := fun r hr hh => hreg ⟨r, hr, hh⟩
        obtain ⟨f1, f2⟩ := owner_out (FR := FR) hroot
        rcases hc.root_cases hpc1 hpcn hroot with h4 | ⟨k, r, hk, h4, h5⟩
        · rw [h4] at hi0
          rw [← Option.some.inj hi0]
          have hroot' := hc.outside_succ hroot h4
          obtain ⟨g1, g2⟩ := owner_out (FR := FR) hroot'
          exact ⟨⟨hsame.length ▸ hPlen ▸ Nat.succ_lt_succ (Nat.lt_of_lt_of_le hpcn (Nat.le_add_right _ _)),
              g1.trans f1.symm, g2.trans f2.symm⟩,
            hsame.plain (hrootplain (pc + 1) (Nat.le_add_left _ _) hpcn hroot')⟩
        · have ok := hc.rt k r hk
          rw [hi0] at h5
          rw [Option.some.inj h5]
          show JumpOK F (frOf rts FR) (rdOf rts) pc _
          rw [Int.toNat_natCast, ok.after]
          have hroot' := hc.outside_after hk
          obtain ⟨g1, g2⟩ := owner_out (FR := FR) hroot'
          have hrl := hc.rlt k r hk
          exact ⟨r.ret + 1, by rw [Option.getD_some, Int.add_comm, Int.sub_add_cancel], Nat.le_add_left _ _,
            hsame.length ▸ hPlen ▸ Nat.succ_lt_succ (Nat.lt_of_lt_of_le hrl (Nat.le_add_right _ _)),
            g1.trans f1.symm, g2.trans f2.symm,
            hsame.plain (hrootplain (r.ret + 1) (Nat.le_add_left _ _) hrl hroot')⟩

end

end GenWF
end Theo
