/-
  Converse of C12/C13 ("LR(1) in Knuth's sense ⇒ no conflict"), part 1:
  lists of derivation trees, and the symbols that can occur in right sentential forms of an
  augmented grammar.
-/
import Theo.Proofs.LRTable
import Theo.Proofs.Derivations

namespace Theo
namespace LRConverse
open LRSound LRComplete FirstProofs

def yields (ts : List Tree) : List Nat := (ts.map Tree.yield).flatten

theorem roots_leaves (s : List Nat) : (s.map Tree.leaf).map Tree.root = tsyms s := by
  simp [tsyms, Tree.root, Function.comp_def]

theorem yields_leaves (s : List Nat) : yields (s.map Tree.leaf) = s := by
  induction s with
  | nil => rfl
  | cons a s ih =>
    simp only [yields, List.map_cons, List.flatten_cons, Tree.yield] at ih ⊢
    rw [ih]; rfl

theorem yields_append (a b : List Tree) : yields (a ++ b) = yields a ++ yields b := by
  simp [yields]

theorem valid_leaves (G : Grammar) (s : List Nat) : ∀ t ∈ s.map Tree.leaf, t.Valid G := by
  intro t ht
  obtain ⟨a, _, rfl⟩ := List.mem_map.mp ht
  trivial

theorem trees_rd (g : Grammar) (ts : List Tree) (hv : ∀ t ∈ ts, t.Valid g) (π : List Sym) (w : List Nat) :
    RDerives g (π ++ ts.map Tree.root ++ tsyms w) (π ++ tsyms (yields ts) ++ tsyms w) := by
  have := forest_rd g (Forest.ofList ts) (valid_ofList g ts hv) π w
  rwa [roots_ofList, yield_ofList] at this

theorem trees_exposed (g : Grammar) (ts : List Tree) (hv : ∀ t ∈ ts, t.Valid g) :
    Exposed g (ts.map Tree.root) (yields ts) := by
  have := forest_exposed g (Forest.ofList ts) (valid_ofList g ts hv)
  rwa [roots_ofList, yield_ofList] at this

theorem trees_of_syms (G : Grammar) (N : Nat)
    (hp : ∀ k, k < N → ∃ t : Tree, t.Valid G ∧ t.root = .n k) :
    ∀ ψ : List Sym, (∀ s ∈ ψ, s ≠ .eps ∧ ∀ k, s = .n k → k < N) →
      ∃ ts : List Tree, ts.map Tree.root = ψ ∧ ∀ t ∈ ts, t.Valid G := by
  intro ψ
  induction ψ with
  | nil => intro _; exact ⟨[], rfl, by simp⟩
  | cons s ψ ih =>
    intro h
    obtain ⟨ts, h1, h2⟩ := ih (fun s' hs' => h s' (by simp [hs']))
    have hs := h s (by simp)
    obtain ⟨t0, hr0, hv0⟩ : ∃ t0 : Tree, t0.root = s ∧ t0.Valid G := by
      cases s with
      | eps => exact absurd rfl hs.1
      | t a => exact ⟨.leaf a, rfl, trivial⟩
      | n k => obtain ⟨t0, hv, hr⟩ := hp k (hs.2 k rfl); exact ⟨t0, hr, hv⟩
    refine ⟨t0 :: ts, by simp [hr0, h1], fun t ht => ?_⟩
    rcases List.mem_cons.mp ht with rfl | ht
    · exact hv0
    · exact h2 t ht

/-- one rule application folded into a node: the trees `ts₂` of a right-hand side of `A`, standing
    between `ts₁` and `ts₃`, become one tree with root `A` -/
theorem fold_node {G : Grammar} {A k : Nat} {ts₁ ts₂ ts₃ : List Tree}
    (hk : (G.alts A)[k]? = some (ts₂.map Tree.root)) (hv : ∀ t ∈ ts₁ ++ ts₂ ++ ts₃, t.Valid G) :
    (ts₁ ++ Tree.node A k (Forest.ofList ts₂) :: ts₃).map Tree.root =
        ts₁.map Tree.root ++ Sym.n A :: ts₃.map Tree.root ∧
      (∀ t ∈ ts₁ ++ Tree.node A k (Forest.ofList ts₂) :: ts₃, t.Valid G) ∧
      yields (ts₁ ++ Tree.node A k (Forest.ofList ts₂) :: ts₃) = yields (ts₁ ++ ts₂ ++ ts₃) := by
  refine ⟨by rw [List.map_append, List.map_cons]; rfl, fun t ht => ?_,
    by simp [yields, Tree.yield, yield_ofList]⟩
  rcases List.mem_append.1 ht with ht | ht
  · exact hv t (List.mem_append_left _ (List.mem_append_left _ ht))
  · rcases List.mem_cons.1 ht with rfl | ht
    · exact ⟨(roots_ofList ts₂).symm ▸ hk, valid_ofList G ts₂ fun t' ht' =>
        hv t' (List.mem_append_left _ (List.mem_append_right _ ht'))⟩
    · exact hv t (List.mem_append_right _ ht)

/-- a sentential-form derivation, folded into trees over its start form -/
theorem sd_trees {G : Grammar} {φ ψ : List Sym} (h : SDerives G φ ψ) :
    ∀ ts : List Tree, ts.map Tree.root = ψ → (∀ t ∈ ts, t.Valid G) →
      ∃ ts' : List Tree, ts'.map Tree.root = φ ∧ (∀ t ∈ ts', t.Valid G) ∧ yields ts' = yields ts := by
  induction h with
  | refl α => intro ts h1 h2; exact ⟨ts, h1, h2, rfl⟩
  | @step pre post rhs β n k hk _ ih =>
    intro ts h1 h2
    obtain ⟨ts1, r1, v1, y1⟩ := ih ts h1 h2
    obtain ⟨tA, tpost, rfl, r2, rfl⟩ := List.map_eq_append_iff.mp r1
    obtain ⟨tpre, trhs, rfl, rfl, rfl⟩ := List.map_eq_append_iff.mp r2
    obtain ⟨hr, hv, hy⟩ := fold_node hk v1
    exact ⟨_, hr, hv, hy.trans y1⟩

def SymOK (g : Grammar) : Sym → Prop
  | .eps => False
  | .t a => a ∈ g.terminals
  | .n k => k < g.numNT

def NTOK (g : Grammar) (s : Sym) : Prop := s ≠ .eps ∧ ∀ k, s = .n k → k < g.numNT

theorem symOK_ntOK {g : Grammar} {s : Sym} (h : SymOK g s) : NTOK g s := by
  cases s with
  | eps => exact absurd h (by simp [SymOK])
  | t a => exact ⟨by simp, fun k hk => by cases hk⟩
  | n k => exact ⟨by simp, fun k' hk => by cases hk; exact h⟩

theorem alts_symOK {g : Grammar} (hg : g.Closed) {A : Nat} {rhs : List Sym} (h : rhs ∈ g.alts A) :
    ∀ s ∈ rhs, SymOK g s := by
  intro s hs
  obtain ⟨e, he, _, ha⟩ := alts_entry h
  have h1 := (hg e he).2 rhs ha s hs
  cases s with
  | eps => exact absurd rfl h1.1
  | t a => exact alts_terminal h hs
  | n k => exact h1.2 k rfl

section Aug
variable (g : Grammar) (start eof : Nat)

theorem aug_alts_symOK (hg : g.Closed) {A : Nat} (hA : A < g.numNT) {k : Nat} {rhs : List Sym}
    (h : ((g.augment start eof).alts A)[k]? = some rhs) : ∀ s ∈ rhs, SymOK g s := by
  rw [augment_alts_lt g start eof A hA] at h
  exact alts_symOK hg (List.mem_of_getElem? h)

/-- a right sentential form of the augmented grammar is `S'` itself or consists of symbols of the
    user grammar (in particular it contains neither `S'` nor the end marker) -/
theorem rd_symOK (hg : g.Closed) (hs : start < g.numNT) {φ : List Sym}
    (h : RDerives (g.augment start eof) [.n g.numNT] φ) :
    φ = [.n g.numNT] ∨ ∀ s ∈ φ, SymOK g s := by
  induction h with
  | refl => exact Or.inl rfl
  | @tail b c _ hstep ih =>
    right
    cases hstep with
    | mk α A k β w hk =>
      rcases ih with h0 | h0
      · obtain ⟨rfl, hA, rfl⟩ := singleton_split h0.symm
        cases hA
        rw [augment_alts_S g start eof hg] at hk
        cases (getElem?_singleton hk).2
        intro s hs'
        simp only [List.nil_append, tsyms_nil, List.append_nil, List.mem_singleton] at hs'
        subst hs'
        exact hs
      · have hA : A < g.numNT := h0 (.n A) (by simp)
        intro s hs'
        simp only [List.mem_append] at hs'
        rcases hs' with (hs' | hs') | hs'
        · exact h0 s (by simp [hs'])
        · exact aug_alts_symOK g start eof hg hA hk s hs'
        · exact h0 s (by simp [hs'])

theorem sd_ntOK (hg : g.Closed) {φ ψ : List Sym} (h : SDerives (g.augment start eof) φ ψ) :
    (∀ s ∈ φ, NTOK g s) → ∀ s ∈ ψ, NTOK g s := by
  induction h with
  | refl _ => exact fun h => h
  | @step pre post rhs β n k hk _ ih =>
    intro h
    apply ih
    have hn : n < g.numNT := (h (.n n) (by simp)).2 n rfl
    intro s hs'
    simp only [List.mem_append] at hs'
    rcases hs' with (hs' | hs') | hs'
    · exact h s (by simp [hs'])
    · exact symOK_ntOK (aug_alts_symOK g start eof hg hn hk s hs')
    · exact h s (by simp [hs'])

theorem productive_aug (hg : g.Closed) (hp : g.Productive) :
    ∀ k, k < g.numNT → ∃ t : Tree, t.Valid (g.augment start eof) ∧ t.root = .n k := by
  intro k hk
  obtain ⟨w, t, hv, hr, _⟩ := hp k hk
  refine ⟨t, valid_mono (fun l a r h => ?_) t hv, hr⟩
  rwa [augment_alts_lt g start eof l (alts_lhs_lt hg (List.mem_of_getElem? h))]

end Aug

end LRConverse
end Theo
