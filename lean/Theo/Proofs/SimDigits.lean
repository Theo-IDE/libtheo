/-
  Loop-counter names: the suffix `[<id>]` of a counter's name determines the loop id
  (`ctr_suffix_inj`), since decimal digit strings are injective and contain no `[`.
-/
import Theo.Model.Basic

namespace Theo
namespace Sim

private theorem digitByte_range {c : Char} (hc : c.isDigit = true) :
    48 ≤ (c.toNat.toUInt8).toNat ∧ (c.toNat.toUInt8).toNat ≤ 57 := by
  have h := Char.isDigit_iff_toNat.mp hc
  have h0 : '0'.toNat = 48 := by decide
  have h9 : '9'.toNat = 57 := by decide
  rw [h0, h9] at h
  have : (c.toNat.toUInt8).toNat = c.toNat := by
    rw [Nat.toUInt8, UInt8.toNat_ofNat']
    exact Nat.mod_eq_of_lt (by omega)
  omega

private theorem digitByte_inj {c d : Char} (hc : c.isDigit = true) (hd : d.isDigit = true)
    (h : c.toNat.toUInt8 = d.toNat.toUInt8) : c = d := by
  have h1 := Char.isDigit_iff_toNat.mp hc
  have h2 := Char.isDigit_iff_toNat.mp hd
  have h0 : '0'.toNat = 48 := by decide
  have h9 : '9'.toNat = 57 := by decide
  rw [h0, h9] at h1 h2
  have e1 : (c.toNat.toUInt8).toNat = c.toNat := by
    rw [Nat.toUInt8, UInt8.toNat_ofNat']
    exact Nat.mod_eq_of_lt (by omega)
  have e2 : (d.toNat.toUInt8).toNat = d.toNat := by
    rw [Nat.toUInt8, UInt8.toNat_ofNat']
    exact Nat.mod_eq_of_lt (by omega)
  have : c.toNat = d.toNat := by rw [← e1, ← e2, h]
  exact Char.toNat_inj.mp this

private theorem map_digitByte_inj :
    ∀ (l1 l2 : List Char), (∀ c ∈ l1, c.isDigit = true) → (∀ c ∈ l2, c.isDigit = true) →
      l1.map (fun c => c.toNat.toUInt8) = l2.map (fun c => c.toNat.toUInt8) → l1 = l2
  | [], [], _, _, _ => rfl
  | [], _ :: _, _, _, h => by simp at h
  | _ :: _, [], _, _, h => by simp at h
  | a :: l1, b :: l2, h1, h2, h => by
    simp only [List.map_cons, List.cons.injEq] at h
    have hab : a = b := digitByte_inj (h1 a (by simp)) (h2 b (by simp)) h.1
    have ht : l1 = l2 := map_digitByte_inj l1 l2
      (fun c hc => h1 c (List.mem_cons_of_mem _ hc))
      (fun c hc => h2 c (List.mem_cons_of_mem _ hc)) h.2
    rw [hab, ht]

theorem natDigits_inj {n m : Nat} (h : natDigits n = natDigits m) : n = m := by
  unfold natDigits at h
  have hd : Nat.toDigits 10 n = Nat.toDigits 10 m :=
    map_digitByte_inj _ _
      (fun c hc => Nat.isDigit_of_mem_toDigits (by decide) (by decide) hc)
      (fun c hc => Nat.isDigit_of_mem_toDigits (by decide) (by decide) hc) h
  have := congrArg (fun l => Nat.ofDigitChars 10 l 0) hd
  simpa [Nat.ofDigitChars_ten_toDigits] using this

theorem natDigits_range {n : Nat} {b : UInt8} (hb : b ∈ natDigits n) :
    48 ≤ b.toNat ∧ b.toNat ≤ 57 := by
  unfold natDigits at hb
  obtain ⟨c, hc, rfl⟩ := List.mem_map.mp hb
  exact digitByte_range (Nat.isDigit_of_mem_toDigits (by decide) (by decide) hc)

theorem not_mem_natDigits_91 (n : Nat) : (91 : UInt8) ∉ natDigits n := by
  intro h
  have := natDigits_range h
  have e : (91 : UInt8).toNat = 91 := by decide
  omega

theorem prefix_terminator_inj {α} {x : α} :
    ∀ (A B L : List α), A ++ [x] <+: L → B ++ [x] <+: L → x ∉ A → x ∉ B → A = B
  | [], [], _, _, _, _, _ => rfl
  | [], b :: B, L, hA, hB, _, hxB => by
    cases L with
    | nil => simp at hA
    | cons y L =>
      simp only [List.nil_append, List.cons_append, List.cons_prefix_cons] at hA hB
      exact absurd (by rw [hA.1, hB.1]; simp) hxB
  | a :: A, [], L, hA, hB, hxA, _ => by
    cases L with
    | nil => simp at hA
    | cons y L =>
      simp only [List.nil_append, List.cons_append, List.cons_prefix_cons] at hA hB
      exact absurd (by rw [hA.1, hB.1]; simp) hxA
  | a :: A, b :: B, L, hA, hB, hxA, hxB => by
    cases L with
    | nil => simp at hA
    | cons y L =>
      simp only [List.cons_append, List.cons_prefix_cons] at hA hB
      have ht : A = B := prefix_terminator_inj A B L hA.2 hB.2
        (fun h => hxA (List.mem_cons_of_mem _ h)) (fun h => hxB (List.mem_cons_of_mem _ h))
      rw [hA.1, hB.1, ht]

theorem ctr_suffix_inj (id1 id2 : Nat) (nm : Bytes)
    (h1 : (([91] : Bytes) ++ natDigits id1 ++ [93]).isSuffixOf nm = true)
    (h2 : (([91] : Bytes) ++ natDigits id2 ++ [93]).isSuffixOf nm = true) : id1 = id2 := by
  rw [List.isSuffixOf_iff_suffix, ← List.reverse_prefix] at h1 h2
  have e : ∀ D : Bytes, (([91] : Bytes) ++ D ++ [93]).reverse = 93 :: (D.reverse ++ [91]) := by
    intro D; simp
  rw [e] at h1 h2
  cases hnm : nm.reverse with
  | nil => rw [hnm] at h1; simp at h1
  | cons y L =>
    rw [hnm, List.cons_prefix_cons] at h1 h2
    have hr : (natDigits id1).reverse = (natDigits id2).reverse :=
      prefix_terminator_inj _ _ L h1.2 h2.2
        (fun h => not_mem_natDigits_91 id1 (List.mem_reverse.mp h))
        (fun h => not_mem_natDigits_91 id2 (List.mem_reverse.mp h))
    exact natDigits_inj (List.reverse_inj.mp hr)

end Sim
end Theo
