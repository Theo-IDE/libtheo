/-
  C03 for the generator: the layout invariant on generator states (`LayoutInv`), kept by the
  potential-break sites between definitions; a program definition extends it by one finished
  routine (`prog_step`).
-/
import Theo.Proofs.GenWFDispatch
import Theo.Proofs.GenWFTop
import Theo.Proofs.GenShapeFin

namespace Theo
namespace GenWF
open GS Static

structure LayoutInv (gs : GS) (rts : List Rt) : Prop where
  core : TopCore gs.code gs.code.length gs.labels gs.todo gs.stackMaps rts
  head : gs.code[0]? = some (Instr.prepare (-1) (-1) 0)
  nsm : gs.stackMaps.length = rts.length
  fa : ∀ e ∈ gs.funcAddrs, Callee rts rts.length e.2
  marks : gs.top.marks = []

section
variable {gs gs' : GS} {rts : List Rt}

theorem LayoutInv.appendSites (h : LayoutInv gs rts) {k : Nat}
    (hc : gs'.code = gs.code ++ List.replicate k Instr.potBreak) (hl : gs'.labels = gs.labels)
    (ht : gs'.todo = gs.todo) (hs : gs'.symbols = gs.symbols) (hsm : gs'.stackMaps = gs.stackMaps)
    (hfa : gs'.funcAddrs = gs.funcAddrs) : LayoutInv gs' rts := by
  have hlen : gs.code.length ≤ gs'.code.length := by
    rw [hc, List.length_append]; exact Nat.le_add_right _ _
  have hag : ∀ pc, pc < gs.code.length → gs'.code[pc]? = gs.code[pc]? := fun pc h2 => by
    rw [hc, List.getElem?_append_left h2]
  have h0 := hag 0 h.core.n1
  refine ⟨?_, h0.trans h.head, hsm ▸ h.nsm, hfa ▸ h.fa, top_congr hs ▸ h.marks⟩
  rw [hl, ht, hsm]
  refine (h.core.mono (fun pc _ h2 => hag pc h2) (by rw [h0]) (Nat.le_refl _) (fun _ _ => rfl)
    (fun _ hx => hx) (fun _ _ hx => hx)).extend hlen ?_
  intro pc h1 h2
  have h3 : pc - gs.code.length < k := by
    rw [hc, List.length_append, List.length_replicate] at h2
    exact Nat.sub_lt_left_of_lt_add h1 h2
  rw [hc, List.getElem?_append_right h1, List.getElem?_replicate, if_pos h3]

theorem LayoutInv.dropSite (h : LayoutInv gs rts)
    (hc : gs.code = gs'.code ++ [Instr.potBreak]) (hl : gs'.labels = gs.labels)
    (ht : gs'.todo = gs.todo) (hs : gs'.symbols = gs.symbols) (hsm : gs'.stackMaps = gs.stackMaps)
    (hfa : gs'.funcAddrs = gs.funcAddrs) : LayoutInv gs' rts := by
  have hlen : gs.code.length = gs'.code.length + 1 := by rw [hc, List.length_append, List.length_singleton]
  have hag : ∀ pc, pc < gs'.code.length → gs'.code[pc]? = gs.code[pc]? := fun pc h2 => by
    rw [hc, List.getElem?_append_left h2]
  have hpos : 1 ≤ gs'.code.length := by
    apply Nat.pos_of_ne_zero
    intro h0
    have hh := h.head
    rw [hc, List.eq_nil_of_length_eq_zero h0] at hh
    cases hh
  have h0 := hag 0 hpos
  refine ⟨?_, h0.trans h.head, hsm ▸ h.nsm, hfa ▸ h.fa, top_congr hs ▸ h.marks⟩
  rw [hl, ht, hsm]
  refine (h.core.shrink hpos (hlen ▸ Nat.le_succ _) ?_).mono (fun pc _ h2 => hag pc h2)
    (by rw [h0]) (Nat.le_refl _) (fun _ _ => rfl) (fun _ hx => hx) (fun _ _ hx => hx)
  intro pc h1 h2
  rw [hlen] at h2
  rw [Nat.le_antisymm (Nat.le_of_lt_succ h2) h1, hc, List.getElem?_append_right (Nat.le_refl _), Nat.sub_self]
  rfl

end

theorem layoutInv_advanceLine {gs : GS} {rts : List Rt} (h : LayoutInv gs rts) (line : Int) (file : Bytes) :
    LayoutInv (gs.advanceLine line file) rts := by
  obtain ⟨k, _, ⟨a1, a4, a5, a6, a2, _, a3⟩⟩ := GenShape.advanceLine_sites gs line file
  exact h.appendSites a1 a2 a3 a4 a5 a6

theorem removeTopPotBreak_shape (gs : GS) :
    (gs.removeTopPotBreak.code = gs.code ∨ gs.code = gs.removeTopPotBreak.code ++ [Instr.potBreak]) ∧
    gs.removeTopPotBreak.labels = gs.labels ∧ gs.removeTopPotBreak.todo = gs.todo ∧
    gs.removeTopPotBreak.symbols = gs.symbols ∧ gs.removeTopPotBreak.stackMaps = gs.stackMaps ∧
    gs.removeTopPotBreak.funcAddrs = gs.funcAddrs := by
  generalize hg : gs.removeTopPotBreak = g
  unfold removeTopPotBreak at hg
  by_cases h : gs.lastIsSite = true
  · rw [if_pos h] at hg
    have hl : gs.code.getLast? = some Instr.potBreak := by
      unfold lastIsSite at h
      exact eq_of_beq h
    obtain ⟨ys, hys⟩ := List.getLast?_eq_some_iff.1 hl
    have hd : gs.code = gs.code.dropLast ++ [Instr.potBreak] := by rw [hys, List.dropLast_concat]
    dsimp only at hg
    split at hg <;> (subst hg; exact ⟨Or.inr hd, rfl, rfl, rfl, rfl, rfl⟩)
  · rw [if_neg h] at hg
    subst hg; exact ⟨Or.inl rfl, rfl, rfl, rfl, rfl, rfl⟩

theorem layoutInv_removeTopPotBreak {gs : GS} {rts : List Rt} (h : LayoutInv gs rts) :
    LayoutInv gs.removeTopPotBreak rts := by
  obtain ⟨b1, b2, b3, b4, b5, b6⟩ := removeTopPotBreak_shape gs
  rcases b1 with b1 | b1
  · exact h.appendSites (k := 0) (b1.trans (List.append_nil _).symm) b2 b3 b4 b5 b6
  · exact h.dropSite b1 b2 b3 b4 b5 b6

theorem emit_stackMaps (gs : GS) (i : Instr) : (gs.emit i).stackMaps = gs.stackMaps := rfl
theorem setLabel_stackMaps (gs : GS) (l : Nat) (p : Int) : (gs.setLabel l p).stackMaps = gs.stackMaps := rfl

theorem findReg_shift : ∀ (regs : List VReg) (n : Bytes) (k : Nat),
    (findReg regs n k).isSome = (findReg regs n 0).isSome
  | [], _, _ => rfl
  | r :: rs, n, k => by
    unfold findReg
    split
    · rfl
    · rw [findReg_shift rs n (k + 1), findReg_shift rs n (0 + 1)]

theorem argStep_wf (gs : GS) (x : Bytes) :
    (argStep gs x).code = gs.code ∧ (argStep gs x).todo = gs.todo ∧ (argStep gs x).stackMaps = gs.stackMaps ∧
    ((argStep gs x).errors = [] → gs.top.argnum ≤ gs.top.regs.length →
      (argStep gs x).top.argnum ≤ (argStep gs x).top.regs.length) := by
  unfold argStep
  by_cases hsome : (findReg gs.top.regs x 0).isSome = true
  · rw [if_pos hsome]
    obtain ⟨r1, _⟩ := fetchVar_regStep (bumpArg (gs.err GErrT.INTERNAL_ERROR)) x
    refine ⟨r1.code, r1.todo, r1.sm, fun he => ?_⟩
    have : (bumpArg (gs.err GErrT.INTERNAL_ERROR)).errors = [] := (fetchVar_errors _ x).symm.trans he
    exact absurd this (err_ne_nil gs _)
  · rw [if_neg hsome]
    obtain ⟨r1, _⟩ := fetchVar_regStep (bumpArg gs) x
    refine ⟨r1.code, r1.todo, r1.sm, fun _ h0 => ?_⟩
    have hnone : findReg (bumpArg gs).top.regs x 0 = none := by
      cases hf : findReg gs.top.regs x 0 with
      | none => exact hf
      | some i => rw [hf] at hsome; exact absurd rfl hsome
    unfold fetchVar
    dsimp only
    rw [hnone]
    show gs.top.argnum + 1 ≤ (gs.top.regs ++ [_]).length
    rw [List.length_append, List.length_singleton]
    exact Nat.succ_le_succ h0

theorem args_spec (gs : GS) (n : Node) :
    (genArgs gs n).code = gs.code ∧ (genArgs gs n).todo = gs.todo ∧ (genArgs gs n).stackMaps = gs.stackMaps ∧
    ((genArgs gs n).errors = [] → gs.top.argnum ≤ gs.top.regs.length →
      (genArgs gs n).top.argnum ≤ (genArgs gs n).top.regs.length) := by
  rw [genArgs_fold]
  refine foldl_preserves (I := fun g : GS => g.code = gs.code ∧ g.todo = gs.todo ∧ g.stackMaps = gs.stackMaps ∧
    (g.errors = [] → gs.top.argnum ≤ gs.top.regs.length → g.top.argnum ≤ g.top.regs.length)) _ ?_ _ _
    ⟨rfl, rfl, rfl, fun _ h => h⟩
  intro g x ⟨a1, a2, a3, a4⟩
  obtain ⟨b1, b2, b3, b4⟩ := argStep_wf g x
  exact ⟨b1.trans a1, b2.trans a2, b3.trans a3, fun he h0 => b4 he (a4 ((argsQuiet_step g x).errs he) h0)⟩

theorem smap_regIn (regs : List VReg) : ∀ e ∈ GenShape.smap regs, RegIn e.1 regs.length := by
  intro e he
  obtain ⟨i, r, hr, _, rfl⟩ := GenShape.mem_smap.1 he
  exact regIn_nat (List.getElem?_eq_some_iff.1 hr).1

theorem TopCore.addBody {code : List Instr} {labels : List Int} {todo : List Nat} {sms : List StackMap}
    {rts : List Rt} (h : TopCore code code.length labels todo sms rts) (hnsm : sms.length = rts.length)
    {g b : GS} {seg : List Instr} (hb : BInvS (Callee rts rts.length) g b seg)
    (hgc : g.code = code ++ [Instr.jmp ((labels.length : Nat) : Int)]) (hgl : g.labels = labels ++ [-1])
    (hgt : g.todo = todo ++ [code.length])
    (hset : ∀ x, g.labels.length ≤ x → x < b.labels.length → isSet b x)
    (s : Int) (F : Nat) (hF : b.top.regs.length ≤ F) (hs : RegIn s F) (sm : StackMap)
    (hsm : ∀ e ∈ sm.map, RegIn e.1 F) :
    TopCore (b.code ++ [Instr.ret s]) (b.code ++ [Instr.ret s]).length
      (b.labels.set labels.length (((b.code.length + 1 : Nat)) : Int)) b.todo (sms ++ [sm])
      (rts ++ [⟨code.length + 1, code.length + 1 + seg.length, F, labels.length + 1, b.labels.length, rts.length⟩]) := by
  have glab : g.labels.length = labels.length + 1 := by rw [hgl, List.length_append, List.length_singleton]
  have gcode : g.code.length = code.length + 1 := by rw [hgc, List.length_append, List.length_singleton]
  have hbc : b.code = code ++ [Instr.jmp ((labels.length : Nat) : Int)] ++ seg := by rw [hb.code, hgc]
  have hbl : b.code.length = code.length + 1 + seg.length := by rw [hb.code, List.length_append, gcode]
  have hblab : labels.length + 1 ≤ b.labels.length := glab ▸ hb.lablen
  have hne : ∀ x, labels.length + 1 ≤ x → labels.length ≠ x := fun x hx he => Nat.lt_irrefl _ (he ▸ hx)
  have core := h.addRoutine hnsm seg s F (b.labels.set labels.length (((b.code.length + 1 : Nat)) : Int)) b.todo sm
    (by rw [List.length_set]; exact hblab)
    (fun x hx => by
      rw [List.getElem?_set_ne (Nat.ne_of_gt hx), hb.labold x (glab ▸ Nat.lt_succ_of_lt hx), hgl,
        List.getElem?_append_left hx])
    (by rw [List.getElem?_set_self hblab, hbl])
    (by rw [List.length_set, ← glab]; exact hb.groups.mono (fun _ hp => hp) hF (Nat.le_refl _))
    (fun x h1 h2 => by
      rw [List.length_set] at h2
      rw [List.getElem?_set_ne (hne x h1)]
      rcases hb.labnew x (glab ▸ h1) h2 with h3 | ⟨k, k1, k2, k3⟩
      · exact absurd (by unfold isSet; rw [h3]; exact fun hx => hx rfl) (not_not_intro (hset x (glab ▸ h1) h2))
      · exact ⟨k, k1, gcode ▸ k2, k3⟩)
    (fun x hx => hb.todoOld x (hgt ▸ List.mem_append_left _ hx))
    (hb.todoOld _ (hgt ▸ List.mem_append_right _ (List.mem_singleton.2 rfl)))
    (fun k i hk hj => gcode ▸ hb.todoNew k i hk hj) hs hsm
  rw [List.length_set] at core
  rw [show b.code ++ [Instr.ret s] = code ++ [Instr.jmp ((labels.length : Nat) : Int)] ++ seg ++ [Instr.ret s] by
    rw [hbc]]
  exact core

theorem progPost_todo (b : GS) (out : Bytes) (entry : Int) (after : Nat) :
    (progPost b out entry after).todo = b.todo := by
  unfold progPost
  dsimp only
  rw [setLabel_todo, (GenShape.popSymbols_full _ _).todo, emit_todo, (fetchVar_regStep b out).1.todo]

theorem prog_body {gsB p1 res : GS} {rts : List Rt} (hB : LayoutInv gsB rts) (a o r : Node) (nm : Bytes)
    (hs : stmtShape r = true)
    (hp1 : p1 = (gsB.createLabel.1.emitBackpatched (.jmp gsB.createLabel.2)).pushSymbols nm)
    (hres : res = progPost (genS (genArgs p1 a) r) (outNameOf o) (genArgs p1 a).nextPos gsB.labels.length)
    (he : res.errors = []) :
    ∃ rt, LayoutInv res (rts ++ [rt]) ∧ res.code.getLast? ≠ some Instr.potBreak := by
  subst hres
  have p_code : p1.code = gsB.code ++ [Instr.jmp ((gsB.labels.length : Nat) : Int)] := by rw [hp1]; rfl
  have p_labels : p1.labels = gsB.labels ++ [-1] := by rw [hp1]; rfl
  have p_todo : p1.todo = gsB.todo ++ [gsB.code.length] := by rw [hp1, pushSymbols_todo, emitBackpatched_todo]; rfl
  have p_sm : p1.stackMaps = gsB.stackMaps := by rw [hp1]; rfl
  have p_fa : p1.funcAddrs = gsB.funcAddrs := by rw [hp1]; rfl
  have p_sym : p1.symbols.drop 1 = gsB.symbols := by rw [hp1]; rfl
  have p_top : p1.top = ⟨nm, [], 0, []⟩ := by rw [hp1]; rfl
  clear hp1
  have aq := argsQuiet_args p1 a
  obtain ⟨d1, d2, d3, d4⟩ := args_spec p1 a
  generalize genArgs p1 a = g at aq d1 d2 d3 d4 he ⊢
  have hgm : g.top.marks = [] := by rw [aq.marks, p_top]
  obtain ⟨hb0, hallset⟩ := (progPost_spec (genS g r) (outNameOf o) g.nextPos gsB.labels.length).errs.1 he
  have hg0 : g.errors = [] := (step_void g r).errs hb0
  have hargs : g.top.argnum ≤ g.top.regs.length := d4 hg0 (by rw [p_top]; exact Nat.le_refl _)
  have hstart : BInv (Callee rts rts.length) g g := by
    refine BInv.start (MarksWF.of_nil hgm) hgm (fun e hmem => ?_) ?_
    · rw [aq.funcAddrs, p_fa] at hmem; exact hB.fa e hmem
    · rw [d1, p_code, List.getLast?_concat]; exact fun hx => Instr.noConfusion (Option.some.inj hx)
  obtain ⟨⟨seg, hb⟩, hbregs⟩ := bi_void _ g r hs g hstart
  have stp := step_void g r
  have hacc : LabAcc (fun x => x < g.labels.length) (genS g r) :=
    stp.acc _ (fun _ x hx => Or.inr (Or.inl hx))
  clear he hstart
  generalize genS g r = b at hb hbregs stp hacc hb0 hallset ⊢
  have hset : ∀ x, g.labels.length ≤ x → x < b.labels.length → isSet b x := by
    intro x h1 h2
    rcases hacc hb0 x h2 with h3 | h3 | ⟨e, h3, h4⟩
    · exact h3
    · exact absurd h3 (Nat.not_lt.2 h1)
    · exact h4 ▸ hallset e h3
  clear hacc hallset hb0
  obtain ⟨r1, r2⟩ := fetchVar_regStep b (outNameOf o)
  have pq := GenShape.progPost_full b (outNameOf o) g.nextPos gsB.labels.length
  have ptodo := progPost_todo b (outNameOf o) g.nextPos gsB.labels.length
  generalize progPost b (outNameOf o) g.nextPos gsB.labels.length = res at pq ptodo ⊢
  have bsm : b.stackMaps = gsB.stackMaps := by rw [hb.sm, d3, p_sm]
  refine ⟨⟨gsB.code.length + 1, gsB.code.length + 1 + seg.length, (b.fetchVar (outNameOf o)).1.top.regs.length, gsB.labels.length + 1,
    b.labels.length, rts.length⟩, ⟨?_, ?_, ?_, ?_, ?_⟩, ?_⟩
  · rw [pq.code, pq.labels, ptodo, pq.stackMaps, bsm]
    exact hB.core.addBody hB.nsm hb (d1.trans p_code) (aq.labels.trans p_labels) (d2.trans p_todo) hset (b.fetchVar (outNameOf o)).2
      (b.fetchVar (outNameOf o)).1.top.regs.length r1.regs r2 ⟨b.top.name, _⟩ (smap_regIn (b.fetchVar (outNameOf o)).1.top.regs)
  · rw [pq.code, hb.code, d1, p_code]
    rw [List.append_assoc, List.append_assoc, List.getElem?_append_left hB.core.n1]
    exact hB.head
  · rw [pq.stackMaps, bsm, List.length_append, hB.nsm, List.length_append]; rfl
  · intro e hmem
    rw [pq.funcAddrs] at hmem
    rcases List.mem_cons.1 hmem with rfl | hmem
    · refine ⟨rts.length, _, by rw [List.length_append]; exact Nat.lt_succ_self _,
        by rw [List.getElem?_append_right (Nat.le_refl _), Nat.sub_self]; rfl, ?_, ?_, rfl, ?_⟩
      · show (b.stackMaps.length : Int) = _
        rw [bsm, hB.nsm]
      · show g.nextPos = _
        unfold nextPos
        rw [d1, p_code, List.length_append, List.length_singleton]
      · show b.top.argnum ≤ (b.fetchVar (outNameOf o)).1.top.regs.length
        rw [stp.argnum]
        exact Nat.le_trans hargs (Nat.le_trans hbregs r1.regs)
    · have hmem' := (List.mem_filter.1 hmem).1
      rw [hb.fa, aq.funcAddrs, p_fa] at hmem'
      exact (hB.fa e hmem').mono (by rw [List.length_append]; exact Nat.le_succ _)
        (fun j x hx => getElem?_append_some hx _)
  · rw [top_congr (pq.symbols.trans (hb.outer.trans (aq.outer.trans p_sym)))]
    exact hB.marks
  · rw [pq.code, List.getLast?_concat]
    exact fun hx => Instr.noConfusion (Option.some.inj hx)

theorem prog_step (gs0 : GS) (rts : List Rt) (tok file : Bytes) (line : Int) (l r : Node)
    (hs : stmtShape r = true) (h : LayoutInv gs0 rts)
    (he : (genS gs0 (.mk NodeT.PROGRAM tok file line l r)).errors = []) :
    ∃ rt, LayoutInv (genS gs0 (.mk NodeT.PROGRAM tok file line l r)) (rts ++ [rt]) ∧
      (genS gs0 (.mk NodeT.PROGRAM tok file line l r)).code.getLast? ≠ some Instr.potBreak := by
  generalize hres : genS gs0 (.mk NodeT.PROGRAM tok file line l r) = res at he ⊢
  rw [genS_program] at hres
  exact prog_body (layoutInv_removeTopPotBreak (layoutInv_advanceLine h line file)) l.right.left l.right.right r
    l.left.tok hs rfl hres.symm he

end GenWF
end Theo
