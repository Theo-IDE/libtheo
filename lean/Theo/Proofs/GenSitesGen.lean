/-
  C07 for the generator model: the whole tree — the definitions in text order pass
  `siteProgs`, then the main statements — and `gen`: the root frame, the final HALT and
  backpatching leave the line table alone; `gen_sites`.
-/
import Theo.Proofs.GenSitesProg
import Theo.Proofs.GenShapeGen

namespace Theo
namespace GenSites
open GS Sem Static GenShape Layout

theorem removeTop_noSite (gs : GS) (hl : LastNS gs.code) : gs.removeTopPotBreak = gs := by
  unfold removeTopPotBreak
  have : gs.lastIsSite = false := by
    unfold lastIsSite
    obtain ⟨i, h1, h2⟩ := hl
    rw [h1]
    simp
    exact h2
  rw [this]
  simp

theorem removeTop_moved {gs gs0 : GS} {file : Bytes} {line : Int} (mv : Moved gs gs0 file line)
    (ht : TInv (fun _ => True) gs) :
    gs0.removeTopPotBreak.lineInfo = gs.lineInfo ∧ gs0.removeTopPotBreak.fsName = file ∧ gs0.removeTopPotBreak.fsLine = line := by
  have hlast : gs0.lastIsSite = true := by
    unfold lastIsSite; rw [mv.code]; simp
  have hpos : gs0.nextPos - 1 = (gs.code.length : Int) := by
    unfold nextPos; rw [mv.code]; simp
  have hne : ∀ e ∈ gs.lineInfo, e.1 ≠ (gs.code.length : Int) := by
    intro e he
    have := (ht.1.rng e he).2
    omega
  have hfind : (gs0.lineInfo.find? (fun e => e.1 = gs0.nextPos - 1)).map (·.2) = some ⟨file, line⟩ := by
    rw [hpos, mv.lineInfo, List.find?_append]
    have : gs.lineInfo.find? (fun e => decide (e.1 = (gs.code.length : Int))) = none := by
      rw [List.find?_eq_none]
      intro e he
      simpa using hne e he
    rw [this]
    simp
  have hfilter : gs0.lineInfo.filter (fun e => e.1 ≠ gs0.nextPos - 1) = gs.lineInfo := by
    rw [hpos, mv.lineInfo, List.filter_append]
    have : gs.lineInfo.filter (fun e => decide (e.1 ≠ (gs.code.length : Int))) = gs.lineInfo := by
      rw [List.filter_eq_self]
      intro e he
      simpa using hne e he
    rw [this]
    simp
  unfold removeTopPotBreak
  rw [hlast]
  simp only [if_true]
  rw [hfind]
  exact ⟨hfilter, mv.fsName, mv.fsLine⟩

/-- what the two `advanceLine` of `SPLIT (PROGRAM …)` and `removeTopPotBreak` do, when the SPLIT and
    PROGRAM nodes lie as clause 6 of Spec/Layout.lean asks (`hso`, from `splitOK`) -/
theorem prog_hdr (gs : GS) (s : LSt) (hctx : Ctx gs s) (ht : TInv (fun _ => True) gs) (hl : LastNS gs.code)
    (file : Bytes) (line : Int) (file2 : Bytes) (line2 : Int)
    (hso : onLine s.file s.line file line = true ∨ (file2 = file ∧ line2 = line)) :
    ∃ k0, k0 ≤ 1 ∧ Sites gs ((gs.advanceLine line file).advanceLine line2 file2) k0 ∧
      ((gs.advanceLine line file).advanceLine line2 file2).removeTopPotBreak.lineInfo = gs.lineInfo ∧
      TInv (fun _ => True) ((gs.advanceLine line file).advanceLine line2 file2).removeTopPotBreak ∧
      Ctx ((gs.advanceLine line file).advanceLine line2 file2).removeTopPotBreak
        (if isStd file2 then ⟨s.file, s.line, .fresh⟩ else ⟨file2, line2, .fresh⟩) := by
  have h00 : (gs.advanceLine line file).advanceLine line2 file2 = gs.advanceLine line2 file2 := by
    rcases hso with h | ⟨h1, h2⟩
    · rw [advanceLine_onLine gs line file (by rw [hctx.file, hctx.line]; exact h)]
    · subst h1; subst h2; exact advanceLine_idem gs line2 file2
  have same : Sites gs gs 0 := ⟨(List.append_nil _).symm, rfl, rfl, rfl, rfl, rfl, rfl⟩
  rw [h00]
  by_cases hstd : isStd file2 = true
  · have hstd' : file2 = ConstGen.genStdFileName := by simpa [isStd] using hstd
    rw [advanceLine_std gs line2 file2 hstd', removeTop_noSite gs hl, if_pos hstd]
    exact ⟨0, Nat.zero_le _, same, rfl, ht, ⟨hctx.file, hctx.line⟩⟩
  · have hstd' : file2 ≠ ConstGen.genStdFileName := by simpa [isStd] using hstd
    rw [if_neg hstd]
    by_cases hsame : file2 = gs.fsName ∧ line2 = gs.fsLine
    · rw [advanceLine_same gs line2 file2 hsame.1 hsame.2, removeTop_noSite gs hl]
      exact ⟨0, Nat.zero_le _, same, rfl, ht, ⟨hsame.1.symm, hsame.2.symm⟩⟩
    · obtain ⟨a, b, c⟩ := removeTop_moved (moved_of gs line2 file2 hstd' hsame ht) ht
      refine ⟨1, Nat.le_refl _, ?_, a, (ht.advanceLine trivial).removeTopPotBreak, ⟨b, c⟩⟩
      rw [advanceLine_move gs line2 file2 hstd' hsame]
      exact ⟨rfl, rfl, rfl, rfl, rfl, rfl, rfl⟩

theorem topLay_prog (tok file : Bytes) (line : Int) (tok2 file2 : Bytes) (line2 : Int) (l2 r2 r : Node) (s : LSt) :
    topLay (.mk NodeT.SPLIT tok file line (.mk NodeT.PROGRAM tok2 file2 line2 l2 r2) r) s =
      (splitOK s file line (.mk NodeT.PROGRAM tok2 file2 line2 l2 r2) &&
        (match stmtLay r2 (if isStd file2 then ⟨s.file, s.line, .fresh⟩ else ⟨file2, line2, .fresh⟩) with
         | some s2 => topLay r ⟨s2.file, s2.line, .fresh⟩
         | none => false)) := by
  rw [topLay, if_pos ⟨rfl, rfl⟩]
  rfl

theorem siteProgs_nil (P : Program) (src : Source) (i : Nat) (infos : List RInfo) (pc : Nat) :
    siteProgs P src [] i infos pc = some (infos, pc) := by rw [siteProgs]

theorem topLay_main {root : Node} (hs : stmtShape root = true) (s : LSt) :
    topLay root s = (stmtLay root s).isSome := by
  cases root with
  | nil => rw [topLay, stmtLay_nil]; rfl
  | mk t tok file line l r =>
    rw [topLay, if_neg]
    rintro ⟨rfl, hl⟩
    -- a definition is no statement
    cases l with
    | nil => cases hl
    | mk t2 _ _ _ _ _ =>
      obtain rfl : t2 = NodeT.PROGRAM := hl
      cases hs

structure TopOut (P : Program) (src : Source) (L : List Int) (gs b : GS) (k : Nat) (infos : List RInfo) : Prop where
  progs : ∃ infos' gm exp w kk t s', siteProgs P src (src.progs.drop k) k infos gs.code.length = some (infos', gm.code.length) ∧
    Head gm ∧ gm.lineInfo <+: b.lineInfo ∧
    BodyOut ⟨P.code, L, b.top.regs, src, src.progs.length, infos', 0⟩ gm b src.main s' exp w kk t
  li : gs.lineInfo <+: b.lineInfo

theorem site_top {P : Program} {src : Source} {L : List Int}
    (hst : ∀ r, r ≤ src.progs.length → Static.routineOK src r = true) (hpar : ∀ pd ∈ src.progs, pd.params.Nodup)
    (hLS : LiSorted P.lineInfo) : ∀ root : Node, AstShape root = true → astNames root = true →
    ∀ (gs : GS) (k : Nat) (infos : List RInfo) (ps : List ProgDef), TopAt src root gs k infos ps →
    Fits P L (genS gs root) →
    TInv (fun _ => True) gs → ∀ s : LSt, Ctx gs s → s.kind = LKind.fresh → topLay root s = true →
    (genS gs root).lineInfo <+: P.lineInfo →
    TopOut P src L gs (genS gs root) k infos := by
  apply astNames_induction
  case main =>
    intro root hs' hn' hl' gs k infos ps T F ht s hctx hfresh hlay hLI
    obtain rfl := T.atMain hs'
    rw [topLay_main hs'] at hlay
    obtain ⟨s', hs1⟩ := Option.isSome_iff_exists.1 hlay
    obtain ⟨exp, w, kk, t, bo⟩ := site_body (T.bodyCtx hs' hn' (hst _ (Nat.le_refl _)) F) hs' hn' hl' ht s s' hs1 hctx hfresh
    rw [T.main] at bo
    refine ⟨⟨infos, gs, exp, w, kk, t, s', ?_, T.head, by rw [bo.li]; exact prefix_append_self _ _, bo⟩,
      by rw [bo.li]; exact prefix_append_self _ _⟩
    rw [List.drop_of_length_le (Nat.le_refl _)]
    exact siteProgs_nil _ _ _ _ _
  case prog =>
    intro tok file line tok2 file2 line2 l2 r2 r hs2 hsr hpn hn2 hlab hnr ih gs k infos ps T F ht s hctx hfresh hlay hLI
    rw [topLay_prog, Bool.and_eq_true] at hlay
    obtain ⟨hso, hlay2⟩ := hlay
    obtain ⟨s2, hb2, hrest⟩ : ∃ s2, stmtLay r2 (if isStd file2 then ⟨s.file, s.line, .fresh⟩ else ⟨file2, line2, .fresh⟩) = some s2 ∧
        topLay r ⟨s2.file, s2.line, .fresh⟩ = true := by
      cases hb : stmtLay r2 (if isStd file2 then ⟨s.file, s.line, .fresh⟩ else ⟨file2, line2, .fresh⟩) with
      | none => rw [hb] at hlay2; cases hlay2
      | some s2 => rw [hb] at hlay2; exact ⟨s2, rfl, hlay2⟩
    have hso' : onLine s.file s.line file line = true ∨ (file2 = file ∧ line2 = line) := by
      unfold splitOK at hso
      rw [Bool.or_eq_true] at hso
      rcases hso with h | h
      · exact Or.inl h
      · simp only [Node.file, Node.line, Bool.and_eq_true] at h
        exact Or.inr ⟨of_decide_eq_true h.1.2, of_decide_eq_true h.2⟩
    rw [genS_split, dispatchVoid_program] at F hLI ⊢
    obtain ⟨k0, hk0, h0, hrli, hrt, hrctx⟩ := prog_hdr gs s hctx ht T.last file line file2 line2 hso'
    generalize (gs.advanceLine line file).advanceLine line2 file2 = gs00 at *
    obtain ⟨hget, hdrop, T', _, _⟩ := T.step hpar hs2 hn2 h0
    have hklt : k < src.progs.length := (List.getElem?_eq_some_iff.1 hget).1
    have hnd : (namesOf l2.right.left).Nodup := hpar _ (List.mem_of_getElem? hget)
    have hfresh1 : (if isStd file2 then (⟨s.file, s.line, .fresh⟩ : LSt) else ⟨file2, line2, .fresh⟩).kind = LKind.fresh := by
      split <;> rfl
    obtain ⟨exp0, po, hstep⟩ := site_prog P src L l2 r2 k infos ps (src.progs.drop (k + 1)) h0 hk0 T.toTopInv hs2 hn2 hlab hpn
      hget (hst k (Nat.le_of_lt hklt)) hnd (F.back (top_gen hpar r hsr hnr _ _ _ _ T').2.2) hrli hrt _ s2 hrctx hfresh1 hb2
    obtain ⟨⟨infos', gm, exp, w, kk, tt, s', c1, c2, c3, c4⟩, hli⟩ := ih _ _ _ _ T' F
      (tinv_progRes hrt l2 r2) ⟨s2.file, s2.line, .fresh⟩ ⟨po.ctx.file, po.ctx.line⟩ rfl hrest hLI
    refine ⟨⟨infos', gm, exp, w, kk, tt, s', ?_, c2, c3, c4⟩, ?_⟩
    · rw [hdrop]; exact hstep _ (hli.trans hLI) hLS c1
    · refine List.IsPrefix.trans ?_ hli
      rw [po.li]; exact prefix_append_self _ _

theorem siteCheck_ok (src : Source) (P : Program) (hshape : shapeCheck src P = true) (infos : List RInfo) (pc : Nat)
    (h1 : siteProgs P src src.progs 0 [] 1 = some (infos, pc)) (sm : StackMap)
    (h2 : P.stackMaps[src.progs.length]? = some sm) (exp : List ESite) (w : Walk) (kk : Nat) (prev : Prev)
    (h3 : sitesStmts ⟨P.code, src, ⟨0, src.progs.length, sm.map⟩, src.progs.length, infos⟩ src.main ⟨pc, [], []⟩ 0 none =
      some (exp, w, kk, prev))
    (h4 : regionSitesOK P exp pc P.code.length = true) (h5 : jumpsExact exp w = true)
    (h6 : (sitePositions P.code 0 1).isEmpty = true) : siteCheck src P = true := by
  unfold siteCheck
  simp only [hshape, h1, h2, h3, Bool.true_and]
  simp [h4, h5, h6]

theorem backpatchOne_lineInfo (g : GS) (loc : Nat) : (backpatchOne g loc).lineInfo = g.lineInfo := by
  unfold backpatchOne
  split
  · dsimp only; split <;> rfl
  · dsimp only; split <;> rfl
  · rfl

theorem backpatch_lineInfo (g : GS) : (backpatch g).lineInfo = g.lineInfo := by
  unfold backpatch
  have : ∀ (l : List Nat) (g : GS), (l.foldl backpatchOne g).lineInfo = g.lineInfo := by
    intro l
    induction l with
    | nil => intro g; rfl
    | cons x xs ih => intro g; simp only [List.foldl_cons]; rw [ih, backpatchOne_lineInfo]
  rw [this]

theorem fixHead_lineInfo (c : GS) : (fixHead c).lineInfo = c.lineInfo := by
  unfold fixHead
  split <;> rfl

theorem genFin_lineInfo (b : GS) : (genFin b).lineInfo = b.lineInfo := by
  unfold genFin
  rw [backpatch_lineInfo]
  show (fixHead _).lineInfo = _
  rw [fixHead_lineInfo, (nosite_popSymbols b 0).lineInfo]

theorem gen_sites (root : Node) (h : AstShape root = true) (hs : staticOK (toSource root) = true)
    (hn : astNames root = true) (hl : OneStmtPerLine root = true) :
    siteCheck (toSource root) (gen ⟨true, [], root⟩).code = true := by
  have hshape := gen_shape root h hs hn
  obtain ⟨hst, hpar⟩ := staticOK_split hs
  have hsorted : LiSorted (gen ⟨true, [], root⟩).code.lineInfo := (gen_TI' ⟨true, [], root⟩).liS
  obtain ⟨tl, hbc, _, h3, hag2, hfinlen, hhead, hes⟩ := gen_frame root h hn hpar
  have heli := genFin_lineInfo (genS gs1 root)
  rw [gen_code] at hshape hsorted ⊢
  generalize genFin (genS gs1 root) = fin at *
  obtain ⟨⟨infos, gm, exp, w, kk, t, s', c1, c2, c3, bo⟩, _⟩ :=
    site_top (P := ⟨fin.code, fin.stackMaps, fin.potBreaks, fin.lineInfo⟩) hst hpar hsorted root h hn _ _ _ _ (TopAt.init root)
      ⟨hag2.of_prefix (prefix_append_self _ _), by intro l v hl _; rw [hl]; rfl,
       by show _ <+: fin.stackMaps; rw [hes]; exact prefix_append_self _ _⟩
      (TInv.init _) ⟨ConstGen.rootFsName, ConstGen.rootFsLine, .fresh⟩ ⟨rfl, rfl⟩ rfl hl
      (by show _ <+: fin.lineInfo; rw [heli]; exact List.prefix_refl _)
  generalize genS gs1 root = b at *
  rw [List.drop_zero] at c1
  refine siteCheck_ok (toSource root) _ hshape infos gm.code.length c1 ⟨bRoot, smap b.top.regs⟩ ?_ exp w kk (prevOf s') bo.walk ?_ bo.jumps ?_
  · show fin.stackMaps[(toSource root).progs.length]? = _
    rw [hes, ← h3, getElem?_snoc_len]
  · refine region_ok _ b.labels (b.code ++ [Instr.halt]) gm.code.length (t ++ [Instr.halt]) exp hag2 (head_pos c2)
      (by rw [hfinlen]; simp) ?_ ?_ ?_ hsorted ?_
    · rw [bo.code]; simp
    · intro i hi
      rw [bo.code, List.append_assoc, List.getElem?_append_right (Nat.le_add_right _ _), Nat.add_sub_cancel_left]
    · rw [pbPos_append, bo.pbs, pbPos_one (by intro h; cases h), List.append_nil]
    · intro x hx
      show liOf x ∈ fin.lineInfo
      rw [heli, bo.li]
      exact List.mem_append_right _ (List.mem_map_of_mem (f := liOf) hx)
  · show (sitePositions fin.code 0 1).isEmpty = true
    unfold sitePositions
    simp [hhead]

end GenSites
end Theo
