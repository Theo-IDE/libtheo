/-
  C02 (located errors): the recursive-descent parser.
  For a predicate `P` on positions that holds for the placeholder ("-", -1) and for every token of
  the input stream:
    * every syntax error is at a position satisfying `P` (errors are reported at the current
      token, or at the synthetic end-of-input token ("-", -1));
    * when no error is recorded, every node of the tree has a position satisfying `P` (leaves take
      the position of a token of the input, inner nodes copy the position of a node that exists);
      by induction on the tree of the run, `C04.Built`.
-/
import Theo.Proofs.ParseProofs
import Theo.Proofs.LocatedMacro

namespace Theo
namespace Loc
open C04

def PSInv (P : Bytes → Int → Prop) (ps : PS) : Prop :=
  P bDash (-1) ∧ ToksP P ps.ts ∧ ∀ e ∈ ps.errs, P e.file e.line

section
variable {P : Bytes → Int → Prop}

theorem cur_P {ps : PS} (h : PSInv P ps) : P ps.cur.file ps.cur.line := by
  unfold PS.cur
  cases hts : ps.ts with
  | nil => exact h.1
  | cons t r => exact h.2.1 t (by rw [hts]; simp)

theorem inv_err {ps : PS} (h : PSInv P ps) (k : SynKind) : PSInv P (ps.err k) :=
  ⟨h.1, h.2.1, forall_snoc h.2.2 (cur_P h)⟩

theorem inv_matchK {ps : PS} (h : PSInv P ps) (k : Nat) : PSInv P (ps.matchK k) := by
  refine ⟨h.1, h.2.1.sub (matchK_spec ps k).1.subset, ?_⟩
  rcases (matchK_spec ps k).2 with ⟨_, e, _⟩ | ⟨_, e⟩ <;> rw [e]
  · exact h.2.2
  · exact (inv_err h _).2.2

theorem psInv_all (f : Nat) : Kept (PSInv P) f :=
  kept_all (I := PSInv P) (fun h => inv_err h _) (fun h => inv_matchK h _) f

theorem inv_pEEOS {ps : PS} (h : PSInv P ps) (f : Nat) : PSInv P (pEEOS f ps) := (psInv_all f).eeos h
theorem inv_pMOREP {ps : PS} (h : PSInv P ps) (f : Nat) : PSInv P (pMOREP f ps).2 := (psInv_all f).morep h
theorem inv_pMVARGS {ps : PS} (h : PSInv P ps) (f : Nat) : PSInv P (pMVARGS f ps).2 := (psInv_all f).mv h

theorem parseTokens_errs (ts : List Token) (hd : P bDash (-1)) (ht : ToksP P ts) :
    ∀ e ∈ (parseTokens ts).2, P e.file e.line := by
  rw [parseTokens_snd]
  have h0 : PSInv P ⟨ts, []⟩ := ⟨hd, ht, List.forall_mem_nil _⟩
  exact (kept_trailing (I := PSInv P) (fun h => inv_err h _) (fun h => inv_matchK h _) _ _
    ((psInv_all _).s h0)).2.2

theorem nodeP_leaf {t : Nat} {tok file : Bytes} {line : Int} (h : P file line) :
    NodeP P (.mk t tok file line .nil .nil) := ⟨h, trivial, trivial⟩

theorem nodeP_at {t k : Nat} {tok file : Bytes} {line : Int} {l r : Node} (h : P file line)
    (hl : NodeP P l) (hr : NodeP P r) : NodeP P (mkAt t (.mk k tok file line .nil .nil) l r) :=
  ⟨h, hl, hr⟩

theorem nodeP_mkAt {t : Nat} {n l r : Node} (hn : n ≠ .nil) (hp : NodeP P n) (hl : NodeP P l)
    (hr : NodeP P r) : NodeP P (mkAt t n l r) := by
  cases n with
  | nil => exact absurd rfl hn
  | mk _ _ f li a b => exact ⟨hp.1, hl, hr⟩

theorem ToksP.hd {t : Token} {r : List Token} (h : ToksP P (t :: r)) : P t.file t.line :=
  h t List.mem_cons_self
theorem ToksP.tl {t : Token} {r : List Token} (h : ToksP P (t :: r)) : ToksP P r :=
  fun x hx => h x (List.mem_cons_of_mem _ hx)

theorem built_nodeP {k : RK} {ts ts' : List Token} {n : Node} (h : Built k ts ts' n) :
    ToksP P ts → NodeP P n ∧ ToksP P ts' := by
  induction h with
  | s_prog _ _ _ _ _ _ _ ih1 ih2 ih3 =>
    intro h
    have c := h.tl.hd
    obtain ⟨n1, h1⟩ := ih1 h.tl.tl
    obtain ⟨n2, h2⟩ := ih2 h1.tl
    obtain ⟨n3, h3⟩ := ih3 h2.tl
    exact ⟨nodeP_at c (nodeP_at c (nodeP_at c (nodeP_leaf c) n1)
      (nodeP_at c n2 (nodeP_at h2.hd (nodeP_leaf h2.hd) trivial))) n3, h3⟩
  | s_p _ _ ih => exact ih
  | ports_nil _ => exact fun h => ⟨trivial, h⟩
  | ports_in _ ha _ ih1 ih2 =>
    intro h
    obtain ⟨n1, h1⟩ := ih1 h.tl
    obtain ⟨n2, h2⟩ := ih2 h1
    exact ⟨nodeP_mkAt ha.args_ne_nil n1 n1 n2, h2⟩
  | oports_nil _ => exact fun h => ⟨trivial, h⟩
  | oports_out _ _ => exact fun h => ⟨nodeP_leaf h.tl.hd, h.tl.tl⟩
  | args_one _ _ => exact fun h => ⟨nodeP_at h.hd (nodeP_leaf h.hd) trivial, h.tl⟩
  | args_more _ _ _ ih =>
    intro h
    obtain ⟨n1, h1⟩ := ih h.tl.tl
    exact ⟨nodeP_at h.hd (nodeP_leaf h.hd) n1, h1⟩
  | p_assign _ _ _ _ ih1 ih2 =>
    intro h
    have c := h.hd
    obtain ⟨n1, h1⟩ := ih1 h.tl.tl
    obtain ⟨n2, h2⟩ := ih2 h1
    exact ⟨nodeP_at c (nodeP_at c (nodeP_leaf c) n1) n2, h2⟩
  | p_label _ _ _ _ ih1 ih2 =>
    intro h
    have c := h.hd
    obtain ⟨n1, h1⟩ := ih1 h.tl.tl
    obtain ⟨n2, h2⟩ := ih2 h1
    exact ⟨nodeP_at c (nodeP_at c (nodeP_at c (nodeP_leaf c) trivial) n1) n2, h2⟩
  | p_loop _ _ _ _ _ _ ih1 ih2 =>
    intro h
    have c := h.tl.hd
    obtain ⟨n1, h1⟩ := ih1 h.tl.tl.tl
    obtain ⟨n2, h2⟩ := ih2 h1.tl
    exact ⟨nodeP_at c (nodeP_at c (nodeP_at c (nodeP_leaf c) n1) (nodeP_at h1.hd (nodeP_leaf h1.hd) trivial)) n2, h2⟩
  | p_while _ _ _ _ _ _ _ ih1 ih2 =>
    intro h
    have c := h.tl.hd
    obtain ⟨n1, h1⟩ := ih1 h.tl.tl.tl.tl
    obtain ⟨n2, h2⟩ := ih2 h1.tl
    exact ⟨nodeP_at c (nodeP_at c (nodeP_at c (nodeP_leaf c) n1) (nodeP_at h1.hd (nodeP_leaf h1.hd) trivial)) n2, h2⟩
  | p_goto _ _ _ ih =>
    intro h
    have c := h.tl.hd
    obtain ⟨n1, h1⟩ := ih h.tl.tl
    exact ⟨nodeP_at c (nodeP_at c (nodeP_leaf c) trivial) n1, h1⟩
  | p_if _ _ _ _ _ _ _ _ ih =>
    intro h
    have c := h.tl.hd
    have c7 := h.tl.tl.tl.tl.tl.tl.hd
    obtain ⟨n1, h1⟩ := ih h.tl.tl.tl.tl.tl.tl.tl
    exact ⟨nodeP_at c (nodeP_at c (nodeP_at c (nodeP_leaf c) (nodeP_leaf h.tl.tl.tl.hd))
      (nodeP_at c7 (nodeP_leaf c7) trivial)) n1, h1⟩
  | p_stop _ _ ih =>
    intro h
    obtain ⟨n1, h1⟩ := ih h.tl
    exact ⟨nodeP_at h.hd (nodeP_leaf h.hd) n1, h1⟩
  | tail_nil _ => exact fun h => ⟨trivial, h⟩
  | tail_semi _ _ ih => exact fun h => ih h.tl
  | value_id _ => exact fun h => ⟨nodeP_leaf h.hd, h.tl⟩
  | value_int _ => exact fun h => ⟨nodeP_leaf h.hd, h.tl⟩
  | value_run0 _ _ _ _ =>
    exact fun h => ⟨nodeP_at h.tl.hd (nodeP_leaf h.tl.hd) trivial, h.tl.tl.tl.tl⟩
  | value_runargs _ _ _ hv _ _ ih1 ih2 =>
    intro h
    have c := h.tl.hd
    obtain ⟨n1, h1⟩ := ih1 h.tl.tl.tl
    obtain ⟨n2, h2⟩ := ih2 h1
    exact ⟨nodeP_at c (nodeP_leaf c) (nodeP_mkAt hv.value_ne_nil n1 n1 n2), h2.tl⟩
  | mv_nil _ => exact fun h => ⟨trivial, h⟩
  | mv_more _ hv _ ih1 ih2 =>
    intro h
    obtain ⟨n1, h1⟩ := ih1 h.tl
    obtain ⟨n2, h2⟩ := ih2 h1
    exact ⟨nodeP_mkAt hv.value_ne_nil n1 n1 n2, h2⟩

theorem parseTokens_root (ts : List Token) (ht : ToksP P ts)
    (he : (parseTokens ts).2 = []) : NodeP P (parseTokens ts).1 :=
  let ⟨_, h, _⟩ := parseTokens_built ts he
  (built_nodeP h ht).1

end
end Loc
end Theo
