/-
  Soundness of the LR(1) driver on the generated tables (C13; used by C09 / C12).
-/
import Theo.Proofs.LRTable

namespace Theo
namespace LRSound

theorem stk_drop {S : List LRState} {sts : List Nat} {syms : List Sym} (h : Stk S sts syms) :
    ∀ k, k ≤ syms.length → Stk S (sts.drop k) (syms.drop k) := by
  induction h with
  | base => intro k hk; cases Nat.le_zero.1 hk; exact Stk.base
  | push hprev hq hX ih =>
    intro k hk
    cases k with
    | zero => exact Stk.push hprev hq hX
    | succ k => exact ih k (Nat.le_of_succ_le_succ hk)

section Driver
variable (g : Grammar) (start eof : Nat) (pm : Bool) (fi : FirstInfo) (S : List LRState) (T : Tables)

theorem TabOK.cell {ga : Grammar} {pm : Bool} {S : List LRState} {action : List (List Action)}
    {goto : List (List Int)} (hT : TabOK ga pm S action goto) {q a : Nat} {row : List Action}
    {c : Action} (hrow : action[q]? = some row) (hc : (row[a]?).getD .err = c) :
    ∃ st, S[q]? = some st ∧ CellOK ga pm st a c := by
  obtain ⟨st, hst, hrowok⟩ := hT.1 q _ hrow
  exact ⟨st, hst, hc ▸ hrowok a⟩

/-- what a move of the tables does to the symbols spelled by the state stack -/
theorem move_sound (hg : g.Closed) (hs : start < g.numNT)
    (hS : CInv (g.augment start eof) fi (hull (g.augment start eof) fi [⟨g.numNT, 0, 0, .t eof⟩]) S)
    (hT : TabOK (g.augment start eof) pm S T.action T.goto) {a n : Nat} {sts : List Nat}
    {syms : List Sym} {m : Move} (hstk : Stk S sts syms) (hn : syms.length = n)
    (hm : Moves T a n sts m) :
    match m with
    | .shift s' => Stk S (s' :: sts) (.t a :: syms)
    | .reduce l al beta sp rest' j => (g.alts l)[al]? = some (syms.take beta).reverse ∧
        Stk S (j :: sp :: rest') (.n l :: syms.drop beta)
    | .accept => syms = [.n start] ∧ (pm = false → a = eof)
    | _ => True := by
  subst hn
  cases hm with
  | shift hrow _ hc =>
    obtain ⟨st, hst, hcell⟩ := hT.cell hrow hc
    exact Stk.push hstk hst hcell
  | accept hrow _ hc =>
    obtain ⟨st, hst, it, hit, hdot, hl, hfol⟩ := hT.cell hrow hc
    have ok := stk_items g start eof fi S hg hs hS hstk st hst it hit
    have hl' : it.left = g.numNT := hl.trans (augment_sPrime g start eof)
    obtain ⟨_, hrhs, hf⟩ := good_S g start eof hg ok.good hl'
    refine ⟨ok.s1 hl' (by rw [hdot, hrhs]; rfl), fun hpm => ?_⟩
    rcases hfol with hfol | hfol
    · rw [hf] at hfol; exact hfol.symm
    · rw [hpm] at hfol; cases hfol
  | @reduce _ _ row l al beta sp rest' j hrow _ hc hbv hd hgo hj0 =>
    obtain ⟨st, hst, it, hit, hdot, hlne, rfl, rfl, rfl⟩ := hT.cell hrow hc
    obtain ⟨grow, hgrow, hgj⟩ := Option.bind_eq_some_iff.1 hgo
    have ok := stk_items g start eof fi S hg hs hS hstk st hst it hit
    have hleft : it.left < g.numNT :=
      ok.good.left_ok.resolve_right (fun h1 => hlne (h1.1.trans (augment_sPrime g start eof).symm))
    -- the top symbols spell the right-hand side, last symbol first
    have hpre := ok.pre
    rw [hdot, List.take_length] at hpre
    have hstk' := hd ▸ stk_drop hstk _ hbv
    obtain ⟨stp, hstp, hgrowok⟩ := hT.2 sp grow hgrow
    refine ⟨?_, Stk.push hstk' hstp (hgrowok it.left j hgj hj0)⟩
    rw [← List.length_reverse, ← List.prefix_iff_eq_take.mp hpre, List.reverse_reverse,
      ← augment_alts_lt g start eof _ hleft]
    exact rhs_get ok.good.alt_lt
  | _ => trivial

theorem driver_sound (hg : g.Closed) (hs : start < g.numNT)
    (hS : CInv (g.augment start eof) fi (hull (g.augment start eof) fi [⟨g.numNT, 0, 0, .t eof⟩]) S)
    (hT : TabOK (g.augment start eof) pm S T.action T.goto) (inp : List Nat) (v : Tree) (fuel : Nat)
    (h : lrParse T (fun (t : Nat) => t) Tree.leaf nodeAct fuel inp [0] [] = .accept v) :
    v.Valid g ∧ v.root = .n start ∧
      ∃ c a r, c ++ a :: r = inp ∧ v.yield = c ∧ (pm = false → a = eof) := by
  have ms := fun {a sts} {vals : List Tree} {m} (hstk : Stk S sts (vals.map Tree.root)) =>
    move_sound g start eof pm fi S T hg hs hS hT (a := a) (m := m) hstk (List.length_map _)
  obtain ⟨_, a, r, sts, vals, ⟨hstk, hval, hinp⟩, hm, _⟩ :=
    lrParse_inv T (fun (t : Nat) => t) Tree.leaf nodeAct
      (fun _ rest sts vals => Stk S sts (vals.map Tree.root) ∧
        (∀ t ∈ vals, t.Valid g) ∧ (vals.reverse.map Tree.yield).flatten ++ rest = inp)
      (fun _ x xs sts vals m hm ⟨hstk, hval, hinp⟩ => by
        have hms := ms hstk hm
        cases m with
        | shift s' =>
          exact ⟨hms, List.forall_mem_cons.2 ⟨trivial, hval⟩, by simpa [Tree.yield] using hinp⟩
        | reduce l al beta sp rest' j =>
          refine ⟨by rw [List.map_cons, List.map_drop]; exact hms.2,
            List.forall_mem_cons.2 ⟨⟨?_, valid_ofList g _ fun t ht =>
              hval t (List.mem_of_mem_take (List.mem_reverse.1 ht))⟩,
              fun t ht => hval t (List.mem_of_mem_drop ht)⟩, ?_⟩
          · rw [roots_ofList, List.map_reverse, List.map_take]
            exact hms.1
          · have hsplit : vals.reverse = (vals.drop beta).reverse ++ (vals.take beta).reverse := by
              rw [← List.reverse_append, List.take_append_drop]
            rw [← hinp, hsplit]
            simp [Tree.yield, yield_ofList]
        | _ => trivial)
      fuel 0 inp [0] [] v ⟨Stk.base, nofun, rfl⟩ h
  obtain ⟨hsyms, hpm⟩ := ms hstk hm
  obtain ⟨hroot, hvs⟩ := List.cons.inj hsyms
  cases List.map_eq_nil_iff.1 hvs
  exact ⟨hval v List.mem_cons_self, hroot, v.yield, a, r, by simpa using hinp, rfl, hpm⟩

end Driver

theorem sound_run (g : Grammar) (start eof : Nat) (pm : Bool) (sfuel fuel : Nat) (inp : List Nat)
    (v : Tree) (hg : g.Closed) (hs : start < g.numNT)
    (h : lrParseTree (genTables g start eof pm sfuel).1 fuel inp = .accept v) :
    v.Valid g ∧ v.root = .n start ∧
      ∃ c a r, c ++ a :: r = inp ∧ v.yield = c ∧ (pm = false → a = eof) := by
  unfold lrParseTree at h
  exact driver_sound g start eof pm (firstSets (g.augment start eof))
    (collection (g.augment start eof) (firstSets (g.augment start eof)) g.numNT eof sfuel)
    (genTables g start eof pm sfuel).1 hg hs
    (collection_inv _ _ _ _ _) (genTables_ok g start eof pm sfuel) inp v fuel h

theorem eq_of_append_eof (eof : Nat) : ∀ (w c r : List Nat), eof ∉ w →
    c ++ eof :: r = w ++ [eof] → c = w := by
  intro w c r hw h
  -- one of `c`, `w` is a prefix of the other; the rest is empty, as `eof` occurs at the end only
  rcases List.append_eq_append_iff.1 h with ⟨a', rfl, h'⟩ | ⟨c', rfl, h'⟩
  · cases a' with
    | nil => exact (List.append_nil c).symm
    | cons b bs =>
      cases (List.cons.inj h').1
      exact absurd (List.mem_append_right c List.mem_cons_self) hw
  · cases c' with
    | nil => exact List.append_nil w
    | cons b bs => cases bs <;> cases h'

theorem sound_full (g : Grammar) (start eof : Nat) (sfuel fuel : Nat) (w : List Nat) (v : Tree)
    (hg : g.Closed) (hs : start < g.numNT) (hw : eof ∉ w)
    (h : lrParseTree (genTables g start eof false sfuel).1 fuel (w ++ [eof]) = .accept v) :
    v.Valid g ∧ v.root = .n start ∧ v.yield = w := by
  obtain ⟨h1, h2, c, a, r, hc, hy, ha⟩ := sound_run g start eof false sfuel fuel _ v hg hs h
  refine ⟨h1, h2, ?_⟩
  rw [ha rfl] at hc
  rw [hy]
  exact eq_of_append_eof eof w c r hw hc

theorem sound_prefix (g : Grammar) (start eof : Nat) (sfuel fuel : Nat) (inp : List Nat) (v : Tree)
    (hg : g.Closed) (hs : start < g.numNT)
    (h : lrParseTree (genTables g start eof true sfuel).1 fuel inp = .accept v) :
    v.Valid g ∧ v.root = .n start ∧ v.yield <+: inp := by
  obtain ⟨h1, h2, c, a, r, hc, hy, _⟩ := sound_run g start eof true sfuel fuel _ v hg hs h
  exact ⟨h1, h2, ⟨a :: r, by rw [hy]; exact hc⟩⟩

end LRSound
end Theo
