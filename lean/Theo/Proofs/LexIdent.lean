/-
  Helper lemmas for C14 (identifiers): an executable analysis of regular expressions with
  soundness proofs, a handful of closed facts about the regenerated tables `LexGen.rules` /
  `LexGen.keywords` that the kernel checks by evaluation (`idRules_ident`, `earlier_rules_ok`,
  `keywords_not_id`), and from these the two directions "identifier-shaped non-keyword ⇔ one ID
  token" phrased with `LexGen.keywords`.
  Nothing here mentions a rule index, a regex or a spelling of the concrete tables.
-/
import Theo.Proofs.LexProofs
import Theo.Proofs.ScanProofs
import Theo.Spec.Identifier

namespace Theo

def allBytes : List UInt8 := (List.range 256).map Nat.toUInt8

theorem mem_allBytes (c : UInt8) : c ∈ allBytes := by
  refine List.mem_map.2 ⟨c.toNat, List.mem_range.2 (UInt8.toNat_lt c), ?_⟩
  simp

/-- bytes among which the identifier bytes inside the ranges are found (a one-byte range gives
    its byte, identifier byte or not) -/
def idBytesIn (rs : List (UInt8 × UInt8)) : List UInt8 :=
  rs.flatMap fun r =>
    if r.1 = r.2 then [r.1] else allBytes.filter (fun c => isIdChar c && (r.1 ≤ c && c ≤ r.2))

theorem mem_idBytesIn {rs : List (UInt8 × UInt8)} {c : UInt8} (hc : isIdChar c = true)
    (h : inRanges rs c = true) : c ∈ idBytesIn rs := by
  obtain ⟨r, hr, hrc⟩ := List.any_eq_true.1 h
  refine List.mem_flatMap.2 ⟨r, hr, ?_⟩
  split
  · next he =>
    rw [Bool.and_eq_true, decide_eq_true_eq, decide_eq_true_eq, ← he] at hrc
    exact List.mem_singleton.2 (UInt8.le_antisymm hrc.2 hrc.1)
  · exact List.mem_filter.2 ⟨mem_allBytes c, by rw [hc, hrc]; rfl⟩

theorem isIdStart_isIdChar {c : UInt8} (h : isIdStart c = true) : isIdChar c = true := by
  simp [isIdChar, h]

theorem identShape_all {w : Bytes} (h : identShape w = true) : w.all isIdChar = true := by
  cases w with
  | nil => simp [identShape] at h
  | cons c cs =>
    simp only [identShape, Bool.and_eq_true] at h
    simp only [List.all_cons, Bool.and_eq_true]
    exact ⟨isIdStart_isIdChar h.1, h.2⟩

theorem identShape_ne_nil {w : Bytes} (h : identShape w = true) : w ≠ [] := by
  rintro rfl; simp [identShape] at h

def catProd (A B : List Bytes) : List Bytes := A.flatMap (fun x => B.map (x ++ ·))

theorem mem_catProd {A B : List Bytes} {s t : Bytes} (hs : s ∈ A) (ht : t ∈ B) :
    s ++ t ∈ catProd A B :=
  List.mem_flatMap.2 ⟨s, hs, List.mem_map.2 ⟨t, ht, rfl⟩⟩

namespace Rx

/-- `idLang r = some L`: every word of the language of `r` that consists of identifier characters
    only is in `L` (`idLang_sound`); computed for the patterns without `*` and negated classes,
    whatever the rule table holds -/
def idLang : Rx → Option (List Bytes)
  | .empty => some []
  | .eps => some [[]]
  | .cls rs => some ((idBytesIn rs).map ([·]))
  | .seq a b => (idLang a).bind fun A => (idLang b).map (catProd A)
  | .alt a b => (idLang a).bind fun A => (idLang b).map (A ++ ·)
  | .ncls _ | .star _ => none

theorem idLang_sound {r : Rx} {w : Bytes} (h : r.Matches w) :
    ∀ L, r.idLang = some L → w.all isIdChar = true → w ∈ L := by
  induction h with
  | eps => intro L hL _; cases hL; exact List.mem_singleton.2 rfl
  | @cls rs c hc =>
    intro L hL hw
    cases hL
    rw [List.all_cons, List.all_nil, Bool.and_true] at hw
    exact List.mem_map.2 ⟨c, mem_idBytesIn hw hc, rfl⟩
  | seq _ _ iha ihb =>
    intro L hL hw
    obtain ⟨A, hA, hL⟩ := Option.bind_eq_some_iff.1 hL
    obtain ⟨B, hB, rfl⟩ := Option.map_eq_some_iff.1 hL
    rw [List.all_append, Bool.and_eq_true] at hw
    exact mem_catProd (iha A hA hw.1) (ihb B hB hw.2)
  | altL _ ih =>
    intro L hL hw
    obtain ⟨A, hA, hL⟩ := Option.bind_eq_some_iff.1 hL
    obtain ⟨B, hB, rfl⟩ := Option.map_eq_some_iff.1 hL
    exact List.mem_append_left _ (ih A hA hw)
  | altR _ ih =>
    intro L hL hw
    obtain ⟨A, hA, hL⟩ := Option.bind_eq_some_iff.1 hL
    obtain ⟨B, hB, rfl⟩ := Option.map_eq_some_iff.1 hL
    exact List.mem_append_right _ (ih B hB hw)
  | ncls | starNil | starCons => intro L hL; cases hL

/-- over-approximation of "`r` matches some word whose first byte is an identifier-start byte"
    (`startsId_sound`); `false` for whitespace, operators, integers, quoted names, comments, … -/
def startsId : Rx → Bool
  | .empty => false
  | .eps => false
  | .cls rs => (idBytesIn rs).any isIdStart
  | .ncls _ => true
  | .seq a b => startsId a || (nullable a && startsId b)
  | .alt a b => startsId a || startsId b
  | .star a => startsId a

theorem startsId_sound {r : Rx} {w : Bytes} (h : r.Matches w) :
    ∀ c s, w = c :: s → isIdStart c = true → r.startsId = true := by
  induction h with
  | eps => intro c s hw; cases hw
  | @cls rs d hd =>
    intro c s hw hc
    cases hw
    exact List.any_eq_true.2 ⟨d, mem_idBytesIn (isIdStart_isIdChar hc) hd, hc⟩
  | ncls => intro _ _ _ _; rfl
  | @seq a b s1 t h1 _ iha ihb =>
    intro c s hw hc
    simp only [startsId, Bool.or_eq_true, Bool.and_eq_true]
    cases s1 with
    | nil => exact .inr ⟨(nullable_correct a).2 h1, ihb c s hw hc⟩
    | cons d s1 =>
      simp only [List.cons_append, List.cons.injEq] at hw
      obtain ⟨rfl, _⟩ := hw
      exact .inl (iha d s1 rfl hc)
  | @altL a b s _ ih =>
    intro c s' hw hc
    simp only [startsId, Bool.or_eq_true]
    exact .inl (ih c s' hw hc)
  | @altR a b s _ ih =>
    intro c s' hw hc
    simp only [startsId, Bool.or_eq_true]
    exact .inr (ih c s' hw hc)
  | starNil => intro c s hw; cases hw
  | @starCons a s1 t _ _ ih1 ih2 =>
    intro c s hw hc
    cases s1 with
    | nil => exact ih2 c s hw hc
    | cons d s1 =>
      simp only [List.cons_append, List.cons.injEq] at hw
      obtain ⟨rfl, _⟩ := hw
      simpa [startsId] using ih1 d s1 rfl hc

theorem not_startsId_no_ident {r : Rx} {w : Bytes} (hs : r.startsId = false) (hm : r.Matches w) :
    identShape w = false := by
  cases w with
  | nil => rfl
  | cons c cs =>
    cases hc : isIdStart c with
    | false => simp [identShape, hc]
    | true => rw [startsId_sound hm c cs rfl hc] at hs; cases hs

/-- the regex is `[S][C]*` with `S` = the identifier-start bytes and `C` = the identifier bytes,
    in whatever order and grouping the ranges are written -/
def isIdentRx : Rx → Bool
  | .seq (.cls A) (.star (.cls B)) =>
    allBytes.all (fun c => inRanges A c == isIdStart c) &&
      allBytes.all (fun c => inRanges B c == isIdChar c)
  | _ => false

theorem matches_star_cls_iff {B : List (UInt8 × UInt8)} {s : Bytes} :
    (Rx.star (.cls B)).Matches s ↔ s.all (fun c => inRanges B c) = true := by
  induction s with
  | nil => simp; exact .starNil
  | cons c s ih =>
    rw [matches_star_cons_iff]
    constructor
    · rintro ⟨s1, s2, hs, h1, h2⟩
      rw [matches_cls_iff] at h1
      obtain ⟨d, hd, hr⟩ := h1
      simp only [List.cons.injEq] at hd
      obtain ⟨rfl, rfl⟩ := hd
      simp only [List.nil_append] at hs
      subst hs
      simp only [List.all_cons, Bool.and_eq_true]
      exact ⟨hr, ih.1 h2⟩
    · intro h
      simp only [List.all_cons, Bool.and_eq_true] at h
      exact ⟨[], s, rfl, .cls h.1, ih.2 h.2⟩

theorem isIdentRx_matches {r : Rx} (h : r.isIdentRx = true) (w : Bytes) :
    r.Matches w ↔ identShape w = true := by
  unfold isIdentRx at h
  split at h
  · next A B =>
    simp only [Bool.and_eq_true, List.all_eq_true, beq_iff_eq] at h
    have hA : ∀ c, inRanges A c = isIdStart c := fun c => h.1 c (mem_allBytes c)
    have hB : ∀ c, inRanges B c = isIdChar c := fun c => h.2 c (mem_allBytes c)
    have hB' : (fun c => inRanges B c) = isIdChar := funext hB
    rw [matches_seq_iff]
    constructor
    · rintro ⟨s1, s2, rfl, h1, h2⟩
      rw [matches_cls_iff] at h1
      obtain ⟨c, rfl, hc⟩ := h1
      rw [matches_star_cls_iff, hB'] at h2
      simp [identShape, ← hA, hc, h2]
    · intro hw
      cases w with
      | nil => simp [identShape] at hw
      | cons c cs =>
        simp only [identShape, Bool.and_eq_true] at hw
        refine ⟨[c], cs, rfl, .cls (by rw [hA]; exact hw.1), ?_⟩
        rw [matches_star_cls_iff, hB']
        exact hw.2
  · cases h

end Rx

def idIdx : Nat := LexGen.rules.findIdx (fun r => r.2 == some Tok.ID)

/-- a rule standing before the identifier rule either cannot match a word starting like an
    identifier, or matches only finitely many identifier-character words, each identifier-shaped
    one of them being a listed keyword spelling of the rule's kind -/
def earlierRuleOk (r : Rx × Option Nat) : Bool :=
  !r.1.startsId ||
  match r.1.idLang with
  | some L => L.all (fun w => !identShape w ||
      (match r.2 with
       | some k => LexGen.keywords.contains (w, k)
       | none => false))
  | none => false

theorem idRules_ident : LexGen.rules.all (fun r => r.2 != some Tok.ID || r.1.isIdentRx) = true := by
  decide +kernel

theorem earlier_rules_ok : (LexGen.rules.take idIdx).all earlierRuleOk = true := by
  decide +kernel

theorem keywords_not_id : LexGen.keywords.all (fun e => e.2 != Tok.ID) = true := by
  decide +kernel

theorem idRule_get : ∃ r, LexGen.rules[idIdx]? = some (r, some Tok.ID) ∧ r.isIdentRx = true := by
  have hlt : idIdx < LexGen.rules.length :=
    List.findIdx_lt_length.2 (List.any_eq_true.1 (by decide : LexGen.rules.any _ = true))
  have hk : LexGen.rules[idIdx].2 = some Tok.ID := beq_iff_eq.1 (List.findIdx_getElem (w := hlt))
  have hi := List.all_eq_true.1 idRules_ident _ (List.getElem_mem hlt)
  rw [hk, bne_self_eq_false, Bool.false_or] at hi
  exact ⟨LexGen.rules[idIdx].1, by rw [List.getElem?_eq_getElem hlt, ← hk], hi⟩

theorem earlier_rule_keyword {j : Nat} {r : Rx} {w : Bytes} (hj : j < idIdx)
    (hr : (LexGen.rules.map (·.1))[j]? = some r) (hm : r.Matches w) (hw : identShape w = true) :
    ∃ k, (w, k) ∈ LexGen.keywords := by
  simp only [List.getElem?_map, Option.map_eq_some_iff] at hr
  obtain ⟨p, hp, rfl⟩ := hr
  have hmem : p ∈ LexGen.rules.take idIdx := by
    apply List.mem_of_getElem? (i := j)
    rw [List.getElem?_take, if_pos hj]; exact hp
  have hok := List.all_eq_true.1 earlier_rules_ok p hmem
  unfold earlierRuleOk at hok
  rw [Bool.or_eq_true] at hok
  rcases hok with hok | hok
  · rw [Bool.not_eq_true'] at hok
    rw [Rx.not_startsId_no_ident hok hm] at hw; cases hw
  split at hok
  · next L hL =>
    have hwL := Rx.idLang_sound hm L hL (identShape_all hw)
    have := List.all_eq_true.1 hok w hwL
    simp only [hw, Bool.not_true, Bool.false_or] at this
    split at this
    · next k _ => exact ⟨k, by simpa using this⟩
    · cases this
  · cases hok

/-- an identifier-shaped word that is no keyword spelling is one `ID` token: the identifier rule
    matches the whole of it, and an earlier rule would make it a keyword spelling -/
theorem ident_lexBuffer (w : Bytes) (h : identShape w = true)
    (hn : ∀ e ∈ LexGen.keywords, e.1 ≠ w) : lexBuffer w = [⟨Tok.ID, w, 1⟩] := by
  obtain ⟨r, hr, hri⟩ := idRule_get
  have hnot : ∀ c, isIdChar c = false → c ∉ w := fun c hc hm => by
    rw [List.all_eq_true.1 (identShape_all h) c hm] at hc; cases hc
  refine lexBuffer_whole (hnot 0 (by decide)) (hnot 10 (by decide))
    (longest_whole (identShape_ne_nil h) (by rw [List.getElem?_map, hr]; rfl)
      ((Rx.isIdentRx_matches hri w).2 h) fun j r' hlt hj hmm => ?_) (by rw [hr]; rfl)
  obtain ⟨k, hk⟩ := earlier_rule_keyword hlt hj hmm h
  exact hn _ hk rfl

theorem lexBuffer_token_rule {content : Bytes} {t : RawTok} (h : t ∈ lexBuffer content) :
    ∃ (i : Nat) (p : Rx × Option Nat),
      LexGen.rules[i]? = some p ∧ p.2 = some t.kind ∧ p.1.Matches t.text := by
  obtain ⟨_, suf, i, n, _, hl, hk, ht, _⟩ := lexFrom_mem _ _ _ _ t h
  obtain ⟨p, hp, hpk⟩ := Option.bind_eq_some_iff.1 hk
  obtain ⟨_, _, ⟨r, hr, hm⟩, _⟩ := (longest_match _ _ _ _).1 hl
  rw [List.getElem?_map, hp] at hr
  cases hr
  exact ⟨i, p, hp, hpk, ht ▸ hm⟩

theorem idRules_matches {i : Nat} {r : Rx} {w : Bytes}
    (hr : LexGen.rules[i]? = some (r, some Tok.ID)) (hm : r.Matches w) : identShape w = true := by
  have := List.all_eq_true.1 idRules_ident _ (List.mem_of_getElem? hr)
  simp only [bne_self_eq_false, Bool.false_or] at this
  exact (Rx.isIdentRx_matches this w).1 hm

theorem ident_only (w : Bytes) (h : lexBuffer w = [⟨Tok.ID, w, 1⟩]) :
    identShape w = true ∧ ∀ e ∈ LexGen.keywords, e.1 ≠ w := by
  constructor
  · obtain ⟨i, ⟨r, a⟩, hp, hk, hm⟩ := lexBuffer_token_rule (h ▸ List.mem_singleton.2 rfl)
    cases hk
    exact idRules_matches hp hm
  · intro e he hew
    have h1 := List.all_eq_true.1 keywords_lex e he
    have h2 := List.all_eq_true.1 keywords_not_id e he
    rw [beq_iff_eq, hew, h] at h1
    simp only [List.cons.injEq, RawTok.mk.injEq, and_true] at h1
    simp only [bne_iff_ne, ne_eq] at h2
    exact h2 h1.symm

end Theo
