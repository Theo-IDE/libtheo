/-
  C03 for the generator: backpatching (`GenShape.backpatch_code`: position `pc` holds
  `patch labels pc` of what it held) changes jump offsets only.
-/
import Theo.Proofs.GenShapeJT
import Theo.Proofs.GenWFCount

namespace Theo
namespace GenWF
open GS Static
open GenShape (patch isJmp JT backpatch_code)

theorem isJmp_eq (i : Instr) : isJmp i = isJump i := by
  cases i <;> rfl

theorem patch_sameKind (L : List Int) (pc : Nat) (i : Instr) : SameKind i (patch L pc i) := by
  cases i <;> first
    | exact Or.inl rfl
    | exact Or.inr (Or.inl ⟨_, _, rfl, rfl⟩)
    | exact Or.inr (Or.inr ⟨_, _, _, rfl, rfl⟩)

theorem patch_sameCode {P F : List Instr} {L : List Int} (hlen : F.length = P.length)
    (hF : ∀ pc i, P[pc]? = some i → F[pc]? = some (patch L pc i)) : SameCode P F := by
  intro pc
  cases hc : P[pc]? with
  | none => exact Or.inl ⟨rfl, List.getElem?_eq_none (hlen ▸ List.getElem?_eq_none_iff.1 hc)⟩
  | some i => exact Or.inr ⟨i, _, rfl, hF pc i hc, patch_sameKind _ _ _⟩

theorem backpatch_sameCode (e : GS) (ht : TodoOK e) (hall : ∀ l, l < e.labels.length → isSet e l)
    (hjt : ∀ pc i, e.code[pc]? = some i → isJump i = true → pc ∈ e.todo) :
    SameCode e.code (backpatch e).code :=
  have h := backpatch_code e ht (fun pc i hi hj => hjt pc i hi (isJmp_eq i ▸ hj))
  patch_sameCode h.2.2.1 h.2.2.2

end GenWF
end Theo
