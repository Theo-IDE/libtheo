/-
  C01 (end to end): a tree whose source is jump-free (`LoopOnly`: no WHILE, GOTO,
  IF-GOTO) has no jump target at all, so the uniqueness of jump targets (`astLabels`) holds
  trivially.  Used for the LOOP corollary of `C01_compile_correct`.
-/
import Theo.Props.C16Loop
import Theo.Proofs.GenShapeParse

namespace Theo
namespace CompileCorrect
open Sem Static GenShape

theorem loopOnlyStmts_append : ∀ a b : Stmts,
    loopOnlyStmts (a.append b) = (loopOnlyStmts a && loopOnlyStmts b)
  | .nil, b => by simp [Stmts.append, loopOnlyStmts]
  | .cons s ss, b => by
    simp [Stmts.append, loopOnlyStmts, loopOnlyStmts_append ss b, Bool.and_assoc]

theorem refsOf_nil_of_loopOnly : ∀ (nd : Node) (n : Nat) (ps : List ProgDef),
    loopOnlyStmts (stmtsOf nd n ps).1 = true → refsOf nd = []
  | .nil, _, _, _ => by rw [refsOf]
  | .mk t tok file line l r, n, ps, h => by
    rw [stmtsOf_mk] at h
    rw [refsOf_mk]
    by_cases h1 : t = NodeT.SPLIT
    · rw [if_pos h1] at h ⊢
      rw [loopOnlyStmts_append, Bool.and_eq_true] at h
      rw [refsOf_nil_of_loopOnly l _ _ h.1, refsOf_nil_of_loopOnly r _ _ h.2]; rfl
    rw [if_neg h1] at h ⊢
    by_cases h4 : t = NodeT.LOOP
    · subst h4
      rw [if_neg (by decide), if_neg (by decide), if_pos rfl] at h
      rw [if_pos (Or.inl rfl)]
      exact refsOf_nil_of_loopOnly r _ _ (by simpa [loopOnlyStmts, loopOnlyStmt] using h)
    by_cases h5 : t = NodeT.WHILE
    · subst h5
      rw [if_neg (by decide), if_neg (by decide), if_neg (by decide), if_pos rfl] at h
      simp [loopOnlyStmts, loopOnlyStmt] at h
    rw [if_neg (by rintro (h | h); exact h4 h; exact h5 h)]
    by_cases h7 : t = NodeT.GOTO
    · subst h7
      rw [if_neg (by decide), if_neg (by decide), if_neg (by decide), if_neg (by decide),
        if_neg (by decide), if_pos rfl] at h
      simp [loopOnlyStmts, loopOnlyStmt] at h
    rw [if_neg h7]
    by_cases h8 : t = NodeT.IF
    · subst h8
      rw [if_neg (by decide), if_neg (by decide), if_neg (by decide), if_neg (by decide),
        if_neg (by decide), if_neg (by decide), if_pos rfl] at h
      simp [loopOnlyStmts, loopOnlyStmt] at h
    rw [if_neg h8]

theorem labelsOK_of_loopOnly (nd : Node) (n : Nat) (ps : List ProgDef)
    (h : loopOnlyStmts (stmtsOf nd n ps).1 = true) : labelsOK nd = true := by
  unfold labelsOK
  rw [refsOf_nil_of_loopOnly nd n ps h]
  rfl

theorem stmtsOf_progs_mono (nd : Node) (n : Nat) (ps : List ProgDef) :
    ∀ pd ∈ ps, pd ∈ (stmtsOf nd n ps).2.2 := by
  obtain ⟨_, _, _, new, e, _⟩ := LoopHalts.stmtsOf_idSpec nd n ps
  intro pd hpd
  rw [e]
  exact List.mem_append_left _ hpd

theorem astLabels_of_loopOnly : ∀ (root : Node) (n : Nat) (ps : List ProgDef),
    loopOnlyStmts (stmtsOf root n ps).1 = true →
    (∀ pd ∈ (stmtsOf root n ps).2.2, loopOnlyStmts pd.body = true) → astLabels root = true
  | .nil, _, _, _, _ => by rw [astLabels]
  | .mk t tok file line l r, n, ps, h, hp => by
    rw [astLabels]
    split
    · next hc =>
      cases l with
      | nil => exact absurd hc.2 (by decide)
      | mk lt ltok lf lln ll lr =>
        cases (show lt = NodeT.PROGRAM from hc.2)
        rw [stmtsOf_mk, if_pos hc.1, stmtsOf_mk, if_neg (by decide), if_pos rfl] at h hp
        dsimp only at h hp
        rw [Bool.and_eq_true]
        -- the definition just collected is still among the definitions after `r`
        exact ⟨labelsOK_of_loopOnly lr n ps (hp _ (stmtsOf_progs_mono r _ _ _
            (List.mem_append_right _ (List.mem_singleton.2 rfl)))),
          astLabels_of_loopOnly r _ _ h hp⟩
    · exact labelsOK_of_loopOnly _ n ps h

theorem astLabels_of_LoopOnly (root : Node) (h : LoopOnly (toSource root)) : astLabels root = true := by
  rcases hr : stmtsOf root 0 [] with ⟨main, n1, ps⟩
  have hs : toSource root = ⟨ps, main⟩ := by simp only [toSource, hr]
  rw [hs] at h
  exact astLabels_of_loopOnly root 0 [] (by rw [hr]; exact h.1) (by rw [hr]; exact h.2)

end CompileCorrect
end Theo
