/-
  C04 (sugar) — the stages in front of the macro application for a source without definitions.
  The standard file: one kernel evaluation of the lexer gives its token stream
  (`std_body_shape`); scanning it, extracting its two definitions and their detector tables follow
  (`scanFile_std`, `std_defs_eq`, `finalDef_isSugarDef`).  The front end: the scanner delivers the standard
  file's tokens followed by the user's (`front_scan`), and extraction yields exactly `stdDefs`, no
  error, and the user's tokens (`front_extract`).
-/
import Theo.Proofs.SugarExtract
import Theo.Proofs.SugarLex

namespace Theo.Sugar

/-- the file table `Theo::parse` scans: the hidden standard file is added (unless the caller
    supplies a file of that name), and the include phrase is put in front of the main file -/
def frontFiles (files : Files) (main : Bytes) : Files :=
  (if files.has ConstGen.stdFileName then files
   else files ++ [(ConstGen.stdFileName, ConstGen.stdMacroText)]).map
    (fun e => if e.1 = main then (e.1, ConstGen.includePhrase ++ e.2) else e)

def userScan (files : Files) (main content : Bytes) : ScanOut :=
  scanToks (frontFiles files main) (frontFiles files main).length [main] main (lexBuffer content)

section front
variable {files : Files} {main content : Bytes}

theorem frontFiles_facts (hstd : files.has ConstGen.stdFileName = false) (hmain : files.get? main = some content) :
    (frontFiles files main).get? main = some (ConstGen.includePhrase ++ content) ∧
    (frontFiles files main).get? ConstGen.stdFileName = some ConstGen.stdMacroText ∧
    (frontFiles files main).length = files.length + 1 ∧ main ≠ ConstGen.stdFileName := by
  have hne : main ≠ ConstGen.stdFileName := by
    intro h; subst h
    rw [Files.has, hmain] at hstd; cases hstd
  have hstd' : files.get? ConstGen.stdFileName = none := by
    rw [Files.has] at hstd
    cases h : files.get? ConstGen.stdFileName with
    | none => rfl
    | some c => rw [h] at hstd; cases hstd
  unfold frontFiles
  rw [hstd]
  simp only [Bool.false_eq_true, if_false]
  refine ⟨?_, ?_, by simp, hne⟩
  · rw [Loc.get?_map_main, Loc.get?_append_single, hmain]; simp
  · rw [Loc.get?_map_main, Loc.get?_append_single, hstd']
    have : ¬ ConstGen.stdFileName = main := fun h => hne h.symm
    simp [this]

/-- closed fact, re-checked on the regenerated constant: the token stream of the standard file -/
theorem std_body_shape : stdBody = defBlock plus incName 1 ++ defBlock minus decName 2 := by
  decide +kernel

theorem std_noinc : ∀ t ∈ lexBuffer ConstGen.stdMacroText, t.kind ≠ Tok.INCLUDE := by
  have h : ∀ u ∈ stdBody, u.kind ≠ Tok.INCLUDE := by rw [std_body_shape]; decide
  exact fun t ht => h _ (List.mem_map_of_mem ht)

theorem scanFile_std (d : Nat) (fs : Files) (active : List Bytes) :
    scanFile (d + 1) fs active ConstGen.stdFileName ConstGen.stdMacroText = ⟨stdBody, [], false⟩ := by
  rw [scanFile, scanToksWith_noinc std_noinc]
  rfl

/-- the standard text defines exactly `<ID> + <INT> AS RUN __INC__ WITH $0, $1 END` (line 1) and
    the same with `-`/`__DEC__` (line 2), both with priority 1000000: the descent of `extractMacros`
    over the two blocks of `std_body_shape` -/
theorem std_defs_eq : stdDefs = [finalDef plus incName 1, finalDef minus decName 2] := by
  have hs : (scan [(ConstGen.stdFileName, ConstGen.stdMacroText)] ConstGen.stdFileName).toks =
      stdBody ++ ([] ++ [scanEof [(ConstGen.stdFileName, ConstGen.stdMacroText)] ConstGen.stdFileName]) := by
    rw [scan_toks]
    unfold scanBody
    rw [show Files.get? [(ConstGen.stdFileName, ConstGen.stdMacroText)] ConstGen.stdFileName =
      some ConstGen.stdMacroText by simp [Files.get?]]
    simp only [scanFile_std, List.nil_append]
  rw [stdDefs_def, hs, std_body_shape, extract_defBlocks [] _ (fun _ h => nomatch h) (scanEof_kind _ _)]

/-- the detector tables depend on the kinds of the pattern only: one table generation serves
    both definitions -/
theorem finalDef_tables (op name : Bytes) (line : Int) :
    (mkDetector (finalDef op name line)).tables = sugarTables := by
  show (genTables (detectorGrammar (finalDef op name line)) DetGen.macroNT Tok.T_EOF true
    detectorStateFuel).1 = sugarTables
  rw [show detectorGrammar (finalDef op name line) = detectorGrammar patDef from rfl, patDef_tables]

theorem finalDef_isSugarDef {op name : Bytes} {line : Int} : IsSugarDef (finalDef op name line) op name line :=
  ⟨finalDef_tables op name line, rfl, rfl, rfl, rfl, rfl⟩

theorem extract_std (body : List Token) (eof : Token)
    (hb : ∀ t ∈ body, t.kind ≠ Tok.T_EOF ∧ t.kind ≠ Tok.DEFINE) (he : eof.kind = Tok.T_EOF) :
    extractMacros (stdBody ++ (body ++ [eof])) = ⟨[], body ++ [eof], stdDefs⟩ := by
  rw [std_body_shape, std_defs_eq]
  exact extract_defBlocks body eof hb he

theorem front_scan (hstd : files.has ConstGen.stdFileName = false) (hmain : files.get? main = some content) :
    ∃ eof : Token, eof.kind = Tok.T_EOF ∧
      (scan (frontFiles files main) main).toks = stdBody ++ ((userScan files main content).toks ++ [eof]) ∧
      (scan (frontFiles files main) main).errs = (userScan files main content).errs ∧
      ∀ t, (stdBody ++ (userScan files main content).toks).getLast? = some t →
        eof = ⟨Tok.T_EOF, bEOF, t.file, t.line⟩ := by
  obtain ⟨h1, h2, h3, hne⟩ := frontFiles_facts hstd hmain
  have hunq : unquote incQuoted = ConstGen.stdFileName := by decide
  have hbody : scanBody (frontFiles files main) main =
      (ScanOut.mk stdBody [] false).append (userScan files main content) := by
    unfold scanBody userScan scanToks
    rw [h1]
    simp only
    rw [scanFile, lexBuffer_phrase]
    have := scanToks_include (frontFiles files main) (frontFiles files main).length [main] main
      ⟨Tok.INCLUDE, incWord, 1⟩ ⟨Tok.FNAME, incQuoted, 1⟩ (lexBuffer content) rfl rfl
    unfold scanToks at this
    rw [this]
    simp only [hunq, h2]
    have hact : ([main] : List Bytes).contains ConstGen.stdFileName = false := by
      have : ¬ ConstGen.stdFileName = main := fun h => hne h.symm
      simp [this]
    rw [hact]
    simp only [Bool.false_eq_true, if_false]
    rw [h3, scanFile_std]
  refine ⟨scanEof (frontFiles files main) main, scanEof_kind _ _, ?_, ?_, fun t ht => ?_⟩
  · rw [scan_toks, hbody]
    simp [ScanOut.append]
  · show (scanBody (frontFiles files main) main).errs = _
    rw [hbody]
    simp [ScanOut.append]
  · unfold scanEof
    rw [hbody, ScanOut.append, ht]

def userToks (files : Files) (main : Bytes) : List Token :=
  (scan (frontFiles files main) main).toks.drop stdBody.length

theorem userToks_eq (hstd : files.has ConstGen.stdFileName = false) (hmain : files.get? main = some content) :
    (scan (frontFiles files main) main).toks = stdBody ++ userToks files main ∧
    (∃ eof : Token, eof.kind = Tok.T_EOF ∧ userToks files main = (userScan files main content).toks ++ [eof]) ∧
    (∀ t ∈ (userScan files main content).toks, t.kind ≠ Tok.T_EOF) ∧
    Scanned (userToks files main) := by
  obtain ⟨eof, he, ht, _, _⟩ := front_scan hstd hmain
  have hu : userToks files main = (userScan files main content).toks ++ [eof] := by
    unfold userToks; rw [ht, List.drop_left' rfl]
  have hk := scan_kinds_le (frontFiles files main) main
  refine ⟨by rw [hu]; exact ht, ⟨eof, he, hu⟩, ?_, ?_, _, eof, hu, he⟩
  · intro t htm
    have hb := scanBody_tok_kinds (frontFiles files main) main
    have hs := scan_toks (frontFiles files main) main
    rw [ht, ← List.append_assoc] at hs
    have := List.append_inj_left' hs rfl
    exact hb t (by rw [← this]; exact List.mem_append_right _ htm)
  · intro t htm
    exact hk t (by rw [ht, ← hu]; exact List.mem_append_right _ htm)

theorem front_extract (hstd : files.has ConstGen.stdFileName = false) (hmain : files.get? main = some content)
    (hnodef : ∀ t ∈ userToks files main, t.kind ≠ Tok.DEFINE) :
    extractMacros (scan (frontFiles files main) main).toks = ⟨[], userToks files main, stdDefs⟩ := by
  obtain ⟨hs, ⟨eof, he, hu⟩, hne, _⟩ := userToks_eq hstd hmain
  rw [hs, hu]
  exact extract_std _ eof (fun t ht => ⟨hne t ht, hnodef t (by rw [hu]; exact List.mem_append_left _ ht)⟩) he

end front
end Theo.Sugar
