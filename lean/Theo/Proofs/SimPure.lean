/-
  The reference execution of a validated source never gets stuck: the position relations alone
  (no VM) are preserved by `Sem.step`.
-/
import Theo.Proofs.SimExec


namespace Theo
namespace Sim
open Sem

/-- no VM: the register predicate of the position relations that says nothing -/
def HT : Int → Nat → Prop := fun _ _ => True

section
variable {src : Source} {p : Program}

/-- `RestRel` without the VM -/
def PRest (_V : Valid src p) (PS : List Frame → Prop) (r : Nat) (frs : List Frame) : Prop :=
  match frs with
  | [] => r = src.progs.length
  | fr2 :: _ => r < src.progs.length ∧ isWait fr2 ∧ PS frs

def PStack (V : Valid src p) : List Frame → Prop
  | [] => False
  | fr :: frs => fr.routine ≤ src.progs.length ∧
      (∃ ip rt, FrameAt (V.env fr.routine) (V.G fr.routine) HT fr ip rt) ∧
      match frs with
      | [] => fr.routine = src.progs.length
      | fr2 :: _ => fr.routine < src.progs.length ∧ isWait fr2 ∧ PStack V frs

/-- `Match` without the VM -/
structure PInv (V : Valid src p) (cfg : Config) : Prop where
  run : cfg.status = .running
  stack : PStack V cfg.stack
  top : ∀ fr rest, cfg.stack = fr :: rest → ¬ isWait fr

def PRes (V : Valid src p) (cfg' : Config) : Prop :=
  cfg'.status ≠ .stuck ∧ (cfg'.status = .running → PInv V cfg')

theorem pstack_cons {V : Valid src p} {fr : Frame} {frs : List Frame} :
    PStack V (fr :: frs) ↔ fr.routine ≤ src.progs.length ∧
      (∃ ip rt, FrameAt (V.env fr.routine) (V.G fr.routine) HT fr ip rt) ∧
      PRest V (PStack V) fr.routine frs := by
  cases frs with
  | nil => simp only [PStack, PRest]
  | cons _ _ => simp only [PStack, PRest]

theorem pfinish {V : Valid src p} {r : Nat} {rest : List Frame} (hr : r ≤ src.progs.length)
    (hrest : PRest V (PStack V) r rest) {fr' : Frame} (hr' : fr'.routine = r) {ip' : Nat} {rt' : Int}
    (hat : FrameAt (V.env r) (V.G r) HT fr' ip' rt') (hnw : ¬ isWait fr') :
    PRes V ⟨fr' :: rest, .running⟩ := by
  refine ⟨by simp, fun _ => ⟨rfl, ?_, ?_⟩⟩
  · show PStack V (fr' :: rest)
    rw [pstack_cons]
    subst hr'
    exact ⟨hr, ⟨ip', rt', hat⟩, hrest⟩
  · intro fr rest' h
    cases h
    exact hnw

variable {V : Valid src p} (hV : V.OK)
include hV

theorem ppush {r : Nat} {rest : List Frame} (hr : r ≤ src.progs.length)
    (hrest : PRest V (PStack V) r rest) {env : Env} {ctrs : Ctrs} {k : Kont}
    {f : Name} {live temps : List Int} {tgt : Int} {pc1 pc' : Nat}
    (hct : CallTail (V.env r) f live temps pc1 tgt pc') {vals : List Nat}
    (hlen : temps.length = vals.length) {x : Name} {cs : List ECtx} {focus : Stmts}
    {pcS pcE : Nat} (hctx : CtxAt (V.env r) HT cs x live tgt pc' pcS)
    (hss : SAt (V.env r) (V.G r) focus pcS pcE) (hk : KAt (V.env r) (V.G r) k pcE (V.G r).pc) :
    PRes V (doCall src ⟨r, env, ctrs, focus, k, .wait x cs⟩ rest f vals) := by
  obtain ⟨j, pd, ri, cnt, pc2, h1, h2, h3, _, _, _, _, rfl⟩ := hct
  have h1' : lookupProg src f r = some (j, pd) := h1
  obtain ⟨hjr, hpd⟩ := lookupProg_spec h1'
  have hjn : j < src.progs.length := Nat.lt_of_lt_of_le hjr hr
  rw [doCall_eq ⟨r, env, ctrs, focus, k, .wait x cs⟩ rest h1' (h3.trans hlen)]
  refine pfinish (Nat.le_of_lt hjn) ?_ rfl (bodyOf_lt hpd ▸ hV.entryAt (Nat.le_of_lt hjn) _ _ _)
    (fun ⟨_, _, h⟩ => nomatch h)
  · unfold PRest
    refine ⟨hjn, ⟨x, cs, rfl⟩, ?_⟩
    rw [pstack_cons]
    exact ⟨hr, ⟨(V.env r).next pc2, tgt, live, pcS, pcE, hctx, hss, hk⟩, hrest⟩

theorem pure_step {cfg : Config} (hm : PInv V cfg) : PRes V (Sem.step src cfg) := by
  obtain ⟨hrun, hstack, htop⟩ := hm
  obtain ⟨stack, status⟩ := cfg
  simp only at hrun hstack htop
  subst hrun
  cases stack with
  | nil => simp only [PStack] at hstack
  | cons fr rest =>
  rw [pstack_cons] at hstack
  obtain ⟨hr, ⟨ip, rt, hat⟩, hrest⟩ := hstack
  have hnw := htop fr rest rfl
  have hrule := step_rule src fr rest
  generalize Sem.step src ⟨fr :: rest, .running⟩ = cfg' at hrule
  have nw : ∀ {r env ctrs focus k}, ¬ isWait ⟨r, env, ctrs, focus, k, .run⟩ := fun ⟨_, _, h⟩ => nomatch h
  cases hrule with
  | assign r env ctrs x v pos ss k =>
    obtain ⟨pcE, ⟨pc1, ⟨rx, hrx, hcv⟩, hss⟩, hk⟩ := hat
    refine pfinish hr hrest rfl (ip' := ip) (rt' := 0) ?_ (fun ⟨_, _, h⟩ => nomatch h)
    exact ⟨[], rx, pc1, pc1, pcE, hcv, ⟨rfl, hrx, rfl⟩, hss, hk⟩
  | mark r env ctrs m pos ss k =>
    obtain ⟨pcE, ⟨pc1, rfl, hss⟩, hk⟩ := hat
    refine pfinish hr hrest rfl (ip' := pc1) (rt' := 0) ?_ nw
    exact ⟨pcE, hss, hk⟩
  | loop r env ctrs id x body pos ss k =>
    obtain ⟨pcE, ⟨pc1, ⟨ctr, rx, offE, offL, pcB, hctr, hrx, h1, h2, hbody, h3, h4, hA1, hA2,
      rfl⟩, hss⟩, hk⟩ := hat
    split
    · refine pfinish hr hrest rfl (ip' := (V.env r).next ((V.env r).next ip)) (rt' := 0) ?_ nw
      exact ⟨pcB, hbody, ctr, offE, offL, (V.env r).next ip, pcE, hctr, h2, hbody, h3, h4, hA1,
        hA2, hss, hk⟩
    · refine pfinish hr hrest rfl (ip' := skipc (V.env r).code ((V.env r).next pcB) + 1)
        (rt' := 0) ?_ nw
      exact ⟨pcE, hss, hk⟩
  | while_ r env ctrs x body pos ss k =>
    obtain ⟨pcE, ⟨pc1, ⟨rx, tmp, offE, offL, pcB, hrx, htmp, h1, h2, hbody, h3, hA1, hA2, rfl⟩,
      hss⟩, hk⟩ := hat
    split
    · refine pfinish hr hrest rfl (ip' := (V.env r).next ((V.env r).next ip)) (rt' := 0) ?_ nw
      exact ⟨pcB, hbody, rx, tmp, offE, offL, ip, pcE, hrx, htmp, h1, h2, hbody, h3, hA1, hA2,
        hss, hk⟩
    · refine pfinish hr hrest rfl (ip' := skipc (V.env r).code pcB + 1) (rt' := 0) ?_ nw
      exact ⟨pcE, hss, hk⟩
  | goto r env ctrs m pos ss k =>
    obtain ⟨pcE, ⟨pc1, ⟨off, h1, hgo, rfl⟩, hss⟩, hk⟩ := hat
    obtain ⟨ss', K', pm, pcE', hfl, hA, hs', hk'⟩ :=
      goto_resolve (hV.chk r hr) (hV.res r hr) hgo
    simp only [jumpTo, hfl]
    refine pfinish hr hrest rfl (ip' := pm) (rt' := 0) ?_ nw
    exact ⟨pcE', hs', hk'⟩
  | ifGoto r env ctrs x cst m pos ss k =>
    obtain ⟨pcE, ⟨pc1, ⟨rx, t1, t2, t0, off, hrx, h1, hn1, h2, hn2, hne, hlt, h3, hn0, h4, hgo,
      rfl⟩, hss⟩, hk⟩ := hat
    split
    · obtain ⟨ss', K', pm, pcE', hfl, hA, hs', hk'⟩ :=
      goto_resolve (hV.chk r hr) (hV.res r hr) hgo
      simp only [jumpTo, hfl]
      refine pfinish hr hrest rfl (ip' := pm) (rt' := 0) ?_ nw
      exact ⟨pcE', hs', hk'⟩
    · refine pfinish hr hrest rfl (rt' := 0)
        (ip' := (V.env r).next ((V.env r).next ((V.env r).next ((V.env r).next ip)))) ?_ nw
      exact ⟨pcE, hss, hk⟩
  | stop | endRoot => exact ⟨by simp, fun h => nomatch h⟩
  | endLoop r env ctrs id body ss k' =>
    obtain ⟨pcE, rfl, ctr, offE, offL, pJ, pcR, hctr, hJ, hbody, h3, h4, hA1, hA2, hss, hk⟩ := hat
    split
    · refine pfinish hr hrest rfl (ip' := (V.env r).next pJ) (rt' := 0) ?_ nw
      exact ⟨pcE, hbody, ctr, offE, offL, pJ, pcR, hctr, hJ, hbody, h3, h4, hA1, hA2, hss, hk⟩
    · refine pfinish hr hrest rfl (ip' := skipc (V.env r).code ((V.env r).next pcE) + 1)
        (rt' := 0) ?_ nw
      exact ⟨pcR, hss, hk⟩
  | endWhile r env ctrs x body ss k' =>
    obtain ⟨pcE, rfl, rx, tmp, offE, offL, pL, pcR, hrx, htmp, h1, h2, hbody, h3, hA1, hA2, hss,
      hk⟩ := hat
    split
    · refine pfinish hr hrest rfl (ip' := (V.env r).next ((V.env r).next pL)) (rt' := 0) ?_ nw
      exact ⟨pcE, hbody, rx, tmp, offE, offL, pL, pcR, hrx, htmp, h1, h2, hbody, h3, hA1, hA2,
        hss, hk⟩
    · refine pfinish hr hrest rfl (ip' := skipc (V.env r).code pcE + 1) (rt' := 0) ?_ nw
      exact ⟨pcR, hss, hk⟩
  | endRet r env ctrs r2 env2 ctrs2 focus2 k2 x cs rest' =>
    obtain ⟨_, _, hps⟩ := hrest
    rw [pstack_cons] at hps
    obtain ⟨hr2, ⟨ip2, rt2, hat2⟩, hrest2⟩ := hps
    obtain ⟨live, pcS, pcE2, hctx, hss2, hk2⟩ := hat2
    refine pfinish hr2 hrest2 rfl (ip' := ip2) (rt' := 0) ?_ (fun ⟨_, _, h⟩ => nomatch h)
    exact ⟨live, rt2, pcS, pcE2, trivial, hctx, hss2, hk2⟩
  | endStuck r env ctrs caller rest' hcw =>
    obtain ⟨_, ⟨x, cs, hw⟩, _⟩ := hrest
    exact absurd hw (hcw x cs)
  | evalSimple r env ctrs focus k v n x cs =>
    obtain ⟨live, tgt, pc', pcS, pcE, hcv, hctx, hss, hk⟩ := hat
    refine pfinish hr hrest rfl (ip' := pc') (rt' := 0) ?_ (fun ⟨_, _, h⟩ => nomatch h)
    exact ⟨live, tgt, pcS, pcE, trivial, hctx, hss, hk⟩
  | evalCallNil r env ctrs focus k f x cs =>
    obtain ⟨live, tgt, pc', pcS, pcE, hcv, hctx, hss, hk⟩ := hat
    exact ppush hV hr hrest (checkValue_call_nil hcv) rfl hctx hss hk
  | evalCallCons r env ctrs focus k f a0 as0 x cs =>
    obtain ⟨live, tgt, pc', pcS, pcE, hcv, hctx, hss, hk⟩ := hat
    obtain ⟨live2, t, pca, hcv0, hctx'⟩ := hctx.enter hcv
    exact pfinish hr hrest rfl (ip' := ip) (rt' := 0) ⟨live2, t, pca, pcS, pcE, hcv0, hctx', hss, hk⟩
      (fun ⟨_, _, h⟩ => nomatch h)
  | retNil r env ctrs focus k n x =>
    obtain ⟨live, tgt, pcS, pcE, _, ⟨_, hrx, rfl⟩, hss, hk⟩ := hat
    refine pfinish hr hrest rfl (ip' := ip) (rt' := 0) ?_ nw
    exact ⟨pcE, hss, hk⟩
  | retCall r env ctrs focus k n x f done cs' =>
    obtain ⟨live, tgt, pcS, pcE, hh, hctx, hss, hk⟩ := hat
    obtain ⟨live', temps, tgt', pc', htail, hacc, hctx'⟩ := hctx.call hh
    exact ppush hV hr hrest htail hacc.1 hctx' hss hk
  | retMore r env ctrs focus k n x f done a0 as0 cs' =>
    obtain ⟨live, tgt, pcS, pcE, hh, hctx, hss, hk⟩ := hat
    obtain ⟨live2, t, pca, hcv0, hctx'⟩ := hctx.more hh
    exact pfinish hr hrest rfl (ip' := ip) (rt' := 0) ⟨live2, t, pca, pcS, pcE, hcv0, hctx', hss, hk⟩
      (fun ⟨_, _, h⟩ => nomatch h)
  | waitStuck r env ctrs focus k x cs => exact absurd ⟨x, cs, rfl⟩ hnw

end

end Sim
end Theo
