/-
  C04 (sugar) — desugaring keeps the end marker last and unique (`EndMarked`), so the grammar and
  static halves of C04 apply to the desugared stream.
-/
import Theo.Proofs.SugarList
import Theo.Spec.Language

namespace Theo.Sugar

theorem endMarked_cons {t : Token} {tl : List Token} (h : EndMarked (t :: tl)) (hne : tl ≠ []) :
    t.kind ≠ Tok.T_EOF ∧ EndMarked tl := by
  obtain ⟨body, eof, heq, he, hb⟩ := h
  cases body with
  | nil =>
    simp only [List.nil_append, List.cons.injEq] at heq
    exact absurd heq.2 hne
  | cons b body =>
    simp only [List.cons_append, List.cons.injEq] at heq
    obtain ⟨rfl, rfl⟩ := heq
    exact ⟨hb _ (by simp), body, eof, rfl, he, fun x hx => hb x (by simp [hx])⟩

theorem endMarked_cons_intro {t : Token} {tl : List Token} (ht : t.kind ≠ Tok.T_EOF) (h : EndMarked tl) :
    EndMarked (t :: tl) := by
  obtain ⟨body, eof, rfl, he, hb⟩ := h
  refine ⟨t :: body, eof, rfl, he, fun x hx => ?_⟩
  rcases List.mem_cons.1 hx with rfl | hx
  · exact ht
  · exact hb x hx

theorem sugarStep_endMarked : ∀ (ts ts' : List Token), sugarStep ts = some ts' → EndMarked ts → EndMarked ts' := by
  intro ts
  induction ts with
  | nil => intro ts' h; simp [sugarStep] at h
  | cons t0 tl0 ih =>
    intro ts' h hem
    rcases sugarStep_cases h with ⟨name, line, a, b, c, e, rest, heq, rfl, ha, _, _, _⟩ |
      ⟨t, tl, tl', heq, rfl, hs, _, _⟩
    · rw [heq] at hem
      obtain ⟨_, hem1⟩ := endMarked_cons hem (by simp)
      obtain ⟨_, hem2⟩ := endMarked_cons hem1 (by simp)
      obtain ⟨hc, hem3⟩ := endMarked_cons hem2 (by simp)
      simp only [call, List.cons_append, List.nil_append]
      have k : ∀ {k : Nat} {tx : Bytes} {tl : List Token}, k ≠ Tok.T_EOF → EndMarked tl →
          EndMarked (stdTok k tx line :: tl) := fun h => endMarked_cons_intro (stdTok_kind_ne h _ _)
      exact k (by decide) (k (by decide) (k (by decide) (endMarked_cons_intro (by rw [ha]; decide)
        (k (by decide) (endMarked_cons_intro hc (k (by decide) hem3))))))
    · injection heq with e1 e2
      subst e1 e2
      have hne : tl0 ≠ [] := by intro h0; rw [h0] at hs; simp [sugarStep] at hs
      obtain ⟨ht, hem'⟩ := endMarked_cons hem hne
      exact endMarked_cons_intro ht (ih tl' hs hem')

theorem sugarIter_endMarked : ∀ (k : Nat) (ts : List Token), EndMarked ts → EndMarked (sugarIter k ts) := by
  intro k
  induction k with
  | zero => intro ts h; exact h
  | succ k ih =>
    intro ts h
    rw [sugarIter]
    cases hs : sugarStep ts with
    | none => exact h
    | some ts' => exact ih ts' (sugarStep_endMarked ts ts' hs h)

theorem desugarLA_endMarked (ts : List Token) (h : EndMarked ts) : EndMarked (desugarLA ts) := by
  rw [← sugarIter_eq (sugarCountLA ts) ts (Nat.le_refl _)]
  exact sugarIter_endMarked _ _ h

end Theo.Sugar
