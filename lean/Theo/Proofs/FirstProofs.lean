/-
  FIRST-set fixpoint = textbook FIRST (C13).
-/
import Theo.Spec.CFG

namespace Theo
namespace FirstProofs

theorem unionNat_cons (a : List Nat) (y : Nat) (b : List Nat) :
    unionNat a (y :: b) = unionNat (if a.contains y then a else a ++ [y]) b := rfl

theorem mem_unionNat {x : Nat} {a b : List Nat} : x ∈ unionNat a b ↔ x ∈ a ∨ x ∈ b := by
  induction b generalizing a with
  | nil => simp [unionNat]
  | cons y b ih =>
    rw [unionNat_cons, ih]
    by_cases h : y ∈ a
    · simp [h]; grind
    · simp [h]; grind

theorem unionNat_prefix (a b : List Nat) : a <+: unionNat a b := by
  induction b generalizing a with
  | nil => simp [unionNat]
  | cons y b ih =>
    rw [unionNat_cons]
    by_cases h : y ∈ a
    · simpa [h] using ih a
    · simp only [List.contains_iff_mem, h, if_false]
      exact List.IsPrefix.trans (List.prefix_append a [y]) (ih _)

theorem unionNat_nodup {a : List Nat} (b : List Nat) (ha : a.Nodup) : (unionNat a b).Nodup := by
  induction b generalizing a with
  | nil => simpa [unionNat] using ha
  | cons y b ih =>
    rw [unionNat_cons]
    by_cases h : y ∈ a
    · simpa [h] using ih ha
    · simp only [List.contains_iff_mem, h, if_false]
      apply ih
      rw [List.nodup_append]
      refine ⟨ha, by simp, ?_⟩
      intro x hx y' hy'
      simp at hy'
      subst hy'
      intro hxy; subst hxy; exact h hx

theorem fos_nil (fi : FirstInfo) : firstOfString fi [] = ([], true) := rfl
theorem fos_eps (fi : FirstInfo) (r : List Sym) : firstOfString fi (.eps :: r) = ([], false) := rfl
theorem fos_t (fi : FirstInfo) (i : Nat) (r : List Sym) :
    firstOfString fi (.t i :: r) = ([i], false) := rfl
theorem fos_n (fi : FirstInfo) (k : Nat) (r : List Sym) :
    firstOfString fi (.n k :: r) =
      if fi.nullOf k then
        (unionNat (fi.firstOf k) (firstOfString fi r).1, (firstOfString fi r).2)
      else (fi.firstOf k, false) := rfl

theorem mem_fos_append (fi : FirstInfo) (p q : List Sym) (a : Nat) :
    a ∈ (firstOfString fi (p ++ q)).1 ↔
      a ∈ (firstOfString fi p).1 ∨ ((firstOfString fi p).2 = true ∧ a ∈ (firstOfString fi q).1) := by
  induction p with
  | nil => simp [fos_nil]
  | cons s p ih =>
    cases s with
    | eps => simp [fos_eps]
    | t i => simp [fos_t]
    | n k =>
      simp only [List.cons_append, fos_n]
      by_cases h : fi.nullOf k = true
      · simp only [h, if_true, mem_unionNat, ih]; grind
      · simp [h]

theorem null_fos_append (fi : FirstInfo) (p q : List Sym) :
    (firstOfString fi (p ++ q)).2 = true ↔
      (firstOfString fi p).2 = true ∧ (firstOfString fi q).2 = true := by
  induction p with
  | nil => simp [fos_nil]
  | cons s p ih =>
    cases s with
    | eps => simp [fos_eps]
    | t i => simp [fos_t]
    | n k =>
      simp only [List.cons_append, fos_n]
      by_cases h : fi.nullOf k = true
      · simp only [h, if_true, ih]
      · simp [h]

theorem sd_trans {g : Grammar} {α β γ : List Sym}
    (h1 : SDerives g α β) (h2 : SDerives g β γ) : SDerives g α γ := by
  induction h1 with
  | refl _ => exact h2
  | step hk _ ih => exact SDerives.step hk (ih h2)

theorem sd_context {g : Grammar} {α β : List Sym} (p q : List Sym)
    (h : SDerives g α β) : SDerives g (p ++ α ++ q) (p ++ β ++ q) := by
  induction h with
  | refl _ => exact SDerives.refl _
  | @step pre post rhs β n k hk _ ih =>
    have := SDerives.step (g := g) (pre := p ++ pre) (post := post ++ q) hk
      (by simpa [List.append_assoc] using ih)
    simpa [List.append_assoc] using this

theorem sd_single {g : Grammar} {n k : Nat} {rhs : List Sym}
    (hk : (g.alts n)[k]? = some rhs) : SDerives g [.n n] rhs := by
  have := SDerives.step (g := g) (pre := []) (post := []) hk
    (by simpa using SDerives.refl rhs)
  simpa using this

theorem sd_cons_left {g : Grammar} {α β : List Sym} (s : Sym)
    (h : SDerives g α β) : SDerives g (s :: α) (s :: β) := by
  simpa using sd_context [s] [] h

theorem sd_append_right {g : Grammar} {α β : List Sym} (q : List Sym)
    (h : SDerives g α β) : SDerives g (α ++ q) (β ++ q) := by
  simpa using sd_context [] q h

def FISound (g : Grammar) (fi : FirstInfo) : Prop :=
  (∀ n a, a ∈ fi.firstOf n → First g n a) ∧ (∀ n, fi.nullOf n = true → Nullable g n)

theorem fos_sound {g : Grammar} {fi : FirstInfo} (hs : FISound g fi) (ss : List Sym) :
    (∀ a ∈ (firstOfString fi ss).1, ∃ β, SDerives g ss (.t a :: β)) ∧
    ((firstOfString fi ss).2 = true → SDerives g ss []) := by
  induction ss with
  | nil => simp [fos_nil]; exact SDerives.refl _
  | cons s r ih =>
    cases s with
    | eps => simp [fos_eps]
    | t i =>
      simp only [fos_t]
      refine ⟨?_, by simp⟩
      intro a ha
      simp at ha; subst ha
      exact ⟨r, SDerives.refl _⟩
    | n k =>
      have hfirst : ∀ a ∈ fi.firstOf k, ∃ β, SDerives g (.n k :: r) (.t a :: β) := by
        intro a ha
        obtain ⟨β, hβ⟩ := hs.1 k a ha
        exact ⟨β ++ r, by simpa using sd_append_right r hβ⟩
      rw [fos_n]
      by_cases h : fi.nullOf k = true
      · have hnull : SDerives g (.n k :: r) r := by
          simpa using sd_append_right r (hs.2 k h)
        simp only [h, if_true, mem_unionNat]
        refine ⟨?_, fun hr => sd_trans hnull (ih.2 hr)⟩
        rintro a (ha | ha)
        · exact hfirst a ha
        · obtain ⟨β, hβ⟩ := ih.1 a ha
          exact ⟨β, sd_trans hnull hβ⟩
      · simp only [h]
        exact ⟨hfirst, by simp⟩

/-- the accumulator step of `firstRound` -/
def stepF (fi : FirstInfo) (acc : List Nat × Bool) (a : List Sym) : List Nat × Bool :=
  (unionNat acc.1 (firstOfString fi a).1, acc.2 || (firstOfString fi a).2)

/-- the new (FIRST, nullable) pair of non-terminal `n` after one round -/
def roundAcc (g : Grammar) (fi : FirstInfo) (n : Nat) : List Nat × Bool :=
  (g.alts n).foldl (stepF fi) (fi.firstOf n, fi.nullOf n)

theorem firstRound_eq (g : Grammar) (fi : FirstInfo) :
    firstRound g fi =
      ⟨((List.range g.numNT).map (roundAcc g fi)).map (·.1),
       ((List.range g.numNT).map (roundAcc g fi)).map (·.2)⟩ := rfl

theorem round_firsts_length (g : Grammar) (fi : FirstInfo) :
    (firstRound g fi).firsts.length = g.numNT := by simp [firstRound_eq]

theorem round_nullable_length (g : Grammar) (fi : FirstInfo) :
    (firstRound g fi).nullable.length = g.numNT := by simp [firstRound_eq]

theorem round_firstOf {g : Grammar} {fi : FirstInfo} {n : Nat} (hn : n < g.numNT) :
    (firstRound g fi).firstOf n = (roundAcc g fi n).1 := by
  simp [firstRound_eq, FirstInfo.firstOf, hn]

theorem round_nullOf {g : Grammar} {fi : FirstInfo} {n : Nat} (hn : n < g.numNT) :
    (firstRound g fi).nullOf n = (roundAcc g fi n).2 := by
  simp [firstRound_eq, FirstInfo.nullOf, hn]

theorem round_firstOf_ge {g : Grammar} {fi : FirstInfo} {n : Nat} (hn : g.numNT ≤ n) :
    (firstRound g fi).firstOf n = [] := by
  simp [firstRound_eq, FirstInfo.firstOf, hn]

theorem round_nullOf_ge {g : Grammar} {fi : FirstInfo} {n : Nat} (hn : g.numNT ≤ n) :
    (firstRound g fi).nullOf n = false := by
  simp [firstRound_eq, FirstInfo.nullOf, hn]

theorem mem_foldl_stepF (fi : FirstInfo) (as : List (List Sym)) (init : List Nat × Bool) (x : Nat) :
    x ∈ (as.foldl (stepF fi) init).1 ↔ x ∈ init.1 ∨ ∃ a ∈ as, x ∈ (firstOfString fi a).1 := by
  induction as generalizing init with
  | nil => simp
  | cons a as ih =>
    rw [List.foldl_cons, ih]
    simp only [stepF, mem_unionNat, List.mem_cons, exists_eq_or_imp, or_assoc]

theorem null_foldl_stepF (fi : FirstInfo) (as : List (List Sym)) (init : List Nat × Bool) :
    (as.foldl (stepF fi) init).2 = true ↔
      init.2 = true ∨ ∃ a ∈ as, (firstOfString fi a).2 = true := by
  induction as generalizing init with
  | nil => simp
  | cons a as ih =>
    rw [List.foldl_cons, ih]
    simp only [stepF, Bool.or_eq_true, List.mem_cons, exists_eq_or_imp, or_assoc]

theorem prefix_foldl_stepF (fi : FirstInfo) (as : List (List Sym)) (init : List Nat × Bool) :
    init.1 <+: (as.foldl (stepF fi) init).1 := by
  induction as generalizing init with
  | nil => simp
  | cons a as ih =>
    rw [List.foldl_cons]
    exact List.IsPrefix.trans (unionNat_prefix init.1 (firstOfString fi a).1) (ih (stepF fi init a))

theorem nodup_foldl_stepF (fi : FirstInfo) (as : List (List Sym)) (init : List Nat × Bool)
    (h : init.1.Nodup) : (as.foldl (stepF fi) init).1.Nodup := by
  induction as generalizing init with
  | nil => simpa
  | cons a as ih =>
    rw [List.foldl_cons]
    exact ih _ (unionNat_nodup _ h)

theorem round_sound {g : Grammar} {fi : FirstInfo} (hs : FISound g fi) :
    FISound g (firstRound g fi) := by
  constructor
  · intro n a ha
    by_cases hn : n < g.numNT
    · rw [round_firstOf hn, roundAcc, mem_foldl_stepF] at ha
      rcases ha with ha | ⟨rhs, hrhs, ha⟩
      · exact hs.1 n a ha
      · obtain ⟨k, hk⟩ := List.getElem?_of_mem hrhs
        obtain ⟨β, hβ⟩ := (fos_sound hs rhs).1 a ha
        exact ⟨β, sd_trans (sd_single hk) hβ⟩
    · rw [round_firstOf_ge (by omega)] at ha
      simp at ha
  · intro n hnull
    by_cases hn : n < g.numNT
    · rw [round_nullOf hn, roundAcc, null_foldl_stepF] at hnull
      rcases hnull with h | ⟨rhs, hrhs, h⟩
      · exact hs.2 n h
      · obtain ⟨k, hk⟩ := List.getElem?_of_mem hrhs
        exact sd_trans (sd_single hk) ((fos_sound hs rhs).2 h)
    · rw [round_nullOf_ge (by omega)] at hnull
      simp at hnull

theorem iter_inv {g : Grammar} (P : FirstInfo → Prop) (hround : ∀ fi, P fi → P (firstRound g fi))
    (k : Nat) {fi : FirstInfo} (h : P fi) : P (firstIter g k fi) := by
  induction k generalizing fi with
  | zero => exact h
  | succ k ih =>
    simp only [firstIter]
    split
    · exact h
    · exact ih (hround fi h)

def initFI (g : Grammar) : FirstInfo := ⟨List.replicate g.numNT [], List.replicate g.numNT false⟩

theorem init_firstOf (g : Grammar) (n : Nat) : (initFI g).firstOf n = [] := by
  simp only [initFI, FirstInfo.firstOf, List.getElem?_replicate]
  split <;> rfl

theorem init_nullOf (g : Grammar) (n : Nat) : (initFI g).nullOf n = false := by
  simp only [initFI, FirstInfo.nullOf, List.getElem?_replicate]
  split <;> rfl

theorem firstSets_eq (g : Grammar) :
    firstSets g = firstIter g (g.numNT * (g.terminals.eraseDups.length + 1) + 1) (initFI g) := rfl

theorem firstSets_sound (g : Grammar) : FISound g (firstSets g) := by
  rw [firstSets_eq]
  apply iter_inv (FISound g) (fun _ => round_sound)
  constructor
  · intro n a ha; rw [init_firstOf] at ha; simp at ha
  · intro n h; rw [init_nullOf] at h; simp at h

theorem alts_get {g : Grammar} {n k : Nat} {r : List Sym} (h : (g.alts n)[k]? = some r) :
    ∃ e ∈ g.prods, e.1 = n ∧ e.2[k]? = some r := by
  unfold Grammar.alts at h
  cases hf : g.prods.find? (fun e => e.1 = n) with
  | none => simp [hf] at h
  | some e =>
    rw [hf] at h
    have hn := List.find?_some hf
    exact ⟨e, List.mem_of_find?_eq_some hf, of_decide_eq_true hn, h⟩

theorem alts_entry {g : Grammar} {n : Nat} {rhs : List Sym} (h : rhs ∈ g.alts n) :
    ∃ e ∈ g.prods, e.1 = n ∧ rhs ∈ e.2 := by
  obtain ⟨k, hk⟩ := List.getElem?_of_mem h
  obtain ⟨e, he, hn, hr⟩ := alts_get hk
  exact ⟨e, he, hn, List.mem_of_getElem? hr⟩

theorem alts_lhs_lt {g : Grammar} (hg : g.Closed) {n : Nat} {rhs : List Sym}
    (h : rhs ∈ g.alts n) : n < g.numNT := by
  obtain ⟨e, he, hn, _⟩ := alts_entry h
  exact hn ▸ (hg e he).1

theorem alts_terminal {g : Grammar} {n i : Nat} {rhs : List Sym}
    (h : rhs ∈ g.alts n) (hi : Sym.t i ∈ rhs) : i ∈ g.terminals := by
  obtain ⟨e, he, _, hr⟩ := alts_entry h
  simp only [Grammar.terminals, List.mem_flatMap, List.mem_filterMap]
  exact ⟨e, he, rhs, hr, .t i, hi, rfl⟩

/-- at a fixed point, what a right-hand side contributes is already recorded for its
    left-hand side -/
theorem fix_alt {g : Grammar} {fi : FirstInfo} (hfix : firstRound g fi = fi) {n k : Nat}
    {rhs : List Sym} (hk : (g.alts n)[k]? = some rhs) (hn : n < g.numNT) :
    (∀ a ∈ (firstOfString fi rhs).1, a ∈ fi.firstOf n) ∧
    ((firstOfString fi rhs).2 = true → fi.nullOf n = true) := by
  have hmem : rhs ∈ g.alts n := List.mem_of_getElem? hk
  constructor
  · intro a ha
    rw [← hfix, round_firstOf hn, roundAcc, mem_foldl_stepF]
    exact Or.inr ⟨rhs, hmem, ha⟩
  · intro hr
    rw [← hfix, round_nullOf hn, roundAcc, null_foldl_stepF]
    exact Or.inr ⟨rhs, hmem, hr⟩

theorem mem_fos_single (fi : FirstInfo) (n a : Nat) :
    a ∈ (firstOfString fi [.n n]).1 ↔ a ∈ fi.firstOf n := by
  rw [fos_n]; split <;> simp [fos_nil, mem_unionNat]

theorem null_fos_single (fi : FirstInfo) (n : Nat) :
    (firstOfString fi [.n n]).2 = true ↔ fi.nullOf n = true := by
  rw [fos_n]; split <;> simp_all [fos_nil]

/-- `β` contributes to FIRST nothing that `α` does not -/
def FosLe (fi : FirstInfo) (β α : List Sym) : Prop :=
  (∀ a ∈ (firstOfString fi β).1, a ∈ (firstOfString fi α).1) ∧
  ((firstOfString fi β).2 = true → (firstOfString fi α).2 = true)

theorem fosLe_context {fi : FirstInfo} {β α : List Sym} (p q : List Sym) (h : FosLe fi β α) :
    FosLe fi (p ++ β ++ q) (p ++ α ++ q) := by
  constructor
  · intro a
    simp only [mem_fos_append, null_fos_append]
    exact Or.imp (Or.imp_right (And.imp_right (h.1 a))) (And.imp_left (And.imp_right h.2))
  · simp only [null_fos_append]
    exact And.imp_left (And.imp_right h.2)

/-- at a fixed point for `G`, derivation steps by rules that `G` has too only lose FIRST symbols -/
theorem fix_mono {g G : Grammar} (hsub : ∀ (n k : Nat) (rhs : List Sym), (g.alts n)[k]? = some rhs →
      (G.alts n)[k]? = some rhs ∧ n < G.numNT)
    {fi : FirstInfo} (hfix : firstRound G fi = fi) {α β : List Sym} (h : SDerives g α β) :
    FosLe fi β α := by
  induction h with
  | refl _ => exact ⟨fun _ h => h, fun h => h⟩
  | @step pre post rhs β n k hk _ ih =>
    obtain ⟨hF, hN⟩ := fix_alt hfix (hsub n k rhs hk).1 (hsub n k rhs hk).2
    have hstep : FosLe fi (pre ++ rhs ++ post) (pre ++ [Sym.n n] ++ post) :=
      fosLe_context pre post ⟨fun a ha => (mem_fos_single fi n a).2 (hF a ha),
        fun hr => (null_fos_single fi n).2 (hN hr)⟩
    rw [List.append_assoc pre [Sym.n n], List.singleton_append] at hstep
    exact ⟨fun a ha => hstep.1 a (ih.1 a ha), fun hb => hstep.2 (ih.2 hb)⟩

theorem fix_complete {g : Grammar} (hg : g.Closed) {fi : FirstInfo} (hfix : firstRound g fi = fi)
    (n : Nat) :
    (∀ a, First g n a → a ∈ fi.firstOf n) ∧ (Nullable g n → fi.nullOf n = true) :=
  have hsub (n k : Nat) (rhs : List Sym) (h : (g.alts n)[k]? = some rhs) :=
    And.intro h (alts_lhs_lt hg (List.mem_of_getElem? h))
  ⟨fun a ⟨_, hβ⟩ => (mem_fos_single fi n a).1 ((fix_mono hsub hfix hβ).1 a (by simp [fos_t])),
   fun h => (null_fos_single fi n).1 ((fix_mono hsub hfix h).2 rfl)⟩

theorem sum_range_mono (f h : Nat → Nat) (N : Nat) (H : ∀ i, i < N → f i ≤ h i) :
    ((List.range N).map f).sum ≤ ((List.range N).map h).sum ∧
    (((List.range N).map f).sum = ((List.range N).map h).sum → ∀ i, i < N → f i = h i) := by
  induction N with
  | zero => exact ⟨Nat.le_refl _, fun _ i hi => absurd hi (Nat.not_lt_zero i)⟩
  | succ N ih =>
    have ih' := ih (fun i hi => H i (Nat.lt_succ_of_lt hi))
    have hN := H N (Nat.lt_succ_self N)
    simp only [List.range_succ, List.map_append, List.sum_append, List.map_cons, List.map_nil,
      List.sum_cons, List.sum_nil, Nat.add_zero]
    refine ⟨Nat.add_le_add ih'.1 hN, ?_⟩
    intro heq i hi
    rcases Nat.lt_succ_iff_lt_or_eq.1 hi with hiN | hiN
    · exact ih'.2 (by omega) i hiN
    · subst hiN; omega

def Inv (g : Grammar) (fi : FirstInfo) : Prop :=
  fi.firsts.length = g.numNT ∧ fi.nullable.length = g.numNT ∧
  ∀ n, (fi.firstOf n).Nodup ∧ ∀ a ∈ fi.firstOf n, a ∈ g.terminals

theorem fos_terminals {g : Grammar} {fi : FirstInfo}
    (hfi : ∀ n, ∀ a ∈ fi.firstOf n, a ∈ g.terminals) (ss : List Sym)
    (hss : ∀ i, Sym.t i ∈ ss → i ∈ g.terminals) :
    ∀ a ∈ (firstOfString fi ss).1, a ∈ g.terminals := by
  induction ss with
  | nil => simp [fos_nil]
  | cons s r ih =>
    have ih' := ih (fun i hi => hss i (List.mem_cons_of_mem _ hi))
    cases s with
    | eps => simp [fos_eps]
    | t i =>
      intro a ha
      rw [fos_t, List.mem_singleton] at ha
      exact ha ▸ hss i List.mem_cons_self
    | n k =>
      rw [fos_n]
      split
      · intro a ha
        rcases mem_unionNat.1 ha with ha | ha
        · exact hfi k a ha
        · exact ih' a ha
      · exact hfi k

theorem inv_round {g : Grammar} {fi : FirstInfo} (h : Inv g fi) : Inv g (firstRound g fi) := by
  refine ⟨round_firsts_length g fi, round_nullable_length g fi, ?_⟩
  intro n
  by_cases hn : n < g.numNT
  · rw [round_firstOf hn, roundAcc]
    refine ⟨nodup_foldl_stepF _ _ _ (h.2.2 n).1, ?_⟩
    intro a ha
    rw [mem_foldl_stepF] at ha
    rcases ha with ha | ⟨rhs, hrhs, ha⟩
    · exact (h.2.2 n).2 a ha
    · exact fos_terminals (fun m => (h.2.2 m).2) rhs (fun i hi => alts_terminal hrhs hi) a ha
  · rw [round_firstOf_ge (Nat.le_of_not_lt hn)]
    exact ⟨List.nodup_nil, fun _ ha => nomatch ha⟩

/-- number of facts recorded for non-terminal `n` -/
def wt (fi : FirstInfo) (n : Nat) : Nat := (fi.firstOf n).length + (fi.nullOf n).toNat

/-- number of facts recorded in `fi` -/
def mu (g : Grammar) (fi : FirstInfo) : Nat := ((List.range g.numNT).map (wt fi)).sum

theorem mu_le {g : Grammar} {fi : FirstInfo} (h : Inv g fi) :
    mu g fi ≤ g.numNT * (g.terminals.eraseDups.length + 1) := by
  have hm := (sum_range_mono (wt fi) (fun _ => g.terminals.eraseDups.length + 1) g.numNT
    (fun n _ => Nat.add_le_add
      ((h.2.2 n).1.length_le_of_subset (fun x hx => List.mem_eraseDups.2 ((h.2.2 n).2 x hx)))
      (Bool.toNat_le _))).1
  rwa [List.map_const', List.sum_replicate_nat, List.length_range] at hm

theorem toNat_le_of_imp {a b : Bool} (h : a = true → b = true) :
    a.toNat ≤ b.toNat ∧ (a.toNat = b.toNat → b = a) := by
  revert h; cases a <;> cases b <;> decide

/-- a round only adds facts; where it adds none, nothing changes -/
theorem wt_round {g : Grammar} (fi : FirstInfo) {n : Nat} (hn : n < g.numNT) :
    wt fi n ≤ wt (firstRound g fi) n ∧
    (wt fi n = wt (firstRound g fi) n →
      (firstRound g fi).firstOf n = fi.firstOf n ∧ (firstRound g fi).nullOf n = fi.nullOf n) := by
  have hp : fi.firstOf n <+: (firstRound g fi).firstOf n := by
    rw [round_firstOf hn, roundAcc]
    exact prefix_foldl_stepF fi (g.alts n) (fi.firstOf n, fi.nullOf n)
  have hb : fi.nullOf n = true → (firstRound g fi).nullOf n = true := by
    rw [round_nullOf hn, roundAcc, null_foldl_stepF]
    exact Or.inl
  have hl := hp.length_le
  obtain ⟨hb1, hb2⟩ := toNat_le_of_imp hb
  refine ⟨Nat.add_le_add hl hb1, fun he => ?_⟩
  simp only [wt] at he
  exact ⟨(hp.eq_of_length (by omega)).symm, hb2 (by omega)⟩

theorem fi_ext {fi fi' : FirstInfo} (h1 : fi.firsts.length = fi'.firsts.length)
    (h2 : fi.nullable.length = fi'.nullable.length)
    (hf : ∀ n, n < fi.firsts.length → fi.firstOf n = fi'.firstOf n)
    (hn : ∀ n, n < fi.nullable.length → fi.nullOf n = fi'.nullOf n) : fi = fi' := by
  obtain ⟨a, b⟩ := fi
  obtain ⟨a', b'⟩ := fi'
  congr
  · refine List.ext_getElem h1 (fun i hi hi' => ?_)
    simpa [FirstInfo.firstOf, hi, hi'] using hf i hi
  · refine List.ext_getElem h2 (fun i hi hi' => ?_)
    simpa [FirstInfo.nullOf, hi, hi'] using hn i hi

theorem mu_round_lt {g : Grammar} {fi : FirstInfo} (h : Inv g fi) (hne : firstRound g fi ≠ fi) :
    mu g fi < mu g (firstRound g fi) := by
  have hm := sum_range_mono (wt fi) (wt (firstRound g fi)) g.numNT (fun n hn => (wt_round fi hn).1)
  refine Nat.lt_of_le_of_ne hm.1 (fun heq => hne ?_)
  have hpt := fun n hn => (wt_round fi hn).2 (hm.2 heq n hn)
  have hl1 := round_firsts_length g fi
  have hl2 := round_nullable_length g fi
  exact fi_ext (hl1.trans h.1.symm) (hl2.trans h.2.1.symm)
    (fun n hn => (hpt n (hl1 ▸ hn)).1) (fun n hn => (hpt n (hl2 ▸ hn)).2)

theorem iter_fix {g : Grammar} (k : Nat) {fi : FirstInfo} (h : Inv g fi)
    (hk : g.numNT * (g.terminals.eraseDups.length + 1) < mu g fi + k) :
    firstRound g (firstIter g k fi) = firstIter g k fi := by
  induction k generalizing fi with
  | zero => have := mu_le h; omega
  | succ k ih =>
    simp only [firstIter]
    split
    · assumption
    · rename_i hne
      have := mu_round_lt h hne
      exact ih (inv_round h) (by omega)

theorem inv_init (g : Grammar) : Inv g (initFI g) := by
  refine ⟨by simp [initFI], by simp [initFI], ?_⟩
  intro n
  rw [init_firstOf]
  simp

theorem firstSets_terminals (g : Grammar) (n a : Nat) (h : a ∈ (firstSets g).firstOf n) :
    a ∈ g.terminals :=
  ((iter_inv (Inv g) (fun _ => inv_round) _ (inv_init g)).2.2 n).2 a h

theorem firstSets_fix (g : Grammar) : firstRound g (firstSets g) = firstSets g := by
  rw [firstSets_eq]
  exact iter_fix _ (inv_init g) (by omega)

theorem first_correct (g : Grammar) (hg : g.Closed) (n a : Nat) :
    a ∈ (firstSets g).firstOf n ↔ First g n a :=
  ⟨(firstSets_sound g).1 n a, (fix_complete hg (firstSets_fix g) n).1 a⟩

theorem nullable_correct (g : Grammar) (hg : g.Closed) (n : Nat) :
    (firstSets g).nullOf n = true ↔ Nullable g n :=
  ⟨(firstSets_sound g).2 n, (fix_complete hg (firstSets_fix g) n).2⟩

end FirstProofs
end Theo
