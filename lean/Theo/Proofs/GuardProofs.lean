/-
  Range guards of gen.cpp / macro.cpp (C20): the conversions behind them.
-/
import Theo.Model.Gen

namespace Theo

theorem strtolNat_big (tok : Bytes) (h : INT_MAX ≤ (decVal tok : Int)) :
    INT_MAX ≤ (strtolNat tok : Int) := by
  simp only [strtolNat, LONG_MAX, INT_MAX] at *
  omega

theorem strtolNat_small (tok : Bytes) (h : (decVal tok : Int) < INT_MAX) :
    strtolNat tok = decVal tok := by
  simp only [strtolNat, LONG_MAX, INT_MAX] at *
  omega

theorem toInt32_small (v : Nat) (h : (v : Int) < INT_MAX) : toInt32 v = (v : Int) := by
  simp only [INT_MAX] at h
  have h1 : v % 4294967296 = v := Nat.mod_eq_of_lt (by omega)
  have h2 : v < 2147483648 := by omega
  simp only [toInt32, h1, h2, if_true]

end Theo
