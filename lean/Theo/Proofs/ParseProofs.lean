/-
  The recursive-descent parser model against the documented grammar (C04), fuel sufficiency (C02).

  `Run` is the error-free behaviour of the parser as a fuel-free relation on token lists, `Built` a
  `Run` together with the tree it returns.  Soundness: an error-free call is a `Run` (`ab_all`, by
  induction on the fuel) and a `Run` spells a derivation (`run_derives`).  Completeness: a derivation
  is a `Run` (`claim_step`; the `MOREP` chains are re-associated in continuation-passing style, which
  disposes of the `id : P MOREP` ambiguity) and a `Run` is what the parser does when the fuel
  suffices (`run_parse`).  Fuel: with `4·|input| + c` nesting levels left no `fuel` error is
  recorded (`fb_all`; after a matched token every call has room, `Step`).
  In front, for any `Grammar`: a right-hand side spelt by a word, given what the nonterminals derive
  (`CSeq`), with which a derivation is built from a rule (`derives_intro`) and a claim about all
  derivations is proved rule by rule (`derives_ind`).
-/
import Theo.Spec.Language
import Theo.Model.Parse
import Theo.Proofs.Invariant
import Theo.Proofs.FirstProofs

namespace Theo
namespace C04

def CSeq (c : Nat → List Nat → Prop) : List Sym → List Nat → Prop
  | [], w => w = []
  | .eps :: _, _ => False
  | .t a :: r, w => ∃ v, w = a :: v ∧ CSeq c r v
  | .n A :: r, w => ∃ u v, w = u ++ v ∧ c A u ∧ CSeq c r v

theorem forest_of_cseq (g : Grammar) : ∀ (rhs : List Sym) (w : List Nat),
    CSeq (fun B u => Derives g (.n B) u) rhs w →
    ∃ f : Forest, f.Valid g ∧ f.roots = rhs ∧ f.yield = w := by
  intro rhs
  induction rhs with
  | nil => intro w h; exact ⟨.nil, trivial, rfl, by simp [CSeq] at h; simp [Forest.yield, h]⟩
  | cons s r ih =>
    intro w h
    cases s with
    | eps => exact absurd h (by simp [CSeq])
    | t a =>
      obtain ⟨v, rfl, hv⟩ := h
      obtain ⟨f, hf, hr, hy⟩ := ih v hv
      exact ⟨.cons (.leaf a) f, ⟨trivial, hf⟩, by simp [Forest.roots, Tree.root, hr],
        by simp [Forest.yield, Tree.yield, hy]⟩
    | n A =>
      obtain ⟨u, v, rfl, ⟨t, ht, htr, hty⟩, hv⟩ := h
      obtain ⟨f, hf, hr, hy⟩ := ih v hv
      exact ⟨.cons t f, ⟨ht, hf⟩, by simp [Forest.roots, htr, hr], by simp [Forest.yield, hty, hy]⟩

theorem derives_intro (g : Grammar) {A k : Nat} {rhs : List Sym} {w : List Nat}
    (ha : (g.alts A)[k]? = some rhs) (h : CSeq (fun B u => Derives g (.n B) u) rhs w) :
    Derives g (.n A) w := by
  obtain ⟨f, hf, hr, hy⟩ := forest_of_cseq g rhs w h
  exact ⟨.node A k f, ⟨by rw [hr]; exact ha, hf⟩, rfl, by simp [Tree.yield, hy]⟩

mutual
theorem tree_claim (g : Grammar) (c : Nat → List Nat → Prop)
    (step : ∀ (A k : Nat) (rhs : List Sym) (w : List Nat), (g.alts A)[k]? = some rhs → CSeq c rhs w → c A w) :
    (t : Tree) → t.Valid g → ∀ A, t.root = .n A → c A t.yield
  | .leaf _, _, _, h => by simp [Tree.root] at h
  | .node l a cs, hv, A, h => by
    simp only [Tree.root, Sym.n.injEq] at h
    subst h
    exact step l a cs.roots _ hv.1 (forest_claim g c step cs hv.2)
theorem forest_claim (g : Grammar) (c : Nat → List Nat → Prop)
    (step : ∀ (A k : Nat) (rhs : List Sym) (w : List Nat), (g.alts A)[k]? = some rhs → CSeq c rhs w → c A w) :
    (f : Forest) → f.Valid g → CSeq c f.roots f.yield
  | .nil, _ => rfl
  | .cons (.leaf _) f, hv => ⟨_, rfl, forest_claim g c step f hv.2⟩
  | .cons (.node l a cs) f, hv =>
    ⟨_, _, rfl, tree_claim g c step (.node l a cs) hv.1 l rfl, forest_claim g c step f hv.2⟩
end

theorem derives_ind (g : Grammar) (c : Nat → List Nat → Prop)
    (step : ∀ (A k : Nat) (rhs : List Sym) (w : List Nat), (g.alts A)[k]? = some rhs → CSeq c rhs w → c A w)
    {A : Nat} {w : List Nat} (h : Derives g (.n A) w) : c A w := by
  obtain ⟨t, hv, hr, rfl⟩ := h
  exact tree_claim g c step t hv A hr

open LangNT

/-- `langGrammar` has the documented productions and no others: the two closed facts through which
    the proofs see `Grammar.ofRules`.  From here on a production is an entry of `langRules`. -/
theorem lang_prods_sub :
    langGrammar.prods.all (fun e => e.2.all fun rhs => langRules.contains (e.1, rhs)) = true := by decide +kernel
theorem lang_rules_sub : langRules.all (fun r => (langGrammar.alts r.1).contains r.2) = true := by decide +kernel

theorem rule_of_alt {A k : Nat} {rhs : List Sym} (h : (langGrammar.alts A)[k]? = some rhs) :
    (A, rhs) ∈ langRules := by
  obtain ⟨e, he, rfl, hr⟩ := FirstProofs.alts_entry (List.mem_of_getElem? h)
  exact List.contains_iff_mem.1 (List.all_eq_true.1 (List.all_eq_true.1 lang_prods_sub e he) rhs hr)

theorem alt_of_rule {i A : Nat} {rhs : List Sym} (h : langRules[i]? = some (A, rhs)) :
    ∃ k : Nat, (langGrammar.alts A)[k]? = some rhs := by
  have := List.all_eq_true.1 lang_rules_sub (A, rhs) (List.mem_of_getElem? h)
  exact List.getElem?_of_mem (List.contains_iff_mem.1 this)

def laT (ts : List Token) : Nat := (ts.head?.getD ⟨Tok.T_EOF, bEOF, bDash, -1⟩).kind
@[simp] theorem laT_nil : laT [] = Tok.T_EOF := rfl
@[simp] theorem laT_cons (t : Token) (r : List Token) : laT (t :: r) = t.kind := rfl
theorem la_eq (ps : PS) : ps.la = laT ps.ts := rfl
@[simp] theorem la_mk (ts : List Token) (e : List SynErr) : PS.la ⟨ts, e⟩ = laT ts := rfl
theorem laT_ne_eof {ts : List Token} (h : laT ts ≠ Tok.T_EOF) : ∃ t r, ts = t :: r := by
  cases ts with
  | nil => simp at h
  | cons t r => exact ⟨t, r, rfl⟩

@[simp] theorem err_errs_length (ps : PS) (k : SynKind) : (ps.err k).errs.length = ps.errs.length + 1 := by
  simp [PS.err]
@[simp] theorem err_ts (ps : PS) (k : SynKind) : (ps.err k).ts = ps.ts := rfl
@[simp] theorem err_la (ps : PS) (k : SynKind) : (ps.err k).la = ps.la := rfl

def Adv (Q : Prop) (a b : PS) : Prop := a.errs.length < b.errs.length ∨ (b.errs = a.errs ∧ Q)

theorem Adv.le {Q a b} (h : Adv Q a b) : a.errs.length ≤ b.errs.length := by
  rcases h with h | ⟨h, _⟩
  · omega
  · rw [h]; exact Nat.le_refl _
theorem Adv.refl {Q : Prop} {a} (h : Q) : Adv Q a a := Or.inr ⟨rfl, h⟩
theorem Adv.mono {Q Q' : Prop} {a b} (h : Adv Q a b) (f : Q → Q') : Adv Q' a b :=
  h.imp id (fun ⟨e, q⟩ => ⟨e, f q⟩)
theorem Adv.of_lt {Q : Prop} {a b c : PS} (h1 : a.errs.length < b.errs.length)
    (h2 : b.errs.length ≤ c.errs.length) : Adv Q a c := Or.inl (by omega)
theorem Adv.compd {Q R : Prop} {a b c : PS} (h1 : Adv Q a b) (hle : b.errs.length ≤ c.errs.length)
    (h2 : Q → b.errs = a.errs → Adv R b c) : Adv (Q ∧ R) a c := by
  rcases h1 with h1 | ⟨e1, q⟩
  · exact Or.inl (by omega)
  · rcases h2 q e1 with h2 | ⟨e2, r⟩
    · exact Or.inl (by rw [← e1]; exact h2)
    · exact Or.inr ⟨by rw [e2, e1], q, r⟩
theorem Adv.built {Q : Prop} {a b : PS} (h : Adv Q a b) (hb : b.errs = []) : Q := by
  rcases h with h | ⟨_, q⟩
  · rw [hb] at h; exact absurd h (Nat.not_lt_zero _)
  · exact q
theorem Adv.comp {Q R : Prop} {a b c : PS} (h1 : Adv Q a b) (h2 : Adv R b c) : Adv (Q ∧ R) a c :=
  h1.compd h2.le (fun _ _ => h2)

theorem skipToSep_suffix : ∀ ts : List Token, PS.skipToSep ts <:+ ts
  | [] => List.suffix_refl _
  | t :: ts => by
    rw [PS.skipToSep]
    split
    · exact List.suffix_refl _
    · exact (skipToSep_suffix ts).trans (List.suffix_cons t ts)

theorem matchK_spec (ps : PS) (k : Nat) : (ps.matchK k).ts <:+ ps.ts ∧
    ((ps.la = k ∧ (ps.matchK k).errs = ps.errs ∧ (k ≠ Tok.T_EOF → ps.ts = ps.cur :: (ps.matchK k).ts)) ∨
      (ps.la ≠ k ∧ (ps.matchK k).errs = (ps.err .expectedToken).errs)) := by
  unfold PS.matchK
  by_cases h : ps.la = k
  · rw [if_neg (not_not_intro h)]
    by_cases he : ps.la = Tok.T_EOF
    · rw [if_neg (not_not_intro he)]
      exact ⟨List.suffix_refl _, .inl ⟨h, rfl, fun hk => absurd (h ▸ he) hk⟩⟩
    · rw [if_pos he]
      obtain ⟨t, r, htr⟩ := laT_ne_eof he
      exact ⟨List.drop_suffix 1 _, .inl ⟨h, rfl, fun _ => by unfold PS.cur; rw [htr]; rfl⟩⟩
  · rw [if_pos h]
    dsimp only
    split
    · exact ⟨(List.drop_suffix 1 _).trans (skipToSep_suffix _), .inr ⟨h, rfl⟩⟩
    · exact ⟨skipToSep_suffix _, .inr ⟨h, rfl⟩⟩

theorem matchK_le (ps : PS) (k : Nat) : ps.errs.length ≤ (ps.matchK k).errs.length := by
  rcases (matchK_spec ps k).2 with ⟨_, e, _⟩ | ⟨_, e⟩ <;> rw [e]
  · exact Nat.le_refl _
  · rw [err_errs_length]; exact Nat.le_succ _

theorem ite_snd {α β} (c : Prop) [Decidable c] (a b : α × β) :
    (if c then a else b).2 = if c then a.2 else b.2 := by split <;> rfl

theorem pS_zero (ps : PS) : (pS 0 ps).2 = ps.err .fuel := by rw [pS]
theorem pPORTS_zero (ps : PS) : (pPORTS 0 ps).2 = ps.err .fuel := by rw [pPORTS]
theorem pARGS_zero (ps : PS) : (pARGS 0 ps).2 = ps.err .fuel := by rw [pARGS]
theorem pEEOS_zero (ps : PS) : pEEOS 0 ps = ps.err .fuel := by rw [pEEOS]
theorem pP_zero (ps : PS) : (pP 0 ps).2 = ps.err .fuel := by rw [pP]
theorem pMOREP_zero (ps : PS) : (pMOREP 0 ps).2 = ps.err .fuel := by rw [pMOREP]
theorem pVALUE_zero (ps : PS) : (pVALUE 0 ps).2 = ps.err .fuel := rfl
theorem pMVARGS_zero (ps : PS) : (pMVARGS 0 ps).2 = ps.err .fuel := by rw [pMVARGS]

theorem pS_succ (f : Nat) (ps : PS) : (pS (f+1) ps).2 =
    if ps.la = Tok.PROGRAM then
      (pS f ((pP f ((pPORTS f ((ps.matchK Tok.PROGRAM).matchK Tok.ID)).2.matchK Tok.DO)).2.matchK Tok.END)).2
    else (pP f ps).2 := by
  rw [pS]; simp only [PS.matchmk, ite_snd]

theorem pOPORTS_eq (ps : PS) : (pOPORTS ps).2 =
    if ps.la = Tok.OUT then (ps.matchK Tok.OUT).matchK Tok.ID else ps := by
  rw [pOPORTS, ite_snd, PS.matchmk]

theorem pPORTS_succ (f : Nat) (ps : PS) : (pPORTS (f+1) ps).2 =
    if ps.la = Tok.IN then (pOPORTS (pARGS f (ps.matchK Tok.IN)).2).2 else ps := by
  rw [pPORTS, ite_snd]

theorem pARGS_succ (f : Nat) (ps : PS) : (pARGS (f+1) ps).2 =
    if (ps.matchK Tok.ID).la ≠ Tok.ARGSEP then ps.matchK Tok.ID
    else (pARGS f ((ps.matchK Tok.ID).matchK Tok.ARGSEP)).2 := by
  rw [pARGS]
  dsimp only [PS.matchmk]
  simp only [ite_snd]

/-- the lookaheads that begin a statement -/
abbrev Comp (k : Nat) : Prop :=
  k = Tok.ID ∨ k = Tok.LOOP ∨ k = Tok.WHILE ∨ k = Tok.GOTO ∨ k = Tok.IF ∨ k = Tok.STOP

theorem pEEOS_succ (f : Nat) (ps : PS) : pEEOS (f+1) ps =
    if Comp ps.la then
      pEEOS f (pP f (ps.err .missingSemi)).2
    else if ps.la = Tok.PROGRAM then pEEOS f (pS f (ps.err .progNotAllowed)).2
    else if ps.la = Tok.PROGSEP then pEEOS f (pMOREP f ps).2
    else ps := by
  rw [pEEOS]

theorem pP_succ (f : Nat) (ps : PS) : (pP (f+1) ps).2 =
    if ps.la = Tok.ID then
      pEEOS f (pMOREP f
        (if (ps.matchK Tok.ID).la = Tok.ASSIGN then (pVALUE f ((ps.matchK Tok.ID).matchK Tok.ASSIGN)).2
         else if (ps.matchK Tok.ID).la = Tok.LABELDEC then (pP f ((ps.matchK Tok.ID).matchK Tok.LABELDEC)).2
         else (ps.matchK Tok.ID).err .expectedAssign)).2
    else if ps.la = Tok.LOOP ∨ ps.la = Tok.WHILE then
      pEEOS f (pMOREP f ((pP f ((if ps.la = Tok.WHILE then ((ps.matchK ps.la).matchK Tok.ID).matchK Tok.NEQ_ZERO
          else (ps.matchK ps.la).matchK Tok.ID).matchK Tok.DO)).2.matchK Tok.END)).2
    else if ps.la = Tok.GOTO then
      pEEOS f (pMOREP f ((ps.matchK Tok.GOTO).matchK Tok.ID)).2
    else if ps.la = Tok.IF then
      pEEOS f (pMOREP f (((((((ps.matchK Tok.IF).matchK Tok.ID).matchK Tok.EQ).matchK Tok.INT).matchK Tok.THEN).matchK Tok.GOTO).matchK Tok.ID)).2
    else if ps.la = Tok.STOP then
      pEEOS f (pMOREP f (ps.matchK Tok.STOP)).2
    else pEEOS f (ps.err .expectedComponent) := by
  rw [pP]
  dsimp only [PS.matchmk]
  simp only [ite_snd]
  repeat' split

theorem pP_id {f : Nat} {ps : PS} (h : ps.la = Tok.ID) : (pP (f+1) ps).2 =
    pEEOS f (pMOREP f
      (if (ps.matchK Tok.ID).la = Tok.ASSIGN then (pVALUE f ((ps.matchK Tok.ID).matchK Tok.ASSIGN)).2
       else if (ps.matchK Tok.ID).la = Tok.LABELDEC then (pP f ((ps.matchK Tok.ID).matchK Tok.LABELDEC)).2
       else (ps.matchK Tok.ID).err .expectedAssign)).2 := by
  rw [pP_succ, if_pos h]
theorem pP_loop {f : Nat} {ps : PS} (h : ps.la = Tok.LOOP) : (pP (f+1) ps).2 =
    pEEOS f (pMOREP f ((pP f (((ps.matchK Tok.LOOP).matchK Tok.ID).matchK Tok.DO)).2.matchK Tok.END)).2 := by
  rw [pP_succ, if_neg (by rw [h]; decide), if_pos (Or.inl h)]
  simp only [h]
  rw [if_neg (by decide)]
theorem pP_while {f : Nat} {ps : PS} (h : ps.la = Tok.WHILE) : (pP (f+1) ps).2 =
    pEEOS f (pMOREP f ((pP f ((((ps.matchK Tok.WHILE).matchK Tok.ID).matchK Tok.NEQ_ZERO).matchK Tok.DO)).2.matchK
      Tok.END)).2 := by
  rw [pP_succ, if_neg (by rw [h]; decide), if_pos (Or.inr h)]
  simp only [h, ↓reduceIte]
theorem pP_goto {f : Nat} {ps : PS} (h : ps.la = Tok.GOTO) : (pP (f+1) ps).2 =
    pEEOS f (pMOREP f ((ps.matchK Tok.GOTO).matchK Tok.ID)).2 := by
  rw [pP_succ, if_neg (by rw [h]; decide), if_neg (by rw [h]; decide), if_pos h]
theorem pP_if {f : Nat} {ps : PS} (h : ps.la = Tok.IF) : (pP (f+1) ps).2 =
    pEEOS f (pMOREP f (((((((ps.matchK Tok.IF).matchK Tok.ID).matchK Tok.EQ).matchK Tok.INT).matchK Tok.THEN).matchK
      Tok.GOTO).matchK Tok.ID)).2 := by
  rw [pP_succ, if_neg (by rw [h]; decide), if_neg (by rw [h]; decide), if_neg (by rw [h]; decide), if_pos h]
theorem pP_stop {f : Nat} {ps : PS} (h : ps.la = Tok.STOP) : (pP (f+1) ps).2 =
    pEEOS f (pMOREP f (ps.matchK Tok.STOP)).2 := by
  rw [pP_succ, if_neg (by rw [h]; decide), if_neg (by rw [h]; decide), if_neg (by rw [h]; decide),
    if_neg (by rw [h]; decide), if_pos h]

theorem pP_other {f : Nat} {ps : PS} (h : ¬ Comp ps.la) :
    (pP (f+1) ps).2 = pEEOS f (ps.err .expectedComponent) := by
  rw [pP_succ, if_neg (fun e => h (.inl e)), if_neg (fun e => h (.inr (e.elim .inl (.inr ∘ .inl)))),
    if_neg (fun e => h (.inr (.inr (.inr (.inl e))))), if_neg (fun e => h (.inr (.inr (.inr (.inr (.inl e)))))),
    if_neg (fun e => h (.inr (.inr (.inr (.inr (.inr e))))))]

theorem pMOREP_succ (f : Nat) (ps : PS) : (pMOREP (f+1) ps).2 =
    if ps.la ≠ Tok.PROGSEP then ps
    else (pP f (if (ps.matchK Tok.PROGSEP).la = Tok.END ∨ (ps.matchK Tok.PROGSEP).la = Tok.T_EOF
      then (ps.matchK Tok.PROGSEP).err .excessSemi else ps.matchK Tok.PROGSEP)).2 := by
  rw [pMOREP, ite_snd]

theorem pVALUE_succ (f : Nat) (ps : PS) : (pVALUE (f+1) ps).2 =
    if ps.la = Tok.ID then ps.matchK Tok.ID
    else if ps.la = Tok.INT then ps.matchK Tok.INT
    else if ps.la = Tok.RUN then
      (if (((ps.matchK Tok.RUN).matchK Tok.ID).matchK Tok.WITH).la ≠ Tok.ID ∧
          (((ps.matchK Tok.RUN).matchK Tok.ID).matchK Tok.WITH).la ≠ Tok.INT ∧
          (((ps.matchK Tok.RUN).matchK Tok.ID).matchK Tok.WITH).la ≠ Tok.RUN
       then ((ps.matchK Tok.RUN).matchK Tok.ID).matchK Tok.WITH
       else (pMVARGS f (pVALUE f (((ps.matchK Tok.RUN).matchK Tok.ID).matchK Tok.WITH)).2).2).matchK Tok.END
    else ps.err .expectedValue := by
  rw [pVALUE.eq_def (f+1) ps]
  dsimp only [PS.matchmk]
  simp only [ite_snd]
  repeat' split

theorem pMVARGS_succ (f : Nat) (ps : PS) : (pMVARGS (f+1) ps).2 =
    if ps.la ≠ Tok.ARGSEP then ps
    else if (pVALUE f (ps.matchK Tok.ARGSEP)).1 = .nil then (pVALUE f (ps.matchK Tok.ARGSEP)).2
    else (pMVARGS f (pVALUE f (ps.matchK Tok.ARGSEP)).2).2 := by
  rw [pMVARGS]
  split
  · rfl
  · dsimp only
    split
    · rename_i h; rw [if_pos h]
    · rename_i h; rw [if_neg h]

structure Kept (I : PS → Prop) (f : Nat) : Prop where
  s : ∀ {ps}, I ps → I (pS f ps).2
  ports : ∀ {ps}, I ps → I (pPORTS f ps).2
  args : ∀ {ps}, I ps → I (pARGS f ps).2
  eeos : ∀ {ps}, I ps → I (pEEOS f ps)
  p : ∀ {ps}, I ps → I (pP f ps).2
  morep : ∀ {ps}, I ps → I (pMOREP f ps).2
  value : ∀ {ps}, I ps → I (pVALUE f ps).2
  mv : ∀ {ps}, I ps → I (pMVARGS f ps).2

section
variable {I : PS → Prop} (he : ∀ {ps : PS} {k : SynKind}, I ps → I (ps.err k))
  (hm : ∀ {ps : PS} {k : Nat}, I ps → I (ps.matchK k))
include he hm

/-- A property kept by `err` and `matchK` is kept by the whole descent: the state a function
    returns is built from its argument by these two and the functions one fuel level down.  Each
    proof term below follows the equation of its function (`pS_succ` …): `ite_ind` for an `if`,
    `hm` for a `matchK`, `he` for an `err`. -/
theorem kept_all : ∀ f, Kept I f
  | 0 => {
    s := fun h => by rw [pS_zero]; exact he h
    ports := fun h => by rw [pPORTS_zero]; exact he h
    args := fun h => by rw [pARGS_zero]; exact he h
    eeos := fun h => by rw [pEEOS_zero]; exact he h
    p := fun h => by rw [pP_zero]; exact he h
    morep := fun h => by rw [pMOREP_zero]; exact he h
    value := fun h => by rw [pVALUE_zero]; exact he h
    mv := fun h => by rw [pMVARGS_zero]; exact he h }
  | f + 1 => by
    have ih := kept_all f
    have tail : ∀ {ps}, I ps → I (pEEOS f (pMOREP f ps).2) := fun h => ih.eeos (ih.morep h)
    exact {
      s := fun h => by
        rw [pS_succ]
        exact ite_ind (ih.s (hm (ih.p (hm (ih.ports (hm (hm h))))))) (ih.p h)
      ports := fun h => by
        rw [pPORTS_succ, pOPORTS_eq]
        exact ite_ind (ite_ind (hm (hm (ih.args (hm h)))) (ih.args (hm h))) h
      args := fun h => by
        rw [pARGS_succ]
        exact ite_ind (hm h) (ih.args (hm (hm h)))
      eeos := fun h => by
        rw [pEEOS_succ]
        exact ite_ind (ih.eeos (ih.p (he h)))
          (ite_ind (ih.eeos (ih.s (he h))) (ite_ind (ih.eeos (ih.morep h)) h))
      p := fun h => by
        rw [pP_succ]
        exact ite_ind
          (tail (ite_ind (ih.value (hm (hm h))) (ite_ind (ih.p (hm (hm h))) (he (hm h)))))
          (ite_ind (tail (hm (ih.p (hm (ite_ind (hm (hm (hm h))) (hm (hm h)))))))
          (ite_ind (tail (hm (hm h)))
          (ite_ind (tail (hm (hm (hm (hm (hm (hm (hm h))))))))
          (ite_ind (tail (hm h)) (ih.eeos (he h))))))
      morep := fun h => by
        rw [pMOREP_succ]
        exact ite_ind h (ih.p (ite_ind (he (hm h)) (hm h)))
      value := fun h => by
        rw [pVALUE_succ]
        exact ite_ind (hm h) (ite_ind (hm h) (ite_ind
          (hm (ite_ind (hm (hm (hm h))) (ih.mv (ih.value (hm (hm (hm h))))))) (he h)))
      mv := fun h => by
        rw [pMVARGS_succ]
        exact ite_ind h (ite_ind (ih.value (hm h)) (ih.mv (ih.value (hm h)))) }

theorem kept_trailing : ∀ (n fuel : Nat) {ps : PS}, I ps → I (pTrailing n fuel ps)
  | 0, _, _, h => by rw [pTrailing]; exact h
  | n + 1, fuel, ps, h => by
    rw [pTrailing]
    dsimp only
    exact ite_ind h (ite_ind (hm (he h)) (kept_trailing n fuel ((kept_all he hm fuel).s (hm (he h)))))

end

theorem le_err {n : Nat} {ps : PS} {k : SynKind} (h : n ≤ ps.errs.length) :
    n ≤ (ps.err k).errs.length :=
  Nat.le_trans h (by rw [err_errs_length]; exact Nat.le_succ _)

theorem le_matchK {n : Nat} {ps : PS} {k : Nat} (h : n ≤ ps.errs.length) :
    n ≤ (ps.matchK k).errs.length :=
  Nat.le_trans h (matchK_le _ _)

theorem errs_le (n f : Nat) : Kept (fun ps => n ≤ ps.errs.length) f :=
  kept_all (I := fun ps => n ≤ ps.errs.length) le_err le_matchK f

theorem eeos_le (f : Nat) (ps : PS) : ps.errs.length ≤ (pEEOS f ps).errs.length :=
  (errs_le _ f).eeos (Nat.le_refl _)

theorem pTrailing_le (n fuel : Nat) (ps : PS) : ps.errs.length ≤ (pTrailing n fuel ps).errs.length :=
  kept_trailing (I := fun a => ps.errs.length ≤ a.errs.length) le_err le_matchK n fuel (Nat.le_refl _)

inductive RK where
  | S | PORTS | OPORTS | ARGS | P | TAIL | VALUE | MVARGS

/-- lookaheads on which `expected_end_or_semicolon` does nothing -/
def EEOSok (k : Nat) : Prop :=
  ¬ (k = Tok.ID ∨ k = Tok.LOOP ∨ k = Tok.WHILE ∨ k = Tok.GOTO ∨ k = Tok.IF ∨ k = Tok.STOP) ∧
    k ≠ Tok.PROGRAM ∧ k ≠ Tok.PROGSEP

/-- `Run X ts ts'`: the function for `X` consumes `ts` down to `ts'` without recording an error
    (`TAIL` is `MOREP` followed by `expected_end_or_semicolon`) -/
inductive Run : RK → List Token → List Token → Prop where
  | s_prog {t1 t2 t3 t4 : Token} {r2 r3 r4 r5 : List Token} :
      t1.kind = Tok.PROGRAM → t2.kind = Tok.ID → Run .PORTS r2 (t3 :: r3) → t3.kind = Tok.DO →
      Run .P r3 (t4 :: r4) → t4.kind = Tok.END → Run .S r4 r5 → Run .S (t1 :: t2 :: r2) r5
  | s_p {r r' : List Token} : laT r ≠ Tok.PROGRAM → Run .P r r' → Run .S r r'
  | ports_nil {r : List Token} : laT r ≠ Tok.IN → Run .PORTS r r
  | ports_in {t : Token} {r r1 r2 : List Token} :
      t.kind = Tok.IN → Run .ARGS r r1 → Run .OPORTS r1 r2 → Run .PORTS (t :: r) r2
  | oports_nil {r : List Token} : laT r ≠ Tok.OUT → Run .OPORTS r r
  | oports_out {t1 t2 : Token} {r : List Token} :
      t1.kind = Tok.OUT → t2.kind = Tok.ID → Run .OPORTS (t1 :: t2 :: r) r
  | args_one {t : Token} {r : List Token} : t.kind = Tok.ID → laT r ≠ Tok.ARGSEP → Run .ARGS (t :: r) r
  | args_more {t1 t2 : Token} {r r' : List Token} :
      t1.kind = Tok.ID → t2.kind = Tok.ARGSEP → Run .ARGS r r' → Run .ARGS (t1 :: t2 :: r) r'
  | p_assign {t1 t2 : Token} {r r1 r2 : List Token} :
      t1.kind = Tok.ID → t2.kind = Tok.ASSIGN → Run .VALUE r r1 → Run .TAIL r1 r2 →
      Run .P (t1 :: t2 :: r) r2
  | p_label {t1 t2 : Token} {r r1 r2 : List Token} :
      t1.kind = Tok.ID → t2.kind = Tok.LABELDEC → Run .P r r1 → Run .TAIL r1 r2 →
      Run .P (t1 :: t2 :: r) r2
  | p_loop {t1 t2 t3 t4 : Token} {r r1 r2 : List Token} :
      t1.kind = Tok.LOOP → t2.kind = Tok.ID → t3.kind = Tok.DO → Run .P r (t4 :: r1) →
      t4.kind = Tok.END → Run .TAIL r1 r2 → Run .P (t1 :: t2 :: t3 :: r) r2
  | p_while {t1 t2 t3 t4 t5 : Token} {r r1 r2 : List Token} :
      t1.kind = Tok.WHILE → t2.kind = Tok.ID → t3.kind = Tok.NEQ_ZERO → t4.kind = Tok.DO →
      Run .P r (t5 :: r1) → t5.kind = Tok.END → Run .TAIL r1 r2 → Run .P (t1 :: t2 :: t3 :: t4 :: r) r2
  | p_goto {t1 t2 : Token} {r r2 : List Token} :
      t1.kind = Tok.GOTO → t2.kind = Tok.ID → Run .TAIL r r2 → Run .P (t1 :: t2 :: r) r2
  | p_if {t1 t2 t3 t4 t5 t6 t7 : Token} {r r2 : List Token} :
      t1.kind = Tok.IF → t2.kind = Tok.ID → t3.kind = Tok.EQ → t4.kind = Tok.INT →
      t5.kind = Tok.THEN → t6.kind = Tok.GOTO → t7.kind = Tok.ID → Run .TAIL r r2 →
      Run .P (t1 :: t2 :: t3 :: t4 :: t5 :: t6 :: t7 :: r) r2
  | p_stop {t1 : Token} {r r2 : List Token} : t1.kind = Tok.STOP → Run .TAIL r r2 → Run .P (t1 :: r) r2
  | tail_nil {r : List Token} : EEOSok (laT r) → Run .TAIL r r
  | tail_semi {t : Token} {r r' : List Token} : t.kind = Tok.PROGSEP → Run .P r r' → Run .TAIL (t :: r) r'
  | value_id {t : Token} {r : List Token} : t.kind = Tok.ID → Run .VALUE (t :: r) r
  | value_int {t : Token} {r : List Token} : t.kind = Tok.INT → Run .VALUE (t :: r) r
  | value_run0 {t1 t2 t3 t4 : Token} {r : List Token} :
      t1.kind = Tok.RUN → t2.kind = Tok.ID → t3.kind = Tok.WITH → t4.kind = Tok.END →
      Run .VALUE (t1 :: t2 :: t3 :: t4 :: r) r
  | value_runargs {t1 t2 t3 t4 : Token} {r r1 r2 : List Token} :
      t1.kind = Tok.RUN → t2.kind = Tok.ID → t3.kind = Tok.WITH → Run .VALUE r r1 →
      Run .MVARGS r1 (t4 :: r2) → t4.kind = Tok.END → Run .VALUE (t1 :: t2 :: t3 :: r) r2
  | mv_nil {r : List Token} : laT r ≠ Tok.ARGSEP → Run .MVARGS r r
  | mv_more {t : Token} {r r1 r2 : List Token} :
      t.kind = Tok.ARGSEP → Run .VALUE r r1 → Run .MVARGS r1 r2 → Run .MVARGS (t :: r) r2

theorem run_eeosok {k : RK} {ts ts' : List Token} (h : Run k ts ts') :
    (k = .P ∨ k = .TAIL) → EEOSok (laT ts') := by
  induction h with
  | tail_nil h => intro _; exact h
  | tail_semi _ _ ih => intro _; exact ih (Or.inl rfl)
  | p_assign _ _ _ _ _ ih => intro _; exact ih (Or.inr rfl)
  | p_label _ _ _ _ _ ih => intro _; exact ih (Or.inr rfl)
  | p_loop _ _ _ _ _ _ _ ih => intro _; exact ih (Or.inr rfl)
  | p_while _ _ _ _ _ _ _ _ ih => intro _; exact ih (Or.inr rfl)
  | p_goto _ _ _ ih => intro _; exact ih (Or.inr rfl)
  | p_if _ _ _ _ _ _ _ _ ih => intro _; exact ih (Or.inr rfl)
  | p_stop _ _ ih => intro _; exact ih (Or.inr rfl)
  | _ => intro h; rcases h with h | h <;> cases h

theorem eeos_ok (f : Nat) (ps : PS) (h : EEOSok ps.la) : pEEOS (f+1) ps = ps := by
  rw [pEEOS_succ, if_neg h.1, if_neg h.2.1, if_neg h.2.2]

def leaf (n : Nat) (t : Token) : Node := .mk n t.text t.file t.line .nil .nil

/-- `Built X ts ts' n`: the function for `X` consumes `ts` down to `ts'` without recording an error
    and returns the tree `n` (for `TAIL` the tree of `MOREP`); a `Run` together with its tree -/
inductive Built : RK → List Token → List Token → Node → Prop where
  | s_prog {t1 t2 t3 t4 : Token} {r2 r3 r4 r5 : List Token} {port body more : Node} :
      t1.kind = Tok.PROGRAM → t2.kind = Tok.ID → Built .PORTS r2 (t3 :: r3) port → t3.kind = Tok.DO →
      Built .P r3 (t4 :: r4) body → t4.kind = Tok.END → Built .S r4 r5 more →
      Built .S (t1 :: t2 :: r2) r5 (mkAt NodeT.SPLIT (leaf NodeT.NAME t2)
        (mkAt NodeT.PROGRAM (leaf NodeT.NAME t2) (mkAt NodeT.SPLIT (leaf NodeT.NAME t2) (leaf NodeT.NAME t2) port)
          (mkAt NodeT.SPLIT (leaf NodeT.NAME t2) body (mkAt NodeT.MARK (leaf NodeT.NAME t4) (leaf NodeT.NAME t4) .nil)))
        more)
  | s_p {r r' : List Token} {n : Node} : laT r ≠ Tok.PROGRAM → Built .P r r' n → Built .S r r' n
  | ports_nil {r : List Token} : laT r ≠ Tok.IN → Built .PORTS r r .nil
  | ports_in {t : Token} {r r1 r2 : List Token} {args outs : Node} :
      t.kind = Tok.IN → Built .ARGS r r1 args → Built .OPORTS r1 r2 outs →
      Built .PORTS (t :: r) r2 (mkAt NodeT.SPLIT args args outs)
  | oports_nil {r : List Token} : laT r ≠ Tok.OUT → Built .OPORTS r r .nil
  | oports_out {t1 t2 : Token} {r : List Token} :
      t1.kind = Tok.OUT → t2.kind = Tok.ID → Built .OPORTS (t1 :: t2 :: r) r (leaf NodeT.NAME t2)
  | args_one {t : Token} {r : List Token} : t.kind = Tok.ID → laT r ≠ Tok.ARGSEP →
      Built .ARGS (t :: r) r (mkAt NodeT.SPLIT (leaf NodeT.NAME t) (leaf NodeT.NAME t) .nil)
  | args_more {t1 t2 : Token} {r r' : List Token} {more : Node} :
      t1.kind = Tok.ID → t2.kind = Tok.ARGSEP → Built .ARGS r r' more →
      Built .ARGS (t1 :: t2 :: r) r' (mkAt NodeT.SPLIT (leaf NodeT.NAME t1) (leaf NodeT.NAME t1) more)
  | p_assign {t1 t2 : Token} {r r1 r2 : List Token} {v more : Node} :
      t1.kind = Tok.ID → t2.kind = Tok.ASSIGN → Built .VALUE r r1 v → Built .TAIL r1 r2 more →
      Built .P (t1 :: t2 :: r) r2 (mkAt NodeT.SPLIT (leaf NodeT.NAME t1)
        (mkAt NodeT.ASSIGN (leaf NodeT.NAME t1) (leaf NodeT.NAME t1) v) more)
  | p_label {t1 t2 : Token} {r r1 r2 : List Token} {p more : Node} :
      t1.kind = Tok.ID → t2.kind = Tok.LABELDEC → Built .P r r1 p → Built .TAIL r1 r2 more →
      Built .P (t1 :: t2 :: r) r2 (mkAt NodeT.SPLIT (leaf NodeT.NAME t1) (mkAt NodeT.SPLIT (leaf NodeT.NAME t1)
        (mkAt NodeT.MARK (leaf NodeT.NAME t1) (leaf NodeT.NAME t1) .nil) p) more)
  | p_loop {t1 t2 t3 t4 : Token} {r r1 r2 : List Token} {body more : Node} :
      t1.kind = Tok.LOOP → t2.kind = Tok.ID → t3.kind = Tok.DO → Built .P r (t4 :: r1) body →
      t4.kind = Tok.END → Built .TAIL r1 r2 more →
      Built .P (t1 :: t2 :: t3 :: r) r2 (mkAt NodeT.SPLIT (leaf NodeT.NAME t2) (mkAt NodeT.SPLIT (leaf NodeT.NAME t2)
        (mkAt NodeT.LOOP (leaf NodeT.NAME t2) (leaf NodeT.NAME t2) body)
        (mkAt NodeT.MARK (leaf NodeT.NAME t4) (leaf NodeT.NAME t4) .nil)) more)
  | p_while {t1 t2 t3 t4 t5 : Token} {r r1 r2 : List Token} {body more : Node} :
      t1.kind = Tok.WHILE → t2.kind = Tok.ID → t3.kind = Tok.NEQ_ZERO → t4.kind = Tok.DO →
      Built .P r (t5 :: r1) body → t5.kind = Tok.END → Built .TAIL r1 r2 more →
      Built .P (t1 :: t2 :: t3 :: t4 :: r) r2 (mkAt NodeT.SPLIT (leaf NodeT.NAME t2) (mkAt NodeT.SPLIT (leaf NodeT.NAME t2)
        (mkAt NodeT.WHILE (leaf NodeT.NAME t2) (leaf NodeT.NAME t2) body)
        (mkAt NodeT.MARK (leaf NodeT.NAME t5) (leaf NodeT.NAME t5) .nil)) more)
  | p_goto {t1 t2 : Token} {r r2 : List Token} {more : Node} :
      t1.kind = Tok.GOTO → t2.kind = Tok.ID → Built .TAIL r r2 more →
      Built .P (t1 :: t2 :: r) r2 (mkAt NodeT.SPLIT (leaf NodeT.NAME t2)
        (mkAt NodeT.GOTO (leaf NodeT.NAME t2) (leaf NodeT.NAME t2) .nil) more)
  | p_if {t1 t2 t3 t4 t5 t6 t7 : Token} {r r2 : List Token} {more : Node} :
      t1.kind = Tok.IF → t2.kind = Tok.ID → t3.kind = Tok.EQ → t4.kind = Tok.INT →
      t5.kind = Tok.THEN → t6.kind = Tok.GOTO → t7.kind = Tok.ID → Built .TAIL r r2 more →
      Built .P (t1 :: t2 :: t3 :: t4 :: t5 :: t6 :: t7 :: r) r2 (mkAt NodeT.SPLIT (leaf NodeT.NAME t2)
        (mkAt NodeT.IF (leaf NodeT.NAME t2) (mkAt NodeT.EQ (leaf NodeT.NAME t2) (leaf NodeT.NAME t2) (leaf NodeT.NUMBER t4))
          (mkAt NodeT.GOTO (leaf NodeT.NAME t7) (leaf NodeT.NAME t7) .nil)) more)
  | p_stop {t1 : Token} {r r2 : List Token} {more : Node} : t1.kind = Tok.STOP → Built .TAIL r r2 more →
      Built .P (t1 :: r) r2 (mkAt NodeT.SPLIT (leaf NodeT.STOP t1) (leaf NodeT.STOP t1) more)
  | tail_nil {r : List Token} : EEOSok (laT r) → Built .TAIL r r .nil
  | tail_semi {t : Token} {r r' : List Token} {n : Node} :
      t.kind = Tok.PROGSEP → Built .P r r' n → Built .TAIL (t :: r) r' n
  | value_id {t : Token} {r : List Token} : t.kind = Tok.ID → Built .VALUE (t :: r) r (leaf NodeT.NAME t)
  | value_int {t : Token} {r : List Token} : t.kind = Tok.INT → Built .VALUE (t :: r) r (leaf NodeT.NUMBER t)
  | value_run0 {t1 t2 t3 t4 : Token} {r : List Token} :
      t1.kind = Tok.RUN → t2.kind = Tok.ID → t3.kind = Tok.WITH → t4.kind = Tok.END →
      Built .VALUE (t1 :: t2 :: t3 :: t4 :: r) r (mkAt NodeT.CALL (leaf NodeT.NAME t2) (leaf NodeT.NAME t2) .nil)
  | value_runargs {t1 t2 t3 t4 : Token} {r r1 r2 : List Token} {a1 re : Node} :
      t1.kind = Tok.RUN → t2.kind = Tok.ID → t3.kind = Tok.WITH → Built .VALUE r r1 a1 →
      Built .MVARGS r1 (t4 :: r2) re → t4.kind = Tok.END →
      Built .VALUE (t1 :: t2 :: t3 :: r) r2
        (mkAt NodeT.CALL (leaf NodeT.NAME t2) (leaf NodeT.NAME t2) (mkAt NodeT.SPLIT a1 a1 re))
  | mv_nil {r : List Token} : laT r ≠ Tok.ARGSEP → Built .MVARGS r r .nil
  | mv_more {t : Token} {r r1 r2 : List Token} {v m : Node} :
      t.kind = Tok.ARGSEP → Built .VALUE r r1 v → Built .MVARGS r1 r2 m →
      Built .MVARGS (t :: r) r2 (mkAt NodeT.SPLIT v v m)

theorem Built.run {k : RK} {ts ts' : List Token} {n : Node} (h : Built k ts ts' n) : Run k ts ts' := by
  induction h with
  | s_prog k1 k2 _ k3 _ k4 _ ih1 ih2 ih3 => exact .s_prog k1 k2 ih1 k3 ih2 k4 ih3
  | s_p h _ ih => exact .s_p h ih
  | ports_nil h => exact .ports_nil h
  | ports_in k1 _ _ ih1 ih2 => exact .ports_in k1 ih1 ih2
  | oports_nil h => exact .oports_nil h
  | oports_out k1 k2 => exact .oports_out k1 k2
  | args_one k1 h => exact .args_one k1 h
  | args_more k1 k2 _ ih => exact .args_more k1 k2 ih
  | p_assign k1 k2 _ _ ih1 ih2 => exact .p_assign k1 k2 ih1 ih2
  | p_label k1 k2 _ _ ih1 ih2 => exact .p_label k1 k2 ih1 ih2
  | p_loop k1 k2 k3 _ k4 _ ih1 ih2 => exact .p_loop k1 k2 k3 ih1 k4 ih2
  | p_while k1 k2 k3 k4 _ k5 _ ih1 ih2 => exact .p_while k1 k2 k3 k4 ih1 k5 ih2
  | p_goto k1 k2 _ ih => exact .p_goto k1 k2 ih
  | p_if k1 k2 k3 k4 k5 k6 k7 _ ih => exact .p_if k1 k2 k3 k4 k5 k6 k7 ih
  | p_stop k1 _ ih => exact .p_stop k1 ih
  | tail_nil h => exact .tail_nil h
  | tail_semi k1 _ ih => exact .tail_semi k1 ih
  | value_id k1 => exact .value_id k1
  | value_int k1 => exact .value_int k1
  | value_run0 k1 k2 k3 k4 => exact .value_run0 k1 k2 k3 k4
  | value_runargs k1 k2 k3 _ _ k4 ih1 ih2 => exact .value_runargs k1 k2 k3 ih1 ih2 k4
  | mv_nil h => exact .mv_nil h
  | mv_more k1 _ _ ih1 ih2 => exact .mv_more k1 ih1 ih2

theorem Built.value_ne_nil {ts ts' : List Token} {n : Node} (h : Built .VALUE ts ts' n) : n ≠ .nil := by
  cases h <;> exact nofun
theorem Built.args_ne_nil {ts ts' : List Token} {n : Node} (h : Built .ARGS ts ts' n) : n ≠ .nil := by
  cases h <;> exact nofun

/-- a token kind that evaluation tells from end-of-file is matched by the current token -/
theorem mK (k : Nat) {ps : PS} (hk : k ≠ Tok.T_EOF := by decide) :
    Adv (ps.cur.kind = k ∧ ps.ts = ps.cur :: (ps.matchK k).ts) ps (ps.matchK k) := by
  rcases (matchK_spec ps k).2 with ⟨h, e, ht⟩ | ⟨_, e⟩
  · exact .inr ⟨e, h, ht hk⟩
  · exact .inl (by rw [e, err_errs_length]; exact Nat.lt_succ_self _)

theorem oports_adv (ps : PS) : Adv (Built .OPORTS ps.ts (pOPORTS ps).2.ts (pOPORTS ps).1) ps (pOPORTS ps).2 := by
  rw [pOPORTS]
  by_cases h : ps.la = Tok.OUT
  · rw [if_pos h]
    dsimp only [PS.matchmk]
    refine ((mK Tok.OUT).comp (mK Tok.ID)).mono ?_
    rintro ⟨⟨k1, h1⟩, ⟨k2, h2⟩⟩
    rw [h1, h2]; exact Built.oports_out k1 k2
  · rw [if_neg h]
    exact Adv.refl (Built.oports_nil h)

structure AB (f : Nat) : Prop where
  s : ∀ ps, Adv (Built .S ps.ts (pS f ps).2.ts (pS f ps).1) ps (pS f ps).2
  ports : ∀ ps, Adv (Built .PORTS ps.ts (pPORTS f ps).2.ts (pPORTS f ps).1) ps (pPORTS f ps).2
  args : ∀ ps, Adv (Built .ARGS ps.ts (pARGS f ps).2.ts (pARGS f ps).1) ps (pARGS f ps).2
  p : ∀ ps, Adv (Built .P ps.ts (pP f ps).2.ts (pP f ps).1) ps (pP f ps).2
  tail : ∀ ps, Adv (Built .TAIL ps.ts (pEEOS f (pMOREP f ps).2).ts (pMOREP f ps).1) ps (pEEOS f (pMOREP f ps).2)
  value : ∀ ps, Adv (Built .VALUE ps.ts (pVALUE f ps).2.ts (pVALUE f ps).1) ps (pVALUE f ps).2
  mv : ∀ ps, Adv (Built .MVARGS ps.ts (pMVARGS f ps).2.ts (pMVARGS f ps).1) ps (pMVARGS f ps).2

/-- the F2 repair of `pMVARGS` tests the tree of `pVALUE` for `nil`: an error-free `VALUE` is not `nil` -/
theorem AB.value_nil {f : Nat} (ih : AB f) {ps : PS} (h : (pVALUE f ps).1 = .nil) :
    ps.errs.length < (pVALUE f ps).2.errs.length :=
  (ih.value ps).elim id fun b => absurd h b.2.value_ne_nil

theorem ab_zero : AB 0 where
  s ps := Or.inl (by rw [pS_zero]; simp)
  ports ps := Or.inl (by rw [pPORTS_zero]; simp)
  args ps := Or.inl (by rw [pARGS_zero]; simp)
  p ps := Or.inl (by rw [pP_zero]; simp)
  tail ps := Or.inl (by rw [pMOREP_zero, pEEOS_zero]; simp; omega)
  value ps := Or.inl (by rw [pVALUE_zero]; simp)
  mv ps := Or.inl (by rw [pMVARGS_zero]; simp)

theorem ab_s {f : Nat} (ih : AB f) (ps : PS) :
    Adv (Built .S ps.ts (pS (f+1) ps).2.ts (pS (f+1) ps).1) ps (pS (f+1) ps).2 := by
  rw [pS]
  by_cases h : ps.la = Tok.PROGRAM
  · rw [if_pos h]
    dsimp only [PS.matchmk]
    refine ((mK Tok.PROGRAM).comp ((mK Tok.ID).comp ((ih.ports _).comp ((mK Tok.DO).comp
      ((ih.p _).comp ((mK Tok.END).comp (ih.s _))))))).mono ?_
    rintro ⟨⟨k1, h1⟩, ⟨k2, h2⟩, hp, ⟨k3, h3⟩, hP, ⟨k4, h4⟩, hS⟩
    rw [h1, h2]; rw [h3] at hp; rw [h4] at hP
    exact Built.s_prog k1 k2 hp k3 hP k4 hS
  · rw [if_neg h]
    exact (ih.p ps).mono (fun hr => Built.s_p h hr)

theorem ab_ports {f : Nat} (ih : AB f) (ps : PS) :
    Adv (Built .PORTS ps.ts (pPORTS (f+1) ps).2.ts (pPORTS (f+1) ps).1) ps (pPORTS (f+1) ps).2 := by
  rw [pPORTS]
  by_cases h : ps.la = Tok.IN
  · rw [if_pos h]
    dsimp only
    refine ((mK Tok.IN).comp ((ih.args _).comp (oports_adv _))).mono ?_
    rintro ⟨⟨k1, h1⟩, ha, ho⟩
    rw [h1]; exact Built.ports_in k1 ha ho
  · rw [if_neg h]
    exact Adv.refl (Built.ports_nil h)

theorem ab_args {f : Nat} (ih : AB f) (ps : PS) :
    Adv (Built .ARGS ps.ts (pARGS (f+1) ps).2.ts (pARGS (f+1) ps).1) ps (pARGS (f+1) ps).2 := by
  rw [pARGS]
  dsimp only [PS.matchmk]
  by_cases h : (ps.matchK Tok.ID).la ≠ Tok.ARGSEP
  · rw [if_pos h]
    refine (mK Tok.ID).mono ?_
    rintro ⟨k1, h1⟩
    rw [h1]; exact Built.args_one k1 h
  · rw [if_neg h]
    refine ((mK Tok.ID).comp ((mK Tok.ARGSEP).comp (ih.args _))).mono ?_
    rintro ⟨⟨k1, h1⟩, ⟨k2, h2⟩, ha⟩
    rw [h1, h2]; exact Built.args_more k1 k2 ha

theorem ab_value {f : Nat} (ih : AB f) (ps : PS) :
    Adv (Built .VALUE ps.ts (pVALUE (f+1) ps).2.ts (pVALUE (f+1) ps).1) ps (pVALUE (f+1) ps).2 := by
  rw [pVALUE.eq_def (f+1) ps]
  dsimp only [PS.matchmk]
  by_cases h1 : ps.la = Tok.ID
  · rw [if_pos h1]
    refine (mK Tok.ID).mono ?_
    rintro ⟨k1, h1⟩
    rw [h1]; exact Built.value_id k1
  rw [if_neg h1]
  by_cases h2 : ps.la = Tok.INT
  · rw [if_pos h2]
    refine (mK Tok.INT).mono ?_
    rintro ⟨k1, h1⟩
    rw [h1]; exact Built.value_int k1
  rw [if_neg h2]
  by_cases h3 : ps.la = Tok.RUN
  · rw [if_pos h3]
    by_cases hc : (((ps.matchK Tok.RUN).matchK Tok.ID).matchK Tok.WITH).la ≠ Tok.ID ∧
        (((ps.matchK Tok.RUN).matchK Tok.ID).matchK Tok.WITH).la ≠ Tok.INT ∧
        (((ps.matchK Tok.RUN).matchK Tok.ID).matchK Tok.WITH).la ≠ Tok.RUN
    · rw [if_pos hc]
      -- without this the unifier unfolds `matchK` before it reduces the projection in `(nil, _).2`
      dsimp only
      refine ((mK Tok.RUN).comp ((mK Tok.ID).comp ((mK Tok.WITH).comp (mK Tok.END)))).mono ?_
      rintro ⟨⟨k1, h1⟩, ⟨k2, h2⟩, ⟨k3, h3⟩, ⟨k4, h4⟩⟩
      rw [h1, h2, h3, h4]; exact Built.value_run0 k1 k2 k3 k4
    · rw [if_neg hc]
      refine ((mK Tok.RUN).comp ((mK Tok.ID).comp ((mK Tok.WITH).comp ((ih.value _).comp
        ((ih.mv _).comp (mK Tok.END)))))).mono ?_
      rintro ⟨⟨k1, h1⟩, ⟨k2, h2⟩, ⟨k3, h3⟩, hv, hm, ⟨k4, h4⟩⟩
      rw [h1, h2, h3]; rw [h4] at hm
      exact Built.value_runargs k1 k2 k3 hv hm k4
  · rw [if_neg h3]; exact Or.inl (by simp)

theorem ab_mv {f : Nat} (ih : AB f) (ps : PS) :
    Adv (Built .MVARGS ps.ts (pMVARGS (f+1) ps).2.ts (pMVARGS (f+1) ps).1) ps (pMVARGS (f+1) ps).2 := by
  rw [pMVARGS]
  by_cases h : ps.la ≠ Tok.ARGSEP
  · rw [if_pos h]; exact Adv.refl (Built.mv_nil h)
  rw [if_neg h]
  cases hv : (pVALUE f (ps.matchK Tok.ARGSEP)).1 with
  | nil =>
    simp only [hv]
    exact Or.inl (Nat.lt_of_le_of_lt (matchK_le ps Tok.ARGSEP) (ih.value_nil hv))
  | mk t tok file line l r =>
    simp only [hv]
    rw [← hv]
    refine ((mK Tok.ARGSEP).comp ((ih.value _).comp (ih.mv _))).mono ?_
    rintro ⟨⟨k1, h1⟩, hv, hm⟩
    rw [h1]; exact Built.mv_more k1 hv hm

theorem ab_tail {f : Nat} (ih : AB f) (ps : PS) :
    Adv (Built .TAIL ps.ts (pEEOS (f+1) (pMOREP (f+1) ps).2).ts (pMOREP (f+1) ps).1) ps
      (pEEOS (f+1) (pMOREP (f+1) ps).2) := by
  rw [pMOREP]
  by_cases h : ps.la ≠ Tok.PROGSEP
  · rw [if_pos h, pEEOS_succ]
    dsimp only
    by_cases h1 : Comp ps.la
    · rw [if_pos h1]
      exact Adv.of_lt (b := ps.err .missingSemi) (by simp) (Nat.le_trans (ih.p _).le (eeos_le _ _))
    rw [if_neg h1]
    by_cases h2 : ps.la = Tok.PROGRAM
    · rw [if_pos h2]
      exact Adv.of_lt (b := ps.err .progNotAllowed) (by simp) (Nat.le_trans (ih.s _).le (eeos_le _ _))
    · rw [if_neg h2, if_neg h]
      exact Adv.refl (Built.tail_nil ⟨h1, h2, h⟩)
  rw [if_neg h]
  dsimp only
  split
  · have h1 := matchK_le ps Tok.PROGSEP
    exact Adv.of_lt (b := (ps.matchK Tok.PROGSEP).err .excessSemi) (by simp; omega)
      (Nat.le_trans (ih.p _).le (eeos_le _ _))
  · refine ((mK Tok.PROGSEP).comp ((ih.p _).compd (R := True) (eeos_le _ _) ?_)).mono ?_
    · intro hr _
      rw [eeos_ok _ _ (run_eeosok hr.run (Or.inl rfl))]
      exact Adv.refl trivial
    · rintro ⟨⟨k1, h1⟩, hr, _⟩
      rw [eeos_ok _ _ (run_eeosok hr.run (Or.inl rfl)), h1]
      exact Built.tail_semi k1 hr

theorem ab_p {f : Nat} (ih : AB f) (ps : PS) :
    Adv (Built .P ps.ts (pP (f+1) ps).2.ts (pP (f+1) ps).1) ps (pP (f+1) ps).2 := by
  rw [pP]
  dsimp only [PS.matchmk]
  by_cases h1 : ps.la = Tok.ID
  · rw [if_pos h1]
    by_cases h2 : (ps.matchK Tok.ID).la = Tok.ASSIGN
    · rw [if_pos h2]
      refine ((mK Tok.ID).comp ((mK Tok.ASSIGN).comp ((ih.value _).comp (ih.tail _)))).mono ?_
      rintro ⟨⟨k1, h1⟩, ⟨k2, h2⟩, hv, ht⟩
      rw [h1, h2]; exact Built.p_assign k1 k2 hv ht
    rw [if_neg h2]
    by_cases h3 : (ps.matchK Tok.ID).la = Tok.LABELDEC
    · rw [if_pos h3]
      refine ((mK Tok.ID).comp ((mK Tok.LABELDEC).comp ((ih.p _).comp (ih.tail _)))).mono ?_
      rintro ⟨⟨k1, h1⟩, ⟨k2, h2⟩, hv, ht⟩
      rw [h1, h2]; exact Built.p_label k1 k2 hv ht
    · rw [if_neg h3]
      have h1 := matchK_le ps Tok.ID
      exact Adv.of_lt (b := (ps.matchK Tok.ID).err .expectedAssign) (by simp; omega) (ih.tail _).le
  rw [if_neg h1]
  by_cases h2 : ps.la = Tok.LOOP ∨ ps.la = Tok.WHILE
  · rw [if_pos h2]
    rcases h2 with h | h
    · rw [h, if_neg (show Tok.LOOP ≠ Tok.WHILE by decide), if_pos (rfl : Tok.LOOP = Tok.LOOP)]
      refine ((mK Tok.LOOP).comp ((mK Tok.ID).comp ((mK Tok.DO).comp ((ih.p _).comp
        ((mK Tok.END).comp (ih.tail _)))))).mono ?_
      rintro ⟨⟨k1, h1⟩, ⟨k2, h2⟩, ⟨k3, h3⟩, hp, ⟨k4, h4⟩, ht⟩
      rw [h1, h2, h3]; rw [h4] at hp
      exact Built.p_loop k1 k2 k3 hp k4 ht
    · rw [h, if_pos (rfl : Tok.WHILE = Tok.WHILE), if_neg (show Tok.WHILE ≠ Tok.LOOP by decide)]
      refine ((mK Tok.WHILE).comp ((mK Tok.ID).comp ((mK Tok.NEQ_ZERO).comp ((mK Tok.DO).comp ((ih.p _).comp
        ((mK Tok.END).comp (ih.tail _))))))).mono ?_
      rintro ⟨⟨k1, h1⟩, ⟨k2, h2⟩, ⟨k3, h3⟩, ⟨k4, h4⟩, hp, ⟨k5, h5⟩, ht⟩
      rw [h1, h2, h3, h4]; rw [h5] at hp
      exact Built.p_while k1 k2 k3 k4 hp k5 ht
  rw [if_neg h2]
  by_cases h3 : ps.la = Tok.GOTO
  · rw [if_pos h3]
    refine ((mK Tok.GOTO).comp ((mK Tok.ID).comp (ih.tail _))).mono ?_
    rintro ⟨⟨k1, h1⟩, ⟨k2, h2⟩, ht⟩
    rw [h1, h2]; exact Built.p_goto k1 k2 ht
  rw [if_neg h3]
  by_cases h4 : ps.la = Tok.IF
  · rw [if_pos h4]
    refine ((mK Tok.IF).comp ((mK Tok.ID).comp ((mK Tok.EQ).comp ((mK Tok.INT).comp ((mK Tok.THEN).comp
      ((mK Tok.GOTO).comp ((mK Tok.ID).comp (ih.tail _)))))))).mono ?_
    rintro ⟨⟨k1, h1⟩, ⟨k2, h2⟩, ⟨k3, h3⟩, ⟨k4, h4⟩, ⟨k5, h5⟩, ⟨k6, h6⟩, ⟨k7, h7⟩, ht⟩
    rw [h1, h2, h3, h4, h5, h6, h7]; exact Built.p_if k1 k2 k3 k4 k5 k6 k7 ht
  rw [if_neg h4]
  by_cases h5 : ps.la = Tok.STOP
  · rw [if_pos h5]
    refine ((mK Tok.STOP).comp (ih.tail _)).mono ?_
    rintro ⟨⟨k1, h1⟩, ht⟩
    rw [h1]; exact Built.p_stop k1 ht
  · rw [if_neg h5]
    exact Adv.of_lt (b := ps.err .expectedComponent) (by simp) (eeos_le _ _)

theorem ab_all : ∀ f, AB f
  | 0 => ab_zero
  | f + 1 =>
    have ih := ab_all f
    { s := ab_s ih, ports := ab_ports ih, args := ab_args ih, p := ab_p ih, tail := ab_tail ih,
      value := ab_value ih, mv := ab_mv ih }

abbrev D (A : Nat) (w : List Nat) : Prop := Derives langGrammar (.n A) w

abbrev kinds (c : List Token) : List Nat := c.map (·.kind)

section
open LangNT
local macro "alt%" l:ident "," i:term "," e:term : term =>
  `(derives_intro langGrammar (k := $i) (by rw [$l:ident]; rfl) $e)

def TSeq (R : Nat → List Nat → Prop) : List Sym → List Token → List Token → Prop
  | [], x, rest => x = rest
  | .eps :: _, _, _ => False
  | .t a :: r, x, rest => ∃ t x', x = t :: x' ∧ t.kind = a ∧ TSeq R r x' rest
  | .n A :: r, x, rest => ∃ x', (∃ c, x = c ++ x' ∧ R A (kinds c)) ∧ TSeq R r x' rest

theorem TSeq.nil {R rest} : TSeq R [] rest rest := rfl
theorem TSeq.t {R a r t x rest} (kt : t.kind = a) (h : TSeq R r x rest) :
    TSeq R (.t a :: r) (t :: x) rest := ⟨t, x, rfl, kt, h⟩
theorem TSeq.n {R A r x x' rest} (q : ∃ c, x = c ++ x' ∧ R A (kinds c)) (h : TSeq R r x' rest) :
    TSeq R (.n A :: r) x rest := ⟨x', q, h⟩

theorem cseq_of_tseq {R} {rest : List Token} : ∀ (rhs : List Sym) (x : List Token),
    TSeq R rhs x rest → ∃ c, x = c ++ rest ∧ CSeq R rhs (kinds c)
  | [], _, h => ⟨[], h, rfl⟩
  | .eps :: _, _, h => h.elim
  | .t _ :: r, _, ⟨t, x', rfl, kt, h⟩ =>
    let ⟨c, hc, hs⟩ := cseq_of_tseq r x' h
    ⟨t :: c, by rw [hc]; rfl, kinds c, by rw [← kt]; rfl, hs⟩
  | .n _ :: r, _, ⟨x', ⟨c1, rfl, d⟩, h⟩ =>
    let ⟨c, hc, hs⟩ := cseq_of_tseq r x' h
    ⟨c1 ++ c, by rw [hc, List.append_assoc], kinds c1, kinds c, List.map_append, d, hs⟩

theorem tseq_of_cseq {R} (rest : List Token) : ∀ (rhs : List Sym) (w : List Nat) (c : List Token),
    CSeq R rhs w → kinds c = w → TSeq R rhs (c ++ rest) rest
  | [], _, c, hc, hk => by
    cases hc
    rw [List.map_eq_nil_iff.1 hk]; rfl
  | .eps :: _, _, _, hc, _ => hc.elim
  | .t a :: r, _, c, ⟨v, rfl, hv⟩, hk => by
    obtain ⟨t, c', rfl, kt, hk'⟩ := List.map_eq_cons_iff.1 hk
    exact ⟨t, _, rfl, kt, tseq_of_cseq rest r v c' hv hk'⟩
  | .n A :: r, _, c, ⟨u, v, rfl, hu, hv⟩, hk => by
    obtain ⟨c1, c2, rfl, rfl, hk2⟩ := List.map_eq_append_iff.1 hk
    exact ⟨_, ⟨c1, List.append_assoc .., hu⟩, tseq_of_cseq rest r v c2 hv hk2⟩

theorem derives_tokens {i A : Nat} {rhs : List Sym} {ts ts' : List Token}
    (hi : langRules[i]? = some (A, rhs)) (h : TSeq D rhs ts ts') : ∃ c, ts = c ++ ts' ∧ D A (kinds c) :=
  let ⟨c, hc, hs⟩ := cseq_of_tseq rhs ts h
  let ⟨_, hk⟩ := alt_of_rule hi
  ⟨c, hc, derives_intro langGrammar hk hs⟩

def ntOf : RK → Nat
  | .S => S | .PORTS => PORTS | .OPORTS => OPORTS | .ARGS => ARGS | .P => P | .TAIL => MOREP
  | .VALUE => VALUE | .MVARGS => MVARGS

theorem run_derives {k : RK} {ts ts' : List Token} (h : Run k ts ts') :
    ∃ c, ts = c ++ ts' ∧ D (ntOf k) (kinds c) := by
  induction h with
  | s_prog k1 k2 _ k3 _ k4 _ ih1 ih2 ih3 =>
    exact derives_tokens (i := 0) rfl (.t k1 (.t k2 (.n ih1 (.t k3 (.n ih2 (.t k4 (.n ih3 .nil)))))))
  | s_p _ _ ih => exact derives_tokens (i := 1) rfl (.n ih .nil)
  | ports_nil _ => exact derives_tokens (i := 3) rfl .nil
  | ports_in k1 _ _ ih1 ih2 => exact derives_tokens (i := 2) rfl (.t k1 (.n ih1 (.n ih2 .nil)))
  | oports_nil _ => exact derives_tokens (i := 5) rfl .nil
  | oports_out k1 k2 => exact derives_tokens (i := 4) rfl (.t k1 (.t k2 .nil))
  | args_one k1 _ =>
    exact derives_tokens (i := 6) rfl (.t k1 (.n (derives_tokens (i := 8) rfl .nil) .nil))
  | args_more k1 k2 _ ih =>
    exact derives_tokens (i := 6) rfl
      (.t k1 (.n (derives_tokens (i := 7) rfl (.t k2 (.n ih .nil))) .nil))
  | p_assign k1 k2 _ _ ih1 ih2 =>
    exact derives_tokens (i := 9) rfl
      (.t k1 (.n (derives_tokens (i := 10) rfl (.t k2 (.n ih1 (.n ih2 .nil)))) .nil))
  | p_label k1 k2 _ _ ih1 ih2 =>
    exact derives_tokens (i := 9) rfl
      (.t k1 (.n (derives_tokens (i := 11) rfl (.t k2 (.n ih1 (.n ih2 .nil)))) .nil))
  | p_loop k1 k2 k3 _ k4 _ ih1 ih2 =>
    exact derives_tokens (i := 12) rfl (.t k1 (.t k2 (.t k3 (.n ih1 (.t k4 (.n ih2 .nil))))))
  | p_while k1 k2 k3 k4 _ k5 _ ih1 ih2 =>
    exact derives_tokens (i := 13) rfl (.t k1 (.t k2 (.t k3 (.t k4 (.n ih1 (.t k5 (.n ih2 .nil)))))))
  | p_goto k1 k2 _ ih => exact derives_tokens (i := 14) rfl (.t k1 (.t k2 (.n ih .nil)))
  | p_if k1 k2 k3 k4 k5 k6 k7 _ ih =>
    exact derives_tokens (i := 15) rfl (.t k1 (.t k2 (.t k3 (.t k4 (.t k5 (.t k6 (.t k7 (.n ih .nil))))))))
  | p_stop k1 _ ih => exact derives_tokens (i := 16) rfl (.t k1 (.n ih .nil))
  | tail_nil _ => exact derives_tokens (i := 18) rfl .nil
  | tail_semi k1 _ ih => exact derives_tokens (i := 17) rfl (.t k1 (.n ih .nil))
  | value_id k1 => exact derives_tokens (i := 19) rfl (.t k1 .nil)
  | value_int k1 => exact derives_tokens (i := 20) rfl (.t k1 .nil)
  | value_run0 k1 k2 k3 k4 =>
    exact derives_tokens (i := 21) rfl
      (.t k1 (.t k2 (.t k3 (.n (derives_tokens (i := 22) rfl .nil) (.t k4 .nil)))))
  | value_runargs k1 k2 k3 _ _ k4 ih1 ih2 =>
    exact derives_tokens (i := 21) rfl
      (.t k1 (.t k2 (.t k3 (.n (derives_tokens (i := 23) rfl (.n ih1 (.n ih2 .nil))) (.t k4 .nil)))))
  | mv_nil _ => exact derives_tokens (i := 25) rfl .nil
  | mv_more k1 _ _ ih1 ih2 => exact derives_tokens (i := 24) rfl (.t k1 (.n ih1 (.n ih2 .nil)))

end

/-- no production mentions the end-of-file token, so no derived word contains it -/
theorem derives_no_eof {A : Nat} {w : List Nat} (h : D A w) : Tok.T_EOF ∉ w := by
  refine derives_ind langGrammar (fun _ w => Tok.T_EOF ∉ w) (fun A k rhs w ha hc => ?_) h
  have hn : Sym.t Tok.T_EOF ∉ rhs :=
    (by decide : ∀ r ∈ langRules, Sym.t Tok.T_EOF ∉ r.2) _ (rule_of_alt ha)
  clear ha
  induction rhs generalizing w with
  | nil => cases hc; exact List.not_mem_nil
  | cons s r ih =>
    have ih := fun w hc => @ih w hc (fun hm => hn (List.mem_cons_of_mem _ hm))
    cases s with
    | eps => exact hc.elim
    | t a =>
      obtain ⟨v, rfl, hv⟩ := hc
      intro hm
      rcases List.mem_cons.1 hm with e | hm
      · exact hn (e ▸ List.mem_cons_self)
      · exact ih _ hv hm
    | n B =>
      obtain ⟨u, v, rfl, hu, hv⟩ := hc
      intro hm
      rcases List.mem_append.1 hm with hm | hm
      · exact hu hm
      · exact ih _ hv hm

theorem run_p_first {ts ts' : List Token} (h : Run .P ts ts') : Comp (laT ts) := by
  unfold Comp
  cases h <;> simp [*]

theorem run_value_first {ts ts' : List Token} (h : Run .VALUE ts ts') :
    laT ts = Tok.ID ∨ laT ts = Tok.INT ∨ laT ts = Tok.RUN := by
  cases h <;> simp [*]

open LangNT in
/-- What a derivation of `w` from each non-terminal means for the parser: tokens `c` that spell `w`
    are consumed by its function, given the lookahead on `rest` at which that function stops.
    `MARGS`, `PID` and `VARGS` are the right parts of productions whose first tokens (`t`;
    `t1 t2 t3`) the function has read already.  `P`, `PID` and `MOREP` are in continuation form,
    `Run .TAIL rest ts' → Run .P (c ++ rest) ts'`: the function for a statement goes on into the
    tail of its sequence, so its run ends where the run of that tail ends.  `OPORTS` adds that
    `c ++ rest` does not begin with `,`, which is the stop condition of the `ARGS` that stands
    before it in `PORTS → in ARGS OPORTS`. -/
def claim (A : Nat) (w : List Nat) : Prop :=
  if A = S then ∀ c rest, kinds c = w → laT rest = Tok.T_EOF → Run .S (c ++ rest) rest
  else if A = PORTS then ∀ c rest, kinds c = w → laT rest = Tok.DO → Run .PORTS (c ++ rest) rest
  else if A = OPORTS then ∀ c rest, kinds c = w → laT rest = Tok.DO →
    Run .OPORTS (c ++ rest) rest ∧ laT (c ++ rest) ≠ Tok.ARGSEP
  else if A = ARGS then ∀ c rest, kinds c = w → laT rest ≠ Tok.ARGSEP → Run .ARGS (c ++ rest) rest
  else if A = MARGS then ∀ t c rest, t.kind = Tok.ID → kinds c = w → laT rest ≠ Tok.ARGSEP →
    Run .ARGS (t :: (c ++ rest)) rest
  else if A = P then ∀ c rest ts', kinds c = w → Run .TAIL rest ts' → Run .P (c ++ rest) ts'
  else if A = PID then ∀ t c rest ts', t.kind = Tok.ID → kinds c = w → Run .TAIL rest ts' →
    Run .P (t :: (c ++ rest)) ts'
  else if A = MOREP then ∀ c rest ts', kinds c = w → Run .TAIL rest ts' → Run .TAIL (c ++ rest) ts'
  else if A = VALUE then ∀ c rest, kinds c = w → Run .VALUE (c ++ rest) rest
  else if A = VARGS then ∀ t1 t2 t3 c t4 rest, t1.kind = Tok.RUN → t2.kind = Tok.ID → t3.kind = Tok.WITH →
    kinds c = w → t4.kind = Tok.END → Run .VALUE (t1 :: t2 :: t3 :: (c ++ t4 :: rest)) rest
  else if A = MVARGS then ∀ c rest, kinds c = w → laT rest ≠ Tok.ARGSEP → Run .MVARGS (c ++ rest) rest
  else True

section
open LangNT
theorem claim_S (w) : claim S w = ∀ c rest, kinds c = w → laT rest = Tok.T_EOF → Run .S (c ++ rest) rest := rfl
theorem claim_PORTS (w) : claim PORTS w =
    ∀ c rest, kinds c = w → laT rest = Tok.DO → Run .PORTS (c ++ rest) rest := rfl
theorem claim_OPORTS (w) : claim OPORTS w = ∀ c rest, kinds c = w → laT rest = Tok.DO →
    Run .OPORTS (c ++ rest) rest ∧ laT (c ++ rest) ≠ Tok.ARGSEP := rfl
theorem claim_ARGS (w) : claim ARGS w =
    ∀ c rest, kinds c = w → laT rest ≠ Tok.ARGSEP → Run .ARGS (c ++ rest) rest := rfl
theorem claim_MARGS (w) : claim MARGS w = ∀ t c rest, t.kind = Tok.ID → kinds c = w →
    laT rest ≠ Tok.ARGSEP → Run .ARGS (t :: (c ++ rest)) rest := rfl
theorem claim_P (w) : claim P w =
    ∀ c rest ts', kinds c = w → Run .TAIL rest ts' → Run .P (c ++ rest) ts' := rfl
theorem claim_PID (w) : claim PID w = ∀ t c rest ts', t.kind = Tok.ID → kinds c = w →
    Run .TAIL rest ts' → Run .P (t :: (c ++ rest)) ts' := rfl
theorem claim_MOREP (w) : claim MOREP w =
    ∀ c rest ts', kinds c = w → Run .TAIL rest ts' → Run .TAIL (c ++ rest) ts' := rfl
theorem claim_VALUE (w) : claim VALUE w = ∀ c rest, kinds c = w → Run .VALUE (c ++ rest) rest := rfl
theorem claim_VARGS (w) : claim VARGS w = ∀ t1 t2 t3 c t4 rest, t1.kind = Tok.RUN → t2.kind = Tok.ID →
    t3.kind = Tok.WITH → kinds c = w → t4.kind = Tok.END →
    Run .VALUE (t1 :: t2 :: t3 :: (c ++ t4 :: rest)) rest := rfl
theorem claim_MVARGS (w) : claim MVARGS w =
    ∀ c rest, kinds c = w → laT rest ≠ Tok.ARGSEP → Run .MVARGS (c ++ rest) rest := rfl
end

theorem Run.tail_stop {r : List Token} (h : laT r = Tok.END ∨ laT r = Tok.T_EOF) : Run .TAIL r r :=
  .tail_nil (by unfold EEOSok; rcases h with h | h <;> rw [h] <;> decide)

local macro "split_kinds" "at" h:ident : tactic =>
  `(tactic| simp only [kinds, List.map_eq_cons_iff, List.map_eq_append_iff, List.map_eq_nil_iff,
      List.append_nil] at $h:ident)

section
open LangNT

/-- One case per production, in the order of `langRules`: the tokens that spell the right-hand side
    (`tseq_of_cseq`), and the constructor of `Run` that consumes them. -/
theorem claim_step (A k : Nat) (rhs : List Sym) (w : List Nat) (h : (langGrammar.alts A)[k]? = some rhs)
    (hc : CSeq claim rhs w) : claim A w := by
  have hm := rule_of_alt h
  simp only [langRules, List.mem_cons, Prod.mk.injEq, List.not_mem_nil, or_false] at hm
  rcases hm with ⟨rfl, rfl⟩ | ⟨rfl, rfl⟩ | ⟨rfl, rfl⟩ | ⟨rfl, rfl⟩ | ⟨rfl, rfl⟩ | ⟨rfl, rfl⟩ | ⟨rfl, rfl⟩ |
    ⟨rfl, rfl⟩ | ⟨rfl, rfl⟩ | ⟨rfl, rfl⟩ | ⟨rfl, rfl⟩ | ⟨rfl, rfl⟩ | ⟨rfl, rfl⟩ | ⟨rfl, rfl⟩ | ⟨rfl, rfl⟩ |
    ⟨rfl, rfl⟩ | ⟨rfl, rfl⟩ | ⟨rfl, rfl⟩ | ⟨rfl, rfl⟩ | ⟨rfl, rfl⟩ | ⟨rfl, rfl⟩ | ⟨rfl, rfl⟩ | ⟨rfl, rfl⟩ |
    ⟨rfl, rfl⟩ | ⟨rfl, rfl⟩ | ⟨rfl, rfl⟩
  · intro c rest hk hl
    obtain ⟨t1, _, e, k1, t2, _, rfl, k2, _, ⟨c1, rfl, h1⟩, t3, _, rfl, k3, _, ⟨c2, rfl, h2⟩, t4, _, rfl, k4,
      _, ⟨c3, rfl, h3⟩, rfl⟩ := tseq_of_cseq rest _ _ _ hc hk
    rw [e]
    exact .s_prog k1 k2 (h1 c1 _ rfl k3) k3 (h2 c2 _ _ rfl (.tail_stop (.inl k4))) k4 (h3 c3 _ rfl hl)
  · intro c rest hk hl
    obtain ⟨_, ⟨c1, e, h1⟩, rfl⟩ := tseq_of_cseq rest _ _ _ hc hk
    rw [e]
    have hp := h1 c1 _ _ rfl (.tail_stop (.inr hl))
    refine .s_p (fun hx => ?_) hp
    have := run_p_first hp
    rw [hx] at this
    exact absurd this (by decide)
  · intro c rest hk hl
    obtain ⟨t1, _, e, k1, _, ⟨c1, rfl, h1⟩, _, ⟨c2, rfl, h2⟩, rfl⟩ := tseq_of_cseq rest _ _ _ hc hk
    rw [e]
    obtain ⟨ho, hne⟩ := h2 c2 _ rfl hl
    exact .ports_in k1 (h1 c1 _ rfl hne) ho
  · intro c rest hk hl
    rw [tseq_of_cseq rest _ _ _ hc hk]
    exact .ports_nil (by rw [hl]; decide)
  · intro c rest hk hl
    obtain ⟨t1, _, e, k1, t2, _, rfl, k2, rfl⟩ := tseq_of_cseq rest _ _ _ hc hk
    rw [e]
    exact ⟨.oports_out k1 k2, by rw [laT_cons, k1]; decide⟩
  · intro c rest hk hl
    rw [tseq_of_cseq rest _ _ _ hc hk]
    exact ⟨.oports_nil (by rw [hl]; decide), by rw [hl]; decide⟩
  · intro c rest hk hl
    obtain ⟨t1, _, e, k1, _, ⟨c1, rfl, h1⟩, rfl⟩ := tseq_of_cseq rest _ _ _ hc hk
    rw [e]
    exact h1 t1 c1 _ k1 rfl hl
  · intro t c rest kt hk hl
    obtain ⟨t2, _, e, k2, _, ⟨c1, rfl, h1⟩, rfl⟩ := tseq_of_cseq rest _ _ _ hc hk
    rw [e]
    exact .args_more kt k2 (h1 c1 _ rfl hl)
  · intro t c rest kt hk hl
    rw [tseq_of_cseq rest _ _ _ hc hk]
    exact .args_one kt hl
  · intro c rest ts' hk ht
    obtain ⟨t1, _, e, k1, _, ⟨c1, rfl, h1⟩, rfl⟩ := tseq_of_cseq rest _ _ _ hc hk
    rw [e]
    exact h1 t1 c1 _ ts' k1 rfl ht
  · intro t c rest ts' kt hk ht
    obtain ⟨t2, _, e, k2, _, ⟨c1, rfl, h1⟩, _, ⟨c2, rfl, h2⟩, rfl⟩ := tseq_of_cseq rest _ _ _ hc hk
    rw [e]
    exact .p_assign kt k2 (h1 c1 _ rfl) (h2 c2 _ ts' rfl ht)
  · intro t c rest ts' kt hk ht
    obtain ⟨t2, _, e, k2, _, ⟨c1, rfl, h1⟩, _, ⟨c2, rfl, h2⟩, rfl⟩ := tseq_of_cseq rest _ _ _ hc hk
    rw [e]
    -- the statements after the label's own statement are re-attached to that statement
    have hT := h2 c2 _ ts' rfl ht
    exact .p_label kt k2 (h1 c1 _ ts' rfl hT) (.tail_nil (run_eeosok hT (Or.inr rfl)))
  · intro c rest ts' hk ht
    obtain ⟨t1, _, e, k1, t2, _, rfl, k2, t3, _, rfl, k3, _, ⟨c1, rfl, h1⟩, t4, _, rfl, k4, _, ⟨c2, rfl, h2⟩,
      rfl⟩ := tseq_of_cseq rest _ _ _ hc hk
    rw [e]
    exact .p_loop k1 k2 k3 (h1 c1 _ _ rfl (.tail_stop (.inl k4))) k4 (h2 c2 _ ts' rfl ht)
  · intro c rest ts' hk ht
    obtain ⟨t1, _, e, k1, t2, _, rfl, k2, t3, _, rfl, k3, t4, _, rfl, k4, _, ⟨c1, rfl, h1⟩, t5, _, rfl, k5,
      _, ⟨c2, rfl, h2⟩, rfl⟩ := tseq_of_cseq rest _ _ _ hc hk
    rw [e]
    exact .p_while k1 k2 k3 k4 (h1 c1 _ _ rfl (.tail_stop (.inl k5))) k5 (h2 c2 _ ts' rfl ht)
  · intro c rest ts' hk ht
    obtain ⟨t1, _, e, k1, t2, _, rfl, k2, _, ⟨c2, rfl, h2⟩, rfl⟩ := tseq_of_cseq rest _ _ _ hc hk
    rw [e]
    exact .p_goto k1 k2 (h2 c2 _ ts' rfl ht)
  · intro c rest ts' hk ht
    obtain ⟨t1, _, e, k1, t2, _, rfl, k2, t3, _, rfl, k3, t4, _, rfl, k4, t5, _, rfl, k5, t6, _, rfl, k6,
      t7, _, rfl, k7, _, ⟨c2, rfl, h2⟩, rfl⟩ := tseq_of_cseq rest _ _ _ hc hk
    rw [e]
    exact .p_if k1 k2 k3 k4 k5 k6 k7 (h2 c2 _ ts' rfl ht)
  · intro c rest ts' hk ht
    obtain ⟨t1, _, e, k1, _, ⟨c2, rfl, h2⟩, rfl⟩ := tseq_of_cseq rest _ _ _ hc hk
    rw [e]
    exact .p_stop k1 (h2 c2 _ ts' rfl ht)
  · intro c rest ts' hk ht
    obtain ⟨t1, _, e, k1, _, ⟨c1, rfl, h1⟩, rfl⟩ := tseq_of_cseq rest _ _ _ hc hk
    rw [e]
    exact .tail_semi k1 (h1 c1 _ ts' rfl ht)
  · intro c rest ts' hk ht
    rw [tseq_of_cseq rest _ _ _ hc hk]
    exact ht
  · intro c rest hk
    obtain ⟨t1, _, e, k1, rfl⟩ := tseq_of_cseq rest _ _ _ hc hk
    rw [e]
    exact .value_id k1
  · intro c rest hk
    obtain ⟨t1, _, e, k1, rfl⟩ := tseq_of_cseq rest _ _ _ hc hk
    rw [e]
    exact .value_int k1
  · intro c rest hk
    obtain ⟨t1, _, e, k1, t2, _, rfl, k2, t3, _, rfl, k3, _, ⟨c1, rfl, h1⟩, t4, _, rfl, k4, rfl⟩ :=
      tseq_of_cseq rest _ _ _ hc hk
    rw [e]
    exact h1 t1 t2 t3 c1 t4 _ k1 k2 k3 rfl k4
  · intro t1 t2 t3 c t4 rest k1 k2 k3 hk k4
    rw [tseq_of_cseq (t4 :: rest) _ _ _ hc hk]
    exact .value_run0 k1 k2 k3 k4
  · intro t1 t2 t3 c t4 rest k1 k2 k3 hk k4
    obtain ⟨_, ⟨c1, e, h1⟩, _, ⟨c2, rfl, h2⟩, hr⟩ := tseq_of_cseq (t4 :: rest) _ _ _ hc hk
    rw [e, hr]
    exact .value_runargs k1 k2 k3 (h1 c1 _ rfl) (h2 c2 (t4 :: rest) rfl (by rw [laT_cons, k4]; decide)) k4
  · intro c rest hk hl
    obtain ⟨t1, _, e, k1, _, ⟨c1, rfl, h1⟩, _, ⟨c2, rfl, h2⟩, rfl⟩ := tseq_of_cseq rest _ _ _ hc hk
    rw [e]
    exact .mv_more k1 (h1 c1 _ rfl) (h2 c2 _ rfl hl)
  · intro c rest hk hl
    rw [tseq_of_cseq rest _ _ _ hc hk]
    exact .mv_nil hl

end

theorem matchK_ok {t : Token} {r : List Token} {e : List SynErr} {k : Nat} (hk : t.kind = k)
    (hne : k ≠ Tok.T_EOF := by decide) : PS.matchK ⟨t :: r, e⟩ k = ⟨r, e⟩ := by
  rcases (matchK_spec ⟨t :: r, e⟩ k).2 with ⟨_, he, ht⟩ | ⟨h, _⟩
  · cases hm : PS.matchK ⟨t :: r, e⟩ k with
    | mk ts' e' =>
      rw [hm] at he ht
      cases he
      cases ht hne
      rfl
  · exact absurd hk h

def runState : RK → Nat → PS → PS
  | .S, f, ps => (pS f ps).2
  | .PORTS, f, ps => (pPORTS f ps).2
  | .OPORTS, _, ps => (pOPORTS ps).2
  | .ARGS, f, ps => (pARGS f ps).2
  | .P, f, ps => (pP f ps).2
  | .TAIL, f, ps => pEEOS f (pMOREP f ps).2
  | .VALUE, f, ps => (pVALUE f ps).2
  | .MVARGS, f, ps => (pMVARGS f ps).2

/-- Fuel, beyond the length of the input, with which the function for a run has a level left for
    itself and one for what it calls on the same input; `pS` calls `pP` on its own input, hence one
    more.  `pOPORTS` takes no fuel: its entry only keeps `runFuel_pos` uniform. -/
def runFuel : RK → Nat
  | .S => 3
  | .PORTS | .OPORTS | .ARGS | .P | .TAIL | .VALUE | .MVARGS => 2

theorem la_kind {t : Token} {r : List Token} {e : List SynErr} {k : Nat} (h : t.kind = k) :
    PS.la ⟨t :: r, e⟩ = k := h
theorem la_ne {ts : List Token} {e : List SynErr} {k : Nat} (h : laT ts ≠ k) : PS.la ⟨ts, e⟩ ≠ k := h

theorem run_length {k : RK} {ts ts' : List Token} (h : Run k ts ts') : ts'.length ≤ ts.length := by
  obtain ⟨c, rfl, _⟩ := run_derives h
  rw [List.length_append]
  exact Nat.le_add_left _ _

theorem runFuel_pos {k : RK} {n f : Nat} (h : n + runFuel k ≤ f) : ∃ f', f = f' + 1 :=
  have : 0 < runFuel k := by cases k <;> decide
  ⟨f - 1, by omega⟩

theorem run_parse {k : RK} {ts ts' : List Token} (h : Run k ts ts') :
    ∀ f e, ts.length + runFuel k ≤ f → runState k f ⟨ts, e⟩ = ⟨ts', e⟩ := by
  induction h
  all_goals
    intro f e hf
    obtain ⟨f, rfl⟩ := runFuel_pos hf
    dsimp only [runState, runFuel, List.length_cons] at *
  case s_prog t1 t2 t3 t4 r2 r3 r4 r5 k1 k2 hr1 k3 hr2 k4 _ ih1 ih2 ih3 =>
    have l1 : r3.length + 1 ≤ r2.length := run_length hr1
    have l2 : r4.length + 1 ≤ r3.length := run_length hr2
    rw [pS_succ, if_pos (la_kind k1), matchK_ok k1, matchK_ok k2, ih1 f e (by omega),
      matchK_ok k3, ih2 f e (by omega), matchK_ok k4, ih3 f e (by omega)]
  case s_p r r' hne _ ih =>
    rw [pS_succ, if_neg (la_ne hne), ih f e (by omega)]
  case ports_nil r hne => rw [pPORTS_succ, if_neg (la_ne hne)]
  case ports_in t r r1 r2 k1 hr1 _ ih1 ih2 =>
    have l1 := run_length hr1
    rw [pPORTS_succ, if_pos (la_kind k1), matchK_ok k1, ih1 f e (by omega),
      ih2 f e (by omega)]
  case oports_nil r hne => rw [pOPORTS_eq, if_neg (la_ne hne)]
  case oports_out t1 t2 r k1 k2 =>
    rw [pOPORTS_eq, if_pos (la_kind k1), matchK_ok k1, matchK_ok k2]
  case args_one t r k1 hne =>
    rw [pARGS_succ, matchK_ok k1, if_pos (la_ne hne)]
  case args_more t1 t2 r r' k1 k2 _ ih =>
    rw [pARGS_succ, matchK_ok k1, if_neg (not_not_intro (la_kind k2)), matchK_ok k2,
      ih f e (by omega)]
  case p_assign t1 t2 r r1 r2 k1 k2 hr1 _ ih1 ih2 =>
    have l1 := run_length hr1
    rw [pP_id (la_kind k1), matchK_ok k1, if_pos (la_kind k2),
      matchK_ok k2, ih1 f e (by omega), ih2 f e (by omega)]
  case p_label t1 t2 r r1 r2 k1 k2 hr1 _ ih1 ih2 =>
    have l1 := run_length hr1
    rw [pP_id (la_kind k1), matchK_ok k1, if_neg (by rw [la_kind k2]; decide), if_pos (la_kind k2),
      matchK_ok k2, ih1 f e (by omega), ih2 f e (by omega)]
  case p_loop t1 t2 t3 t4 r r1 r2 k1 k2 k3 hr1 k4 _ ih1 ih2 =>
    have l1 : r1.length + 1 ≤ r.length := run_length hr1
    rw [pP_loop (la_kind k1), matchK_ok k1, matchK_ok k2, matchK_ok k3,
      ih1 f e (by omega), matchK_ok k4, ih2 f e (by omega)]
  case p_while t1 t2 t3 t4 t5 r r1 r2 k1 k2 k3 k4 hr1 k5 _ ih1 ih2 =>
    have l1 : r1.length + 1 ≤ r.length := run_length hr1
    rw [pP_while (la_kind k1), matchK_ok k1, matchK_ok k2, matchK_ok k3, matchK_ok k4,
      ih1 f e (by omega), matchK_ok k5, ih2 f e (by omega)]
  case p_goto t1 t2 r r2 k1 k2 _ ih =>
    rw [pP_goto (la_kind k1), matchK_ok k1, matchK_ok k2, ih f e (by omega)]
  case p_if t1 t2 t3 t4 t5 t6 t7 r r2 k1 k2 k3 k4 k5 k6 k7 _ ih =>
    rw [pP_if (la_kind k1), matchK_ok k1, matchK_ok k2, matchK_ok k3, matchK_ok k4,
      matchK_ok k5, matchK_ok k6, matchK_ok k7, ih f e (by omega)]
  case p_stop t1 r r2 k1 _ ih =>
    rw [pP_stop (la_kind k1), matchK_ok k1, ih f e (by omega)]
  case tail_nil r hok =>
    rw [pMOREP_succ, if_pos (la_ne hok.2.2), eeos_ok f ⟨r, e⟩ hok]
  case tail_semi t r r' k1 hp ih =>
    have hfirst := run_p_first hp
    rw [pMOREP_succ, if_neg (not_not_intro (la_kind k1)), matchK_ok k1, if_neg,
      ih f e (by omega), eeos_ok _ _ (run_eeosok hp (Or.inl rfl))]
    show ¬ (laT r = Tok.END ∨ laT r = Tok.T_EOF)
    intro hx
    rcases hx with hx | hx <;> rw [hx] at hfirst <;> exact absurd hfirst (by decide)
  case value_id t r k1 => rw [pVALUE_succ, if_pos (la_kind k1), matchK_ok k1]
  case value_int t r k1 =>
    rw [pVALUE_succ, if_neg (by rw [la_kind k1]; decide), if_pos (la_kind k1), matchK_ok k1]
  case value_run0 t1 t2 t3 t4 r k1 k2 k3 k4 =>
    rw [pVALUE_succ, if_neg (by rw [la_kind k1]; decide), if_neg (by rw [la_kind k1]; decide),
      if_pos (la_kind k1), matchK_ok k1, matchK_ok k2, matchK_ok k3, if_pos (by rw [la_kind k4]; decide),
      matchK_ok k4]
  case value_runargs t1 t2 t3 t4 r r1 r2 k1 k2 k3 hv _ k4 ih1 ih2 =>
    have l1 := run_length hv
    rw [pVALUE_succ, if_neg (by rw [la_kind k1]; decide), if_neg (by rw [la_kind k1]; decide),
      if_pos (la_kind k1), matchK_ok k1, matchK_ok k2, matchK_ok k3, if_neg, ih1 f e (by omega),
      ih2 f e (by omega), matchK_ok k4]
    exact fun ⟨a, b, c⟩ => (run_value_first hv).elim a (Or.rec b c)
  case mv_nil r hne => rw [pMVARGS_succ, if_pos (la_ne hne)]
  case mv_more t r r1 r2 k1 hr1 _ ih1 ih2 =>
    have l1 := run_length hr1
    have h1 := ih1 f e (by omega)
    have hnil : ¬ (pVALUE f ⟨r, e⟩).1 = .nil := fun hx => by
      have := (ab_all f).value_nil hx
      rw [h1] at this
      exact Nat.lt_irrefl _ this
    rw [pMVARGS_succ, if_neg (not_not_intro (la_kind k1)), matchK_ok k1, if_neg hnil, h1,
      ih2 f e (by omega)]

theorem parseTokens_snd (ts : List Token) : (parseTokens ts).2 =
    (pTrailing (ts.length + 1) (parseFuel ts.length) (pS (parseFuel ts.length) ⟨ts, []⟩).2).errs := by
  simp only [parseTokens]

theorem parseTokens_fst (ts : List Token) : (parseTokens ts).1 = (pS (parseFuel ts.length) ⟨ts, []⟩).1 := by
  simp only [parseTokens]

theorem pTrailing_stop (n fuel : Nat) (ps : PS) (h : ps.ts.isEmpty ∨ ps.la = Tok.T_EOF) :
    pTrailing n fuel ps = ps := by
  cases n with
  | zero => rw [pTrailing]
  | succ n => rw [pTrailing, if_pos h]

theorem pTrailing_noerr (n fuel : Nat) (ps : PS)
    (h : (pTrailing (n+1) fuel ps).errs.length ≤ ps.errs.length) : ps.ts.isEmpty ∨ ps.la = Tok.T_EOF := by
  apply Classical.byContradiction
  intro hc
  rw [pTrailing, if_neg hc] at h
  have h1 := matchK_le (ps.err .excessInput) (ps.err .excessInput).la
  dsimp only at h
  split at h
  · have h0 := err_errs_length ps .excessInput; omega
  · have h2 := ((ab_all fuel).s ((ps.err .excessInput).matchK (ps.err .excessInput).la)).le
    have h3 := pTrailing_le n fuel (pS fuel ((ps.err .excessInput).matchK (ps.err .excessInput).la)).2
    have h0 := err_errs_length ps .excessInput; omega

theorem parseTokens_built (ts : List Token) (he : (parseTokens ts).2 = []) :
    ∃ ts', Built .S ts ts' (parseTokens ts).1 ∧ (ts'.isEmpty ∨ laT ts' = Tok.T_EOF) := by
  rw [parseTokens_snd] at he
  rw [parseTokens_fst]
  have h1 := pTrailing_le (ts.length + 1) (parseFuel ts.length) (pS (parseFuel ts.length) ⟨ts, []⟩).2
  rw [he] at h1
  exact ⟨_, ((ab_all _).s _).built (List.length_eq_zero_iff.1 (Nat.le_zero.1 h1)),
    pTrailing_noerr _ _ _ (by rw [he]; exact Nat.zero_le _)⟩

def NoEof (c : List Token) : Prop := ∀ t ∈ c, t.kind ≠ Tok.T_EOF

theorem split_unique (eof : Token) (he : eof.kind = Tok.T_EOF) :
    ∀ (body c r : List Token), body ++ [eof] = c ++ r → NoEof c → NoEof body →
      (r.isEmpty ∨ laT r = Tok.T_EOF) → c = body
  | [], c, r, h, hc, _, _ => by
    cases c with
    | nil => rfl
    | cons x c' =>
      simp at h
      exact absurd he (h.1 ▸ hc x (List.mem_cons_self ..))
  | b :: bs, c, r, h, hc, hb, hr => by
    cases c with
    | nil =>
      simp at h
      subst h
      rcases hr with hr | hr
      · simp at hr
      · exact absurd hr (hb b (List.mem_cons_self ..))
    | cons x c' =>
      simp at h
      obtain ⟨rfl, h⟩ := h
      have := split_unique eof he bs c' r (by simpa using h)
        (fun t ht => hc t (List.mem_cons_of_mem _ ht)) (fun t ht => hb t (List.mem_cons_of_mem _ ht)) hr
      rw [this]

theorem bodyKinds_eq (body : List Token) (eof : Token) : bodyKinds (body ++ [eof]) = kinds body := by
  simp [bodyKinds, kinds]

theorem sound_core (body : List Token) (eof : Token) (he : eof.kind = Tok.T_EOF) (hb : NoEof body)
    (herr : (parseTokens (body ++ [eof])).2 = []) : D LangNT.S (kinds body) := by
  obtain ⟨ts', hrun, h2⟩ := parseTokens_built _ herr
  obtain ⟨c, hc, hd⟩ := run_derives hrun.run
  have hn : NoEof c := fun t ht hk => derives_no_eof hd (hk ▸ List.mem_map_of_mem ht)
  rw [← split_unique eof he body c _ hc hn hb h2]
  exact hd

theorem complete_core (body : List Token) (eof : Token) (he : eof.kind = Tok.T_EOF)
    (hd : D LangNT.S (kinds body)) : (parseTokens (body ++ [eof])).2 = [] := by
  have hrun : Run .S (body ++ [eof]) [eof] := derives_ind langGrammar claim claim_step hd body [eof] rfl he
  have h1 : (pS (parseFuel (body ++ [eof]).length) ⟨body ++ [eof], []⟩).2 = ⟨[eof], []⟩ :=
    run_parse hrun _ [] (by simp only [runFuel, parseFuel]; omega)
  rw [parseTokens_snd, h1, pTrailing_stop _ _ ⟨[eof], []⟩ (Or.inr he)]

def noFuel (ps : PS) : Prop := ∀ e ∈ ps.errs, e.kind ≠ SynKind.fuel

def Fok (a b : PS) : Prop := (noFuel a → noFuel b) ∧ b.ts.length ≤ a.ts.length

theorem Fok.refl (a : PS) : Fok a a := ⟨id, Nat.le_refl _⟩
theorem Fok.trans {a b c : PS} (h1 : Fok a b) (h2 : Fok b c) : Fok a c :=
  ⟨fun h => h2.1 (h1.1 h), Nat.le_trans h2.2 h1.2⟩

theorem err_fok (ps : PS) (k : SynKind) (hk : k ≠ .fuel := by decide) : Fok ps (ps.err k) := by
  refine ⟨?_, Nat.le_refl _⟩
  intro h e he
  simp only [PS.err, List.mem_append, List.mem_singleton] at he
  rcases he with he | rfl
  · exact h e he
  · exact hk

theorem matchK_fok (ps : PS) (k : Nat) : Fok ps (ps.matchK k) := by
  refine ⟨fun h => ?_, (matchK_spec ps k).1.length_le⟩
  unfold noFuel
  rcases (matchK_spec ps k).2 with ⟨_, e, _⟩ | ⟨_, e⟩ <;> rw [e]
  · exact h
  · exact (err_fok ps .expectedToken).1 h

theorem matchK_strict (ps : PS) (k : Nat) (h : ps.la = k) (hk : k ≠ Tok.T_EOF) :
    (ps.matchK k).ts.length + 1 = ps.ts.length := by
  rcases (matchK_spec ps k).2 with ⟨_, _, ht⟩ | ⟨hn, _⟩
  · exact (congrArg List.length (ht hk)).symm
  · exact absurd h hn

theorem oports_fok (ps : PS) : Fok ps (pOPORTS ps).2 := by
  rw [pOPORTS_eq]
  split
  · exact (matchK_fok _ _).trans (matchK_fok _ _)
  · exact Fok.refl _

/-- `Step f a b`: when `4·|a| + 4 ≤ f` — room for the longest chain of calls that consume nothing,
    `S`, `P`, `expected_end_or_semicolon`, `MOREP` — the way from `a` to `b` is `Fok`.  Every call
    that follows a matched token is in this situation. -/
def Step (f : Nat) (a b : PS) : Prop := 4 * a.ts.length + 4 ≤ f → Fok a b

theorem Fok.step {f : Nat} {a b : PS} (h : Fok a b) : Step f a b := fun _ => h

theorem Step.trans {f : Nat} {a b c : PS} (h1 : Step f a b) (h2 : Step f b c) : Step f a c := fun h =>
  (h1 h).trans (h2 (by have := (h1 h).2; omega))

theorem Step.ite {f : Nat} {a b c : PS} (p : Prop) [Decidable p] (h1 : Step f a b) (h2 : Step f a c) :
    Step f a (if p then b else c) := by
  split <;> assumption

theorem Step.matchK {f : Nat} (ps : PS) (k : Nat) : Step f ps (ps.matchK k) := (matchK_fok ps k).step
theorem Step.matched {f k : Nat} {ps b : PS} (h : Step f (ps.matchK k) b) : Step f ps b :=
  (Step.matchK ps k).trans h

theorem Step.after_match {f k : Nat} {ps b : PS} {P : Prop} (h : ps.la = k) (hb : 4 * ps.ts.length ≤ f)
    (hs : Step f (ps.matchK k) b) (hk : k ≠ Tok.T_EOF := by decide) :
    Fok ps b ∧ (P → b.ts.length < ps.ts.length) := by
  have l := matchK_strict ps k h hk
  have m := hs (by omega)
  exact ⟨(matchK_fok ps k).trans m, fun _ => by have := m.2; omega⟩

/-- the induction hypothesis at one fuel level: with `4·|input| + c` levels left, where the small
    constant `c` depends on the function and on the lookahead -/
structure FB (f : Nat) : Prop where
  s : ∀ ps : PS, 4 * ps.ts.length + (if ps.la = Tok.PROGRAM then 1 else 4) ≤ f →
    Fok ps (pS f ps).2 ∧ (ps.la = Tok.PROGRAM → (pS f ps).2.ts.length < ps.ts.length)
  ports : ∀ ps : PS, 4 * ps.ts.length + 1 ≤ f → Fok ps (pPORTS f ps).2
  args : ∀ ps : PS, 4 * ps.ts.length + 1 ≤ f → Fok ps (pARGS f ps).2
  p : ∀ ps : PS, 4 * ps.ts.length + (if Comp ps.la then 1 else 3) ≤ f →
    Fok ps (pP f ps).2 ∧ (Comp ps.la → (pP f ps).2.ts.length < ps.ts.length)
  eeos : ∀ ps : PS, 4 * ps.ts.length + 2 ≤ f → Fok ps (pEEOS f ps)
  morep : ∀ ps : PS, 4 * ps.ts.length + 1 ≤ f →
    Fok ps (pMOREP f ps).2 ∧ (ps.la = Tok.PROGSEP → (pMOREP f ps).2.ts.length < ps.ts.length)
  value : ∀ ps : PS, 4 * ps.ts.length + 1 ≤ f → Fok ps (pVALUE f ps).2
  mv : ∀ ps : PS, 4 * ps.ts.length + 1 ≤ f → Fok ps (pMVARGS f ps).2

theorem fb_zero : FB 0 where
  s ps h := by split at h <;> cases h
  ports ps h := nomatch h
  args ps h := nomatch h
  p ps h := by split at h <;> cases h
  eeos ps h := nomatch h
  morep ps h := nomatch h
  value ps h := nomatch h
  mv ps h := nomatch h

namespace FB
variable {f : Nat} (ih : FB f) (ps : PS)
include ih
theorem sS : Step f ps (pS f ps).2 := fun _ => (ih.s ps (by split <;> omega)).1
theorem sPorts : Step f ps (pPORTS f ps).2 := fun _ => ih.ports ps (by omega)
theorem sArgs : Step f ps (pARGS f ps).2 := fun _ => ih.args ps (by omega)
theorem sP : Step f ps (pP f ps).2 := fun _ => (ih.p ps (by split <;> omega)).1
theorem sValue : Step f ps (pVALUE f ps).2 := fun _ => ih.value ps (by omega)
theorem sMv : Step f ps (pMVARGS f ps).2 := fun _ => ih.mv ps (by omega)
theorem sTail : Step f ps (pEEOS f (pMOREP f ps).2) := fun _ =>
  have m := (ih.morep ps (by omega)).1
  m.trans (ih.eeos _ (by have := m.2; omega))
theorem eeosAfter {a b : PS} (m : Fok a b) (l : b.ts.length < a.ts.length) (hb : 4 * a.ts.length + 2 ≤ f + 1) :
    Fok a (pEEOS f b) := m.trans (ih.eeos _ (by omega))
end FB

theorem fb_s {f : Nat} (ih : FB f) (ps : PS)
    (hb : 4 * ps.ts.length + (if ps.la = Tok.PROGRAM then 1 else 4) ≤ f + 1) :
    Fok ps (pS (f+1) ps).2 ∧ (ps.la = Tok.PROGRAM → (pS (f+1) ps).2.ts.length < ps.ts.length) := by
  rw [pS_succ]
  by_cases h : ps.la = Tok.PROGRAM
  · rw [if_pos h] at hb ⊢
    exact Step.after_match h (by omega) (.matched ((ih.sPorts _).trans
      (.matched ((ih.sP _).trans (.matched (ih.sS _))))))
  · rw [if_neg h] at hb ⊢
    exact ⟨(ih.p ps (by split <;> omega)).1, fun hx => absurd hx h⟩

theorem fb_ports {f : Nat} (ih : FB f) (ps : PS) (hb : 4 * ps.ts.length + 1 ≤ f + 1) :
    Fok ps (pPORTS (f+1) ps).2 := by
  rw [pPORTS_succ]
  by_cases h : ps.la = Tok.IN
  · rw [if_pos h]
    exact (Step.after_match (P := True) h (by omega) ((ih.sArgs _).trans (oports_fok _).step)).1
  · rw [if_neg h]; exact Fok.refl _

theorem fb_args {f : Nat} (ih : FB f) (ps : PS) (hb : 4 * ps.ts.length + 1 ≤ f + 1) :
    Fok ps (pARGS (f+1) ps).2 := by
  rw [pARGS_succ]
  have m := matchK_fok ps Tok.ID
  by_cases h : (ps.matchK Tok.ID).la ≠ Tok.ARGSEP
  · rw [if_pos h]; exact m
  · rw [if_neg h]
    exact m.trans (Step.after_match (P := True) (Decidable.not_not.mp h) (by have := m.2; omega) (ih.sArgs _)).1

theorem fb_value {f : Nat} (ih : FB f) (ps : PS) (hb : 4 * ps.ts.length + 1 ≤ f + 1) :
    Fok ps (pVALUE (f+1) ps).2 := by
  rw [pVALUE_succ]
  by_cases h1 : ps.la = Tok.ID
  · rw [if_pos h1]; exact matchK_fok _ _
  rw [if_neg h1]
  by_cases h2 : ps.la = Tok.INT
  · rw [if_pos h2]; exact matchK_fok _ _
  rw [if_neg h2]
  by_cases h3 : ps.la = Tok.RUN
  · rw [if_pos h3]
    exact (Step.after_match (P := True) h3 (by omega) (.matched (.matched
      ((Step.ite _ (Fok.refl _).step ((ih.sValue _).trans (ih.sMv _))).trans (Step.matchK _ _))))).1
  · rw [if_neg h3]; exact err_fok _ _

theorem fb_mv {f : Nat} (ih : FB f) (ps : PS) (hb : 4 * ps.ts.length + 1 ≤ f + 1) :
    Fok ps (pMVARGS (f+1) ps).2 := by
  rw [pMVARGS_succ]
  by_cases h : ps.la ≠ Tok.ARGSEP
  · rw [if_pos h]; exact Fok.refl _
  · rw [if_neg h]
    exact (Step.after_match (P := True) (Decidable.not_not.mp h) (by omega)
      (Step.ite _ (ih.sValue _) ((ih.sValue _).trans (ih.sMv _)))).1

theorem fb_eeos {f : Nat} (ih : FB f) (ps : PS) (hb : 4 * ps.ts.length + 2 ≤ f + 1) :
    Fok ps (pEEOS (f+1) ps) := by
  rw [pEEOS_succ]
  by_cases h1 : Comp ps.la
  · rw [if_pos h1]
    have m := ih.p (ps.err .missingSemi) (by rw [err_la, if_pos h1, err_ts]; omega)
    exact (err_fok ps .missingSemi).trans (ih.eeosAfter m.1 (m.2 h1) hb)
  rw [if_neg h1]
  by_cases h2 : ps.la = Tok.PROGRAM
  · rw [if_pos h2]
    have m := ih.s (ps.err .progNotAllowed) (by rw [err_la, if_pos h2, err_ts]; omega)
    exact (err_fok ps .progNotAllowed).trans (ih.eeosAfter m.1 (m.2 h2) hb)
  rw [if_neg h2]
  by_cases h3 : ps.la = Tok.PROGSEP
  · rw [if_pos h3]
    have m := ih.morep ps (by omega)
    exact ih.eeosAfter m.1 (m.2 h3) hb
  · rw [if_neg h3]; exact Fok.refl _

theorem fb_morep {f : Nat} (ih : FB f) (ps : PS) (hb : 4 * ps.ts.length + 1 ≤ f + 1) :
    Fok ps (pMOREP (f+1) ps).2 ∧ (ps.la = Tok.PROGSEP → (pMOREP (f+1) ps).2.ts.length < ps.ts.length) := by
  rw [pMOREP_succ]
  by_cases h : ps.la ≠ Tok.PROGSEP
  · rw [if_pos h]; exact ⟨Fok.refl _, fun hx => absurd hx h⟩
  · rw [if_neg h]
    exact Step.after_match (Decidable.not_not.mp h) (by omega)
      ((Step.ite _ (err_fok _ .excessSemi).step (Fok.refl _).step).trans (ih.sP _))

theorem fb_p {f : Nat} (ih : FB f) (ps : PS)
    (hb : 4 * ps.ts.length + (if Comp ps.la then 1 else 3) ≤ f + 1) :
    Fok ps (pP (f+1) ps).2 ∧ (Comp ps.la → (pP (f+1) ps).2.ts.length < ps.ts.length) := by
  by_cases hc : Comp ps.la
  · rw [if_pos hc] at hb
    rcases hc with h | h | h | h | h | h
    · rw [pP_id h]
      exact Step.after_match h (by omega) ((Step.ite _ (.matched (ih.sValue _))
        (Step.ite _ (.matched (ih.sP _)) (err_fok _ .expectedAssign).step)).trans (ih.sTail _))
    · rw [pP_loop h]
      exact Step.after_match h (by omega) (.matched (.matched ((ih.sP _).trans (.matched (ih.sTail _)))))
    · rw [pP_while h]
      exact Step.after_match h (by omega)
        (.matched (.matched (.matched ((ih.sP _).trans (.matched (ih.sTail _))))))
    · rw [pP_goto h]
      exact Step.after_match h (by omega) (.matched (ih.sTail _))
    · rw [pP_if h]
      exact Step.after_match h (by omega)
        (.matched (.matched (.matched (.matched (.matched (.matched (ih.sTail _)))))))
    · rw [pP_stop h]
      exact Step.after_match h (by omega) (ih.sTail _)
  · rw [if_neg hc] at hb
    rw [pP_other hc]
    exact ⟨(err_fok ps .expectedComponent).trans (ih.eeos _ (by rw [err_ts]; omega)),
      fun hx => absurd hx hc⟩

theorem fb_all : ∀ f, FB f
  | 0 => fb_zero
  | f + 1 =>
    have ih := fb_all f
    { s := fb_s ih, ports := fb_ports ih, args := fb_args ih, p := fb_p ih, eeos := fb_eeos ih,
      morep := fb_morep ih, value := fb_value ih, mv := fb_mv ih }

theorem pTrailing_fok : ∀ (n fuel : Nat) (ps : PS), 4 * ps.ts.length + 4 ≤ fuel →
    Fok ps (pTrailing n fuel ps)
  | 0, _, _, _ => by rw [pTrailing]; exact Fok.refl _
  | n + 1, fuel, ps, hb => by
    rw [pTrailing]
    split
    · exact Fok.refl _
    · have m1 := err_fok ps .excessInput
      have m2 := matchK_fok (ps.err .excessInput) (ps.err .excessInput).la
      dsimp only
      split
      · exact m1.trans m2
      · have l2 := m2.2
        rw [err_ts] at l2
        have m3 := (fb_all fuel).sS ((ps.err .excessInput).matchK (ps.err .excessInput).la) (by omega)
        exact m1.trans (m2.trans (m3.trans (pTrailing_fok n fuel _ (by have := m3.2; omega))))

theorem parse_fuel_ok (ts : List Token) : ∀ e ∈ (parseTokens ts).2, e.kind ≠ SynKind.fuel := by
  rw [parseTokens_snd]
  have m1 := (fb_all (parseFuel ts.length)).sS ⟨ts, []⟩ (by simp only [parseFuel]; omega)
  have m2 := pTrailing_fok (ts.length + 1) (parseFuel ts.length) (pS (parseFuel ts.length) ⟨ts, []⟩).2
    (by have := m1.2; simp only [parseFuel] at *; omega)
  exact (m1.trans m2).1 (by intro e he; cases he)

end C04
end Theo
