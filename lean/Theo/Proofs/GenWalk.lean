/-
  The generator walk.  The dispatch functions of `gen.cpp`'s model (Model/Gen.lean) as equations
  over named straight-line pieces (`progPre`, `loopMid`, …): with the model's fuel, and without it
  for `genS`, `genV`, `genCA`, `genArgs`, the dispatch functions at the fuel of their tree, with
  which every sufficient fuel agrees (`dispatchVoid_eq`, …); the parameters of a definition as a
  fold (`genArgs_fold`); the final state `genState` of `gen`; what `advanceLine` and `popSymbols`
  do; and one preservation principle: a predicate on generator states that every primitive step of
  the generator preserves holds along the whole walk and in the final state (`ValInv` for the steps
  a value takes, `StmtInv` for those of a statement, `GenInv` for all of them).  Its first instance
  closes the file: the errors only grow (`errorsKept`), so the syntax errors of an AST flagged
  incorrect are still there at the end (`gen_errors_prefix`, `gen_not_ok`).
-/
import Theo.Model.Gen
import Theo.Spec.Semantics
import Theo.Proofs.Invariant

namespace Theo
namespace Static
open GS Sem

/-- the part of `dispatchValue` for CALL nodes after the arguments were evaluated -/
def callTail (gs : GS) (arglocs : List Int) (l r : Node) (tgt : Int) : GS :=
  let funcname := l.tok
  let rco := arglocs.length = 2 ∧ r.left.ty = NodeT.NAME ∧ r.right.left.ty = NodeT.NUMBER
  if (funcname = bINC ∨ funcname = bDEC) ∧ rco then
    let cs := toInt32 (strtolNat r.right.left.tok)
    let a0 := (arglocs[0]?).getD 0
    if funcname = bINC then gs.emit (.add tgt a0 cs) else gs.emit (.add tgt a0 (negInt32 cs))
  else
    match gs.lookupFunc funcname with
    | none => gs.err GErrT.UNKNOWN_PROGRAM_NAME
    | some p =>
      if p.argnum ≠ arglocs.length then gs.err GErrT.ARGSIZE_MISMATCH else
      let gs := gs.emit (.prepare p.stackSize p.mi tgt)
      let gs := arglocs.zipIdx.foldl (fun g a => (g.emit (.arg a.2 a.1)).releaseTemporary a.1) gs
      gs.emit (.exec p.ind)

theorem dispatchValue_zero (gs : GS) (n : Node) (tgt : Int) : dispatchValue 0 gs n tgt = gs := by
  rw [dispatchValue]
theorem dispatchValue_nil (f : Nat) (gs : GS) (tgt : Int) : dispatchValue f gs .nil tgt = gs := by
  cases f
  · rw [dispatchValue]
  -- the equation of the second pattern carries the side condition that the first did not match
  · rw [dispatchValue]; exact Nat.succ_ne_zero _

theorem dispatchValue_succ (f : Nat) (gs : GS) (t : Nat) (tok file : Bytes) (line : Int) (l r : Node) (tgt : Int) :
    dispatchValue (f+1) gs (.mk t tok file line l r) tgt =
      if t = NodeT.NAME then
        ((gs.advanceLine line file).fetchVar tok).1.emit (.add tgt ((gs.advanceLine line file).fetchVar tok).2 0)
      else if t = NodeT.NUMBER then
        (genStrToInt (gs.advanceLine line file) tok).1.emit (.const tgt (genStrToInt (gs.advanceLine line file) tok).2)
      else if t = NodeT.CALL then
        callTail (dispatchCallArgs f (gs.advanceLine line file) r []).1
          (dispatchCallArgs f (gs.advanceLine line file) r []).2 l r tgt
      else (gs.advanceLine line file).err GErrT.MALFORMED_AST := by
  rw [dispatchValue]
  rfl

theorem dispatchCallArgs_zero (gs : GS) (n : Node) (acc : List Int) : dispatchCallArgs 0 gs n acc = (gs, acc) := by
  rw [dispatchCallArgs]
theorem dispatchCallArgs_nil (f : Nat) (gs : GS) (acc : List Int) : dispatchCallArgs f gs .nil acc = (gs, acc) := by
  cases f
  · rw [dispatchCallArgs]
  · rw [dispatchCallArgs]; exact Nat.succ_ne_zero _
theorem dispatchCallArgs_succ (f : Nat) (gs : GS) (t : Nat) (tok file : Bytes) (line : Int) (l r : Node) (acc : List Int) :
    dispatchCallArgs (f+1) gs (.mk t tok file line l r) acc =
      if t = NodeT.SPLIT then
        dispatchCallArgs f (dispatchCallArgs f gs l acc).1 r (dispatchCallArgs f gs l acc).2
      else
        (dispatchValue f gs.fetchTemporary.1 (.mk t tok file line l r) gs.fetchTemporary.2,
          acc ++ [gs.fetchTemporary.2]) := by
  rw [dispatchCallArgs]

theorem dispatchArgs_zero (gs : GS) (n : Node) : dispatchArgs 0 gs n = gs := by rw [dispatchArgs]
theorem dispatchArgs_nil (f : Nat) (gs : GS) : dispatchArgs f gs .nil = gs := by
  cases f
  · rw [dispatchArgs]
  · rw [dispatchArgs]; exact Nat.succ_ne_zero _
theorem dispatchArgs_succ (f : Nat) (gs : GS) (t : Nat) (tok file : Bytes) (line : Int) (l r : Node) :
    dispatchArgs (f+1) gs (.mk t tok file line l r) =
      if t = NodeT.SPLIT then dispatchArgs f (dispatchArgs f gs l) r
      else
        let gs1 := if (findReg gs.top.regs tok 0).isSome then gs.err GErrT.INTERNAL_ERROR else gs
        (({ gs1 with symbols := { gs1.top with argnum := gs1.top.argnum + 1 } :: gs1.symbols.drop 1 } : GS).fetchVar tok).1 := by
  rw [dispatchArgs]

def progPre (gs0 : GS) (nameTok : Bytes) : GS × Nat :=
  let gs := gs0.removeTopPotBreak
  let c := gs.createLabel
  ((c.1.emitBackpatched (.jmp c.2)).pushSymbols nameTok, c.2)

def outNameOf (outNode : Node) : Bytes := match outNode with | .nil => bX0 | n => n.tok

def progPost (gs : GS) (outName : Bytes) (entry : Int) (after : Nat) : GS :=
  let fv := gs.fetchVar outName
  let gs := fv.1.emit (.ret fv.2)
  let gs := gs.popSymbols entry
  gs.setLabel after gs.nextPos

def loopPre (gs0 : GS) : GS × Int :=
  let gs : GS := { gs0 with loops := gs0.loops + 1 }
  gs.fetchVar (bLoopVar ++ gs.fsName ++ [58] ++ intDec gs.fsLine ++ [91] ++ natDigits gs.loops ++ [93])

def loopMid (gs : GS) (counter : Int) : GS × Nat × Nat :=
  let c1 := gs.createLabel
  let c2 := c1.1.createLabel
  let g := c2.1.setLabel c1.2 c2.1.nextPos
  (g.emitBackpatched (.jmpc c2.2 counter), c1.2, c2.2)

def loopPost (gs : GS) (counter : Int) (startL endL : Nat) : GS :=
  let g := gs.emit (.add counter counter (-1))
  let g := g.emitBackpatched (.jmp startL)
  g.setLabel endL g.nextPos

def whilePre (gs0 : GS) : GS × Nat × Nat × Int :=
  let c1 := gs0.createLabel
  let c2 := c1.1.createLabel
  let t := c2.1.fetchTemporary
  (t.1.setLabel c1.2 t.1.nextPos, c1.2, c2.2, t.2)

def whilePost (gs : GS) (startL endL : Nat) (cond : Int) : GS :=
  let g := gs.emitBackpatched (.jmp startL)
  let g := g.setLabel endL g.nextPos
  g.releaseTemporary cond

def ifPre (gs0 : GS) : GS × Int × Int × Int :=
  let t1 := gs0.fetchTemporary
  let t2 := t1.1.fetchTemporary
  let t3 := t2.1.fetchTemporary
  (t3.1, t1.2, t2.2, t3.2)

def ifPost (gs : GS) (cond op1 op2 : Int) (m : Bytes) : GS :=
  let g := gs.emit (.test cond op1 op2)
  let ml := g.markLabel m
  let g := ml.1.emitBackpatched (.jmpc ml.2 cond)
  ((g.releaseTemporary cond).releaseTemporary op1).releaseTemporary op2

theorem dispatchVoid_zero (gs : GS) (n : Node) : dispatchVoid 0 gs n = gs := by rw [dispatchVoid]
theorem dispatchVoid_nil (f : Nat) (gs : GS) : dispatchVoid f gs .nil = gs := by
  cases f
  · rw [dispatchVoid]
  · rw [dispatchVoid]; exact Nat.succ_ne_zero _

theorem dispatchVoid_succ (f : Nat) (gs : GS) (t : Nat) (tok file : Bytes) (line : Int) (l r : Node) :
    dispatchVoid (f+1) gs (.mk t tok file line l r) =
      let gs0 := gs.advanceLine line file
      if t = NodeT.SPLIT then dispatchVoid f (dispatchVoid f gs0 l) r
      else if t = NodeT.PROGRAM then
        let p := progPre gs0 l.left.tok
        let g := dispatchArgs f p.1 l.right.left
        progPost (dispatchVoid f g r) (outNameOf l.right.right) g.nextPos p.2
      else if t = NodeT.ASSIGN then
        dispatchValue f (gs0.fetchVar l.tok).1 r (gs0.fetchVar l.tok).2
      else if t = NodeT.LOOP then
        let p := loopPre gs0
        let m := loopMid (dispatchValue f p.1 l p.2) p.2
        loopPost (dispatchVoid f m.1 r) p.2 m.2.1 m.2.2
      else if t = NodeT.WHILE then
        let p := whilePre gs0
        let g := (dispatchValue f p.1 l p.2.2.2).emitBackpatched (.jmpc p.2.2.1 p.2.2.2)
        whilePost (dispatchVoid f g r) p.2.1 p.2.2.1 p.2.2.2
      else if t = NodeT.MARK then
        (gs0.markLabel l.tok).1.setLabel (gs0.markLabel l.tok).2 (gs0.markLabel l.tok).1.markPos
      else if t = NodeT.GOTO then
        (gs0.markLabel l.tok).1.emitBackpatched (.jmp (gs0.markLabel l.tok).2)
      else if t = NodeT.IF then
        let p := ifPre gs0
        ifPost (dispatchValue f (dispatchValue f p.1 l.left p.2.2.1) l.right p.2.2.2) p.2.1 p.2.2.1 p.2.2.2 r.left.tok
      else if t = NodeT.STOP then gs0.emit .halt
      else gs0.err GErrT.MALFORMED_AST := by
  rw [dispatchVoid]
  rfl

theorem nodeSize_pos (n : Node) : 1 ≤ nodeSize n := by
  cases n <;> simp [nodeSize]

theorem nodeSize_left_le (n : Node) : nodeSize n.left ≤ nodeSize n := by
  cases n with
  | nil => exact Nat.le_refl _
  | mk t tok file line l r => simp [Node.left, nodeSize]; omega
theorem nodeSize_right_le (n : Node) : nodeSize n.right ≤ nodeSize n := by
  cases n with
  | nil => exact Nat.le_refl _
  | mk t tok file line l r => simp [Node.right, nodeSize]; omega

/-! The fuel of the dispatch functions is how the model shows that they terminate; the generator
    has none.  Fuel beyond the size of the tree changes nothing, so each dispatch function is taken
    at the fuel of its tree (`genArgs`, `genV`, `genCA`, `genS`): these satisfy the equations above
    without fuel, and a walk over a tree is an induction on the tree. -/

theorem fuel_stable {α : Type} {F : Nat → α} {k : Nat} (h : ∀ f, k ≤ f → F (f + 1) = F f) :
    ∀ f, k ≤ f → F f = F k := by
  intro f hf
  induction f with
  | zero => rw [Nat.le_zero.1 hf]
  | succ f ih =>
    by_cases hk : k ≤ f
    · rw [h f hk, ih hk]
    · rw [Nat.le_antisymm hf (Nat.lt_of_not_le hk)]

theorem dispatchArgs_fuel : ∀ (f : Nat) (gs : GS) (n : Node), nodeSize n ≤ f →
    dispatchArgs (f + 1) gs n = dispatchArgs f gs n
  | 0, _, n, h => absurd (Nat.le_trans (nodeSize_pos n) h) (Nat.not_succ_le_zero _)
  | f + 1, gs, .nil, _ => by rw [dispatchArgs_nil, dispatchArgs_nil]
  | f + 1, gs, .mk t tok file line l r, h => by
    obtain ⟨hl, hr⟩ : nodeSize l ≤ f ∧ nodeSize r ≤ f := by simp only [nodeSize] at h; omega
    rw [dispatchArgs_succ, dispatchArgs_succ, dispatchArgs_fuel f gs l hl, dispatchArgs_fuel f _ r hr]

/-- (`dispatchCallArgs` hands an argument that is no list on to `dispatchValue` as it is, with one
    unit of fuel less, so it needs one unit more than the size of its tree; a CALL node has that
    unit to spare, for its name node) -/
theorem dispatchValues_fuel : ∀ f : Nat,
    (∀ gs n tgt, nodeSize n ≤ f → dispatchValue (f + 1) gs n tgt = dispatchValue f gs n tgt) ∧
    (∀ gs n acc, nodeSize n + 1 ≤ f → dispatchCallArgs (f + 1) gs n acc = dispatchCallArgs f gs n acc)
  | 0 => ⟨fun _ n _ h => absurd (Nat.le_trans (nodeSize_pos n) h) (Nat.not_succ_le_zero _),
          fun _ _ _ h => absurd h (Nat.not_succ_le_zero _)⟩
  | f + 1 => by
    have ih := dispatchValues_fuel f
    refine ⟨fun gs n tgt h => ?_, fun gs n acc h => ?_⟩
    · cases n with
      | nil => rw [dispatchValue_nil, dispatchValue_nil]
      | mk t tok file line l r =>
        have hr : nodeSize r + 1 ≤ f := by have := nodeSize_pos l; simp only [nodeSize] at h; omega
        rw [dispatchValue_succ, dispatchValue_succ, ih.2 _ r [] hr]
    · cases n with
      | nil => rw [dispatchCallArgs_nil, dispatchCallArgs_nil]
      | mk t tok file line l r =>
        have hl : nodeSize l + 1 ≤ f := by have := nodeSize_pos r; simp only [nodeSize] at h; omega
        have hr : nodeSize r + 1 ≤ f := by have := nodeSize_pos l; simp only [nodeSize] at h; omega
        rw [dispatchCallArgs_succ, dispatchCallArgs_succ, ih.2 gs l acc hl, ih.2 _ r _ hr,
          ih.1 _ _ _ (Nat.le_of_succ_le_succ h)]

theorem dispatchVoid_fuel : ∀ (f : Nat) (gs : GS) (n : Node), nodeSize n ≤ f →
    dispatchVoid (f + 1) gs n = dispatchVoid f gs n
  | 0, _, n, h => absurd (Nat.le_trans (nodeSize_pos n) h) (Nat.not_succ_le_zero _)
  | f + 1, gs, .nil, _ => by rw [dispatchVoid_nil, dispatchVoid_nil]
  | f + 1, gs, .mk t tok file line l r, h => by
    obtain ⟨hl, hr⟩ : nodeSize l ≤ f ∧ nodeSize r ≤ f := by simp only [nodeSize] at h; omega
    have hv := (dispatchValues_fuel f).1
    have hll := Nat.le_trans (nodeSize_left_le l) hl
    have hlr := Nat.le_trans (nodeSize_right_le l) hl
    rw [dispatchVoid_succ, dispatchVoid_succ]
    dsimp only
    rw [dispatchVoid_fuel f _ l hl, dispatchVoid_fuel f _ r hr,
      dispatchArgs_fuel f _ _ (Nat.le_trans (nodeSize_left_le _) hlr), dispatchVoid_fuel f _ r hr,
      hv _ r _ hr, hv _ l _ hl, dispatchVoid_fuel f _ r hr, hv _ l _ hl, dispatchVoid_fuel f _ r hr,
      hv _ l.left _ hll, hv _ l.right _ hlr]

def genArgs (gs : GS) (n : Node) : GS := dispatchArgs (nodeSize n) gs n
def genV (gs : GS) (n : Node) (tgt : Int) : GS := dispatchValue (nodeSize n) gs n tgt
def genCA (gs : GS) (n : Node) (acc : List Int) : GS × List Int := dispatchCallArgs (nodeSize n + 1) gs n acc
def genS (gs : GS) (n : Node) : GS := dispatchVoid (nodeSize n) gs n

section
variable {f : Nat} {gs : GS} {n : Node}

theorem dispatchArgs_eq (h : nodeSize n ≤ f) : dispatchArgs f gs n = genArgs gs n :=
  fuel_stable (F := fun f => dispatchArgs f gs n) (fun f hf => dispatchArgs_fuel f gs n hf) f h
theorem dispatchValue_eq {tgt : Int} (h : nodeSize n ≤ f) : dispatchValue f gs n tgt = genV gs n tgt :=
  fuel_stable (F := fun f => dispatchValue f gs n tgt) (fun f hf => (dispatchValues_fuel f).1 gs n tgt hf) f h
theorem dispatchCallArgs_eq {acc : List Int} (h : nodeSize n + 1 ≤ f) : dispatchCallArgs f gs n acc = genCA gs n acc :=
  fuel_stable (F := fun f => dispatchCallArgs f gs n acc) (fun f hf => (dispatchValues_fuel f).2 gs n acc hf) f h
theorem dispatchVoid_eq (h : nodeSize n ≤ f) : dispatchVoid f gs n = genS gs n :=
  fuel_stable (F := fun f => dispatchVoid f gs n) (fun f hf => dispatchVoid_fuel f gs n hf) f h

end

theorem genArgs_nil (gs : GS) : genArgs gs .nil = gs := dispatchArgs_nil _ gs
theorem genV_nil (gs : GS) (tgt : Int) : genV gs .nil tgt = gs := dispatchValue_nil _ gs tgt
theorem genCA_nil (gs : GS) (acc : List Int) : genCA gs .nil acc = (gs, acc) := dispatchCallArgs_nil _ gs acc
theorem genS_nil (gs : GS) : genS gs .nil = gs := dispatchVoid_nil _ gs

def bumpArg (gs : GS) : GS := { gs with symbols := { gs.top with argnum := gs.top.argnum + 1 } :: gs.symbols.drop 1 }

/-- what `dispatchArgs` does at one parameter of a definition -/
def argStep (gs : GS) (x : Bytes) : GS :=
  ((bumpArg (if (findReg gs.top.regs x 0).isSome then gs.err GErrT.INTERNAL_ERROR else gs)).fetchVar x).1

section
variable (gs : GS) (t : Nat) (tok file : Bytes) (line : Int) (l r : Node)

theorem genArgs_mk : genArgs gs (.mk t tok file line l r) =
    if t = NodeT.SPLIT then genArgs (genArgs gs l) r else argStep gs tok := by
  have hl : nodeSize l ≤ nodeSize l + nodeSize r := Nat.le_add_right _ _
  have hr : nodeSize r ≤ nodeSize l + nodeSize r := Nat.le_add_left _ _
  rw [genArgs, nodeSize, dispatchArgs_succ, dispatchArgs_eq hl, dispatchArgs_eq hr]
  rfl

theorem genV_mk (tgt : Int) : genV gs (.mk t tok file line l r) tgt =
    if t = NodeT.NAME then
      ((gs.advanceLine line file).fetchVar tok).1.emit (.add tgt ((gs.advanceLine line file).fetchVar tok).2 0)
    else if t = NodeT.NUMBER then
      (genStrToInt (gs.advanceLine line file) tok).1.emit (.const tgt (genStrToInt (gs.advanceLine line file) tok).2)
    else if t = NodeT.CALL then
      callTail (genCA (gs.advanceLine line file) r []).1 (genCA (gs.advanceLine line file) r []).2 l r tgt
    else (gs.advanceLine line file).err GErrT.MALFORMED_AST := by
  have hr : nodeSize r + 1 ≤ nodeSize l + nodeSize r := by have := nodeSize_pos l; omega
  rw [genV, nodeSize, dispatchValue_succ, dispatchCallArgs_eq hr]

theorem genCA_mk (acc : List Int) : genCA gs (.mk t tok file line l r) acc =
    if t = NodeT.SPLIT then genCA (genCA gs l acc).1 r (genCA gs l acc).2
    else (genV gs.fetchTemporary.1 (.mk t tok file line l r) gs.fetchTemporary.2, acc ++ [gs.fetchTemporary.2]) := by
  have hl : nodeSize l + 1 ≤ nodeSize l + nodeSize r + 1 := by omega
  have hr : nodeSize r + 1 ≤ nodeSize l + nodeSize r + 1 := by omega
  rw [genCA, nodeSize, dispatchCallArgs_succ, dispatchCallArgs_eq hl, dispatchCallArgs_eq hr]
  rfl

theorem genS_mk : genS gs (.mk t tok file line l r) =
    let gs0 := gs.advanceLine line file
    if t = NodeT.SPLIT then genS (genS gs0 l) r
    else if t = NodeT.PROGRAM then
      let p := progPre gs0 l.left.tok
      let g := genArgs p.1 l.right.left
      progPost (genS g r) (outNameOf l.right.right) g.nextPos p.2
    else if t = NodeT.ASSIGN then genV (gs0.fetchVar l.tok).1 r (gs0.fetchVar l.tok).2
    else if t = NodeT.LOOP then
      let p := loopPre gs0
      let m := loopMid (genV p.1 l p.2) p.2
      loopPost (genS m.1 r) p.2 m.2.1 m.2.2
    else if t = NodeT.WHILE then
      let p := whilePre gs0
      let g := (genV p.1 l p.2.2.2).emitBackpatched (.jmpc p.2.2.1 p.2.2.2)
      whilePost (genS g r) p.2.1 p.2.2.1 p.2.2.2
    else if t = NodeT.MARK then
      (gs0.markLabel l.tok).1.setLabel (gs0.markLabel l.tok).2 (gs0.markLabel l.tok).1.markPos
    else if t = NodeT.GOTO then
      (gs0.markLabel l.tok).1.emitBackpatched (.jmp (gs0.markLabel l.tok).2)
    else if t = NodeT.IF then
      let p := ifPre gs0
      ifPost (genV (genV p.1 l.left p.2.2.1) l.right p.2.2.2) p.2.1 p.2.2.1 p.2.2.2 r.left.tok
    else if t = NodeT.STOP then gs0.emit .halt
    else gs0.err GErrT.MALFORMED_AST := by
  have hl : nodeSize l ≤ nodeSize l + nodeSize r := Nat.le_add_right _ _
  have hr : nodeSize r ≤ nodeSize l + nodeSize r := Nat.le_add_left _ _
  have hll := Nat.le_trans (nodeSize_left_le l) hl
  have hlr := Nat.le_trans (nodeSize_right_le l) hl
  rw [genS, nodeSize, dispatchVoid_succ]
  simp only [dispatchVoid_eq hl, dispatchVoid_eq hr, dispatchArgs_eq (Nat.le_trans (nodeSize_left_le _) hlr),
    dispatchValue_eq hr, dispatchValue_eq hl, dispatchValue_eq hll, dispatchValue_eq hlr]

end

theorem genArgs_fold : ∀ (n : Node) (gs : GS), genArgs gs n = (namesOf n).foldl argStep gs
  | .nil, gs => genArgs_nil gs
  | .mk t tok file line l r, gs => by
    rw [genArgs_mk, namesOf]
    split
    · rw [List.foldl_append, ← genArgs_fold l, ← genArgs_fold r]
    · rfl

end Static

def genState (a : AST) : GS :=
  let gs : GS := {}
  let gs := gs.emit (.prepare (-1) (-1) 0)
  let gs := gs.pushSymbols bRoot
  let gs :=
    if !a.ok then
      { gs with errors := gs.errors ++ a.errs.map (fun e => ⟨GErrT.PARSE_ERROR, e.file, e.line⟩) }
    else dispatchVoid (nodeSize a.root + 1) gs a.root
  let gs := gs.popSymbols 0
  let gs :=
    match gs.lookupFunc bRoot, gs.code with
    | some p, .prepare _ _ t :: rest => { gs with code := .prepare p.stackSize p.mi t :: rest }
    | _, _ => gs
  let gs := gs.emit .halt
  backpatch gs

theorem gen_eq (a : AST) :
    gen a = ⟨(genState a).errors.isEmpty, (genState a).errors,
      ⟨(genState a).code, (genState a).stackMaps, (genState a).potBreaks, (genState a).lineInfo⟩, []⟩ :=
  rfl

namespace GS

theorem advanceLine_std (gs : GS) (line : Int) (file : Bytes) (h : file = ConstGen.genStdFileName) :
    gs.advanceLine line file = gs := by
  unfold GS.advanceLine; rw [if_pos h]

theorem advanceLine_same (gs : GS) (line : Int) (file : Bytes) (hf : file = gs.fsName) (hl : line = gs.fsLine) :
    gs.advanceLine line file = gs := by
  subst hf; subst hl
  unfold GS.advanceLine
  split
  · rfl
  · simp

theorem advanceLine_move (gs : GS) (line : Int) (file : Bytes) (hs : file ≠ ConstGen.genStdFileName)
    (hm : ¬ (file = gs.fsName ∧ line = gs.fsLine)) :
    gs.advanceLine line file = ({ gs with fsName := file, fsLine := line } : GS).breakpoint := by
  unfold GS.advanceLine
  rw [if_neg hs]
  dsimp only
  by_cases hf : gs.fsName = file
  · have hl : line ≠ gs.fsLine := fun h => hm ⟨hf.symm, h⟩
    have hc : gs.fsName = file ∧ line ≠ gs.fsLine := ⟨hf, hl⟩
    simp only [if_pos hc]
    have : ¬ (({ gs with fsLine := line } : GS).breakpoint.fsName ≠ file) := by
      show ¬ (gs.fsName ≠ file); simp [hf]
    rw [if_neg this]
    subst hf
    rfl
  · have hc : ¬ (gs.fsName = file ∧ line ≠ gs.fsLine) := fun h => hf h.1
    simp only [if_neg hc]
    rw [if_pos hf]

theorem advanceLine_cases (gs : GS) (line : Int) (file : Bytes) :
    gs.advanceLine line file = gs ∨ (file ≠ ConstGen.genStdFileName ∧
      gs.advanceLine line file = ({ gs with fsName := file, fsLine := line } : GS).breakpoint) := by
  by_cases hs : file = ConstGen.genStdFileName
  · exact .inl (advanceLine_std gs line file hs)
  · by_cases hm : file = gs.fsName ∧ line = gs.fsLine
    · exact .inl (advanceLine_same gs line file hm.1 hm.2)
    · exact .inr ⟨hs, advanceLine_move gs line file hs hm⟩

/-- the errors `popSymbols` records: one for each mark of the frame whose label has no position -/
def unsetMarks (gs : GS) : List GErr :=
  (gs.top.marks.filter (fun e => (gs.labels[e.2]?).getD (-1) = -1)).map
    (fun _ => ⟨GErrT.UNKNOWN_MARK, gs.fsName, gs.fsLine⟩)

theorem popFold_eq (marks : List (Bytes × Nat)) : ∀ (g : GS),
    marks.foldl (fun g e => if (g.labels[e.2]?).getD (-1) = -1 then g.err GErrT.UNKNOWN_MARK else g) g =
      { g with errors := g.errors ++
          (marks.filter (fun e => (g.labels[e.2]?).getD (-1) = -1)).map (fun _ => ⟨GErrT.UNKNOWN_MARK, g.fsName, g.fsLine⟩) } := by
  induction marks with
  | nil => intro g; simp
  | cons e es ih =>
    intro g
    rw [List.foldl_cons, ih]
    by_cases h : (g.labels[e.2]?).getD (-1) = -1
    · simp [h, err, List.append_assoc]
    · simp [h]

theorem popSymbols_eq (gs : GS) (addr : Int) : gs.popSymbols addr =
    { gs with
      errors := gs.errors ++ gs.unsetMarks
      stackMaps := gs.stackMaps ++
        [⟨gs.top.name, (gs.top.regs.zipIdx.filter (fun p => !p.1.isTemp)).map (fun p => ((p.2 : Int), p.1.name))⟩]
      funcAddrs := (gs.top.name, ⟨addr, (gs.stackMaps.length : Int), gs.top.argnum, gs.top.regs.length⟩) ::
        gs.funcAddrs.filter (fun e => e.1 ≠ gs.top.name)
      symbols := gs.symbols.drop 1 } := by
  unfold popSymbols unsetMarks
  dsimp only
  rw [popFold_eq]
  simp

end GS

namespace Loc

def NodeP (P : Bytes → Int → Prop) : Node → Prop
  | .nil => True
  | .mk _ _ f l a b => P f l ∧ NodeP P a ∧ NodeP P b

theorem NodeP.left {P : Bytes → Int → Prop} {n : Node} (h : NodeP P n) : NodeP P n.left := by
  cases n with
  | nil => trivial
  | mk _ _ _ _ a b => exact h.2.1

theorem NodeP.right {P : Bytes → Int → Prop} {n : Node} (h : NodeP P n) : NodeP P n.right := by
  cases n with
  | nil => trivial
  | mk _ _ _ _ a b => exact h.2.2

/-- `A` holds of the positions the generator looks at when it evaluates `n` as a value (`args = false`)
    or as an argument list (`args = true`: the SPLIT nodes of the list are passed over, and so is the
    name node of a CALL) -/
def ValP (A : Bytes → Int → Prop) : Bool → Node → Prop
  | _, .nil => True
  | args, .mk t _ f ln l r =>
    if args = true ∧ t = NodeT.SPLIT then ValP A true l ∧ ValP A true r
    else A f ln ∧ (t = NodeT.CALL → ValP A true r)

theorem NodeP.valP {A : Bytes → Int → Prop} : ∀ {n : Node} (args : Bool), NodeP A n → ValP A args n
  | .nil, _, _ => by rw [ValP]; trivial
  | .mk t _ f ln l r, args, h => by
    rw [ValP]
    split
    · exact ⟨h.2.1.valP true, h.2.2.valP true⟩
    · exact ⟨h.1, fun _ => h.2.2.valP true⟩

end Loc

/-- what the generator hands to `emit`: neither a breakpoint site nor a jump (sites come from
    `breakpoint`, jumps from `emitBackpatched`) -/
def Instr.straight : Instr → Bool
  | .potBreak | .brk | .jmp _ | .jmpc _ _ => false
  | _ => true

/-- `I` is preserved by the primitive steps of the generator that evaluating a value takes; `A`
    holds of the positions at which `advanceLine` may be called (the positions of the tree's
    nodes) -/
structure ValInv (A : Bytes → Int → Prop) (I : GS → Prop) : Prop where
  /-- `I` does not look at the symbol tables, the labels, the loop count, the stack maps or the
      routine table -/
  aux : ∀ {gs : GS} (sy la lo sm fa), I gs →
    I { gs with symbols := sy, labels := la, loops := lo, stackMaps := sm, funcAddrs := fa }
  err : ∀ {gs : GS} (k : Nat), I gs → I (gs.err k)
  emit : ∀ {gs : GS} {i : Instr}, i.straight = true → I gs → I (gs.emit i)
  advanceLine : ∀ {gs : GS} {line : Int} {file : Bytes}, A file line → I gs → I (gs.advanceLine line file)

/-- … by those a statement takes in addition … -/
structure StmtInv (A : Bytes → Int → Prop) (I : GS → Prop) : Prop extends ValInv A I where
  emitBackpatched : ∀ {gs : GS} {i : Instr}, i ≠ .potBreak → i ≠ .brk → I gs → I (gs.emitBackpatched i)

/-- … and by the one step that takes code back (in front of a definition) -/
structure GenInv (A : Bytes → Int → Prop) (I : GS → Prop) : Prop extends StmtInv A I where
  removeTopPotBreak : ∀ {gs : GS}, I gs → I gs.removeTopPotBreak

namespace ValInv
open GS Static Loc
variable {A : Bytes → Int → Prop} {I : GS → Prop} (h : ValInv A I) {gs : GS}
include h

theorem setTop (hg : I gs) (f : FGS) : I (gs.setTop f) := h.aux _ _ _ _ _ hg
theorem pushSymbols (hg : I gs) (n : Bytes) : I (gs.pushSymbols n) := h.aux _ _ _ _ _ hg
theorem releaseTemporary (hg : I gs) (i : Int) : I (gs.releaseTemporary i) := h.setTop hg _
theorem createLabel (hg : I gs) : I gs.createLabel.1 := h.aux _ _ _ _ _ hg
theorem setLabel (hg : I gs) (l : Nat) (p : Int) : I (gs.setLabel l p) := h.aux _ _ _ _ _ hg

theorem ifErr (hg : I gs) (c : Prop) [Decidable c] (k : Nat) : I (if c then gs.err k else gs) := by
  split
  · exact h.err k hg
  · exact hg

theorem fetchTemporary (hg : I gs) : I gs.fetchTemporary.1 := by
  unfold GS.fetchTemporary
  dsimp only
  split <;> exact h.setTop hg _

theorem fetchVar (hg : I gs) (n : Bytes) : I (gs.fetchVar n).1 := by
  unfold GS.fetchVar
  dsimp only
  split
  · exact hg
  · exact h.setTop hg _

theorem markLabel (hg : I gs) (n : Bytes) : I (gs.markLabel n).1 := by
  unfold GS.markLabel
  split
  · exact hg
  · exact h.setTop (h.createLabel hg) _

theorem genStrToInt (hg : I gs) (tok : Bytes) : I (genStrToInt gs tok).1 := h.ifErr hg _ _

theorem popSymbols (hg : I gs) (addr : Int) : I (gs.popSymbols addr) := by
  unfold GS.popSymbols
  exact h.aux _ _ _ _ _ (foldl_preserves (I := I) _ (fun _ _ hg' => h.ifErr hg' _ _) _ _ hg)

theorem argFold (l : List (Int × Nat)) (hg : I gs) :
    I (l.foldl (fun g a => (g.emit (.arg a.2 a.1)).releaseTemporary a.1) gs) :=
  foldl_preserves (I := I) _ (fun _ _ hg' => h.releaseTemporary (h.emit rfl hg') _) l gs hg

theorem callTail (hg : I gs) (al : List Int) (l r : Node) (tgt : Int) : I (callTail gs al l r tgt) := by
  unfold Static.callTail
  dsimp only
  split
  · split <;> exact h.emit rfl hg
  · split
    · exact h.err _ hg
    · split
      · exact h.err _ hg
      · exact h.emit rfl (h.argFold _ (h.emit rfl hg))

theorem dispatchArgs : ∀ (f : Nat) (gs : GS) (n : Node), I gs → I (dispatchArgs f gs n)
  | 0, gs, n, hg => by rw [dispatchArgs_zero]; exact hg
  | f + 1, gs, .nil, hg => by rw [dispatchArgs_nil]; exact hg
  | f + 1, gs, .mk t tok file line l r, hg => by
    rw [dispatchArgs_succ]
    split
    · exact dispatchArgs f _ r (dispatchArgs f gs l hg)
    · exact h.fetchVar (h.aux _ _ _ _ _ (h.ifErr hg _ _)) tok

theorem values : ∀ f : Nat,
    (∀ (gs : GS) (n : Node) (tgt : Int), ValP A false n → I gs → I (dispatchValue f gs n tgt)) ∧
    (∀ (gs : GS) (n : Node) (acc : List Int), ValP A true n → I gs → I (dispatchCallArgs f gs n acc).1)
  | 0 => ⟨fun gs n tgt _ hg => by rw [dispatchValue_zero]; exact hg,
          fun gs n acc _ hg => by rw [dispatchCallArgs_zero]; exact hg⟩
  | f + 1 => by
    have ih := values f
    refine ⟨fun gs n tgt hn hg => ?_, fun gs n acc hn hg => ?_⟩
    · cases n with
      | nil => rw [dispatchValue_nil]; exact hg
      | mk t tok file line l r =>
        rw [ValP, if_neg (fun h => Bool.noConfusion h.1)] at hn
        have h0 := h.advanceLine hn.1 hg
        rw [dispatchValue_succ]
        split
        · exact h.emit rfl (h.fetchVar h0 _)
        split
        · exact h.emit rfl (h.genStrToInt h0 _)
        split
        · next hc => exact h.callTail (ih.2 _ _ _ (hn.2 hc) h0) _ _ _ _
        · exact h.err _ h0
    · cases n with
      | nil => rw [dispatchCallArgs_nil]; exact hg
      | mk t tok file line l r =>
        rw [dispatchCallArgs_succ]
        split
        · next hs =>
          rw [ValP, if_pos ⟨rfl, hs⟩] at hn
          exact ih.2 _ _ _ hn.2 (ih.2 _ _ _ hn.1 hg)
        · next hs =>
          -- an argument that is not a list is looked at as a value
          have hv : ValP A false (.mk t tok file line l r) := by
            rw [ValP, if_neg (fun h => hs h.2)] at hn
            rw [ValP, if_neg (fun h => hs h.2)]
            exact hn
          exact ih.1 _ _ _ hv (h.fetchTemporary hg)

theorem dispatchValue (hg : I gs) (f : Nat) {n : Node} (hn : NodeP A n) (tgt : Int) :
    I (dispatchValue f gs n tgt) := (h.values f).1 gs n tgt (hn.valP false) hg

theorem genArgs (hg : I gs) (n : Node) : I (Static.genArgs gs n) := h.dispatchArgs _ gs n hg

theorem genV (hg : I gs) {n : Node} (hn : NodeP A n) (tgt : Int) : I (Static.genV gs n tgt) :=
  h.dispatchValue hg _ hn tgt

end ValInv

namespace StmtInv
open GS Static Loc
variable {A : Bytes → Int → Prop} {I : GS → Prop} (h : StmtInv A I) {gs : GS}
include h

theorem progPreTail (hg : I gs.removeTopPotBreak) (nameTok : Bytes) : I (progPre gs nameTok).1 :=
  h.pushSymbols (h.emitBackpatched (by nofun) (by nofun) (h.createLabel hg)) _

theorem progPost (hg : I gs) (outName : Bytes) (entry : Int) (after : Nat) :
    I (progPost gs outName entry after) :=
  h.setLabel (h.popSymbols (h.emit rfl (h.fetchVar hg _)) _) _ _

theorem loopPre (hg : I gs) : I (loopPre gs).1 :=
  h.fetchVar (gs := { gs with loops := gs.loops + 1 }) (h.aux _ _ _ _ _ hg) _

theorem loopMid (hg : I gs) (counter : Int) : I (loopMid gs counter).1 :=
  h.emitBackpatched (by nofun) (by nofun) (h.setLabel (h.createLabel (h.createLabel hg)) _ _)

theorem loopPost (hg : I gs) (counter : Int) (startL endL : Nat) : I (loopPost gs counter startL endL) :=
  h.setLabel (h.emitBackpatched (by nofun) (by nofun) (h.emit rfl hg)) _ _

theorem whilePre (hg : I gs) : I (whilePre gs).1 :=
  h.setLabel (h.fetchTemporary (h.createLabel (h.createLabel hg))) _ _

theorem whilePost (hg : I gs) (startL endL : Nat) (cond : Int) : I (whilePost gs startL endL cond) :=
  h.releaseTemporary (h.setLabel (h.emitBackpatched (by nofun) (by nofun) hg) _ _) _

theorem ifPre (hg : I gs) : I (ifPre gs).1 :=
  h.fetchTemporary (h.fetchTemporary (h.fetchTemporary hg))

theorem ifPost (hg : I gs) (cond op1 op2 : Int) (m : Bytes) : I (ifPost gs cond op1 op2 m) :=
  h.releaseTemporary (h.releaseTemporary (h.releaseTemporary
    (h.emitBackpatched (by nofun) (by nofun) (h.markLabel (h.emit rfl hg) _)) _) _) _

end StmtInv

namespace GenInv
open GS Static Loc
variable {A : Bytes → Int → Prop} {I : GS → Prop} (h : GenInv A I) {gs : GS}
include h

theorem progPre (hg : I gs) (nameTok : Bytes) : I (progPre gs nameTok).1 :=
  h.progPreTail (h.removeTopPotBreak hg) _

theorem dispatchVoid : ∀ (f : Nat) (gs : GS) (n : Node), NodeP A n → I gs → I (dispatchVoid f gs n)
  | 0, gs, n, _, hg => by rw [dispatchVoid_zero]; exact hg
  | f + 1, gs, .nil, _, hg => by rw [dispatchVoid_nil]; exact hg
  | f + 1, gs, .mk t tok file line l r, hn, hg => by
    have h0 := h.advanceLine hn.1 hg
    have ih := dispatchVoid f
    have hv := fun gs n tgt (hn : NodeP A n) hg => (h.toValInv.values f).1 gs n tgt (hn.valP false) hg
    rw [dispatchVoid_succ]
    generalize gs.advanceLine line file = gs0 at h0 ⊢
    dsimp only
    by_cases h1 : t = NodeT.SPLIT
    · rw [if_pos h1]; exact ih _ _ hn.2.2 (ih _ _ hn.2.1 h0)
    rw [if_neg h1]
    by_cases h2 : t = NodeT.PROGRAM
    · rw [if_pos h2]; exact h.progPost (ih _ _ hn.2.2 (h.dispatchArgs f _ _ (h.progPre h0 _))) _ _ _
    rw [if_neg h2]
    by_cases h3 : t = NodeT.ASSIGN
    · rw [if_pos h3]; exact hv _ _ _ hn.2.2 (h.fetchVar h0 _)
    rw [if_neg h3]
    by_cases h4 : t = NodeT.LOOP
    · rw [if_pos h4]; exact h.loopPost (ih _ _ hn.2.2 (h.loopMid (hv _ _ _ hn.2.1 (h.loopPre h0)) _)) _ _ _
    rw [if_neg h4]
    by_cases h5 : t = NodeT.WHILE
    · rw [if_pos h5]; exact h.whilePost (ih _ _ hn.2.2 (h.emitBackpatched (by nofun) (by nofun)
        (hv _ _ _ hn.2.1 (h.whilePre h0)))) _ _ _
    rw [if_neg h5]
    by_cases h6 : t = NodeT.MARK
    · rw [if_pos h6]; exact h.setLabel (h.markLabel h0 _) _ _
    rw [if_neg h6]
    by_cases h7 : t = NodeT.GOTO
    · rw [if_pos h7]; exact h.emitBackpatched (by nofun) (by nofun) (h.markLabel h0 _)
    rw [if_neg h7]
    by_cases h8 : t = NodeT.IF
    · rw [if_pos h8]; exact h.ifPost (hv _ _ _ hn.2.1.right (hv _ _ _ hn.2.1.left (h.ifPre h0))) _ _ _ _
    rw [if_neg h8]
    by_cases h9 : t = NodeT.STOP
    · rw [if_pos h9]; exact h.emit rfl h0
    rw [if_neg h9]
    exact h.err _ h0

theorem genS (hg : I gs) {n : Node} (hn : NodeP A n) : I (Static.genS gs n) := h.dispatchVoid _ gs n hn hg

/-! `backpatch` and the patch of the root `PREPARE` overwrite instructions in place and clear the
    to-do list: two more closure conditions give the invariant for the final state. -/

section Final
variable
  (setCode : ∀ {g : GS} {loc : Nat} {old new : Instr}, g.code[loc]? = some old →
    old ≠ .potBreak → new ≠ .potBreak → new ≠ .brk → I g → I { g with code := g.code.set loc new })
  (clearTodo : ∀ {g : GS}, I g → I { g with todo := [] })
include setCode

theorem backpatchOne (hg : I gs) (loc : Nat) : I (backpatchOne gs loc) := by
  unfold Theo.backpatchOne
  split
  · next lab heq =>
    dsimp only
    refine setCode (old := .jmp lab) ?_ (by nofun) (by nofun) (by nofun) (h.ifErr hg _ _)
    split <;> exact heq
  · next lab s heq =>
    dsimp only
    refine setCode (old := .jmpc lab s) ?_ (by nofun) (by nofun) (by nofun) (h.ifErr hg _ _)
    split <;> exact heq
  · exact h.err _ hg

omit h in
theorem patchRoot (hg : I gs) :
    I (match gs.lookupFunc bRoot, gs.code with
      | some p, .prepare _ _ t :: rest => { gs with code := .prepare p.stackSize p.mi t :: rest }
      | _, _ => gs) := by
  split
  · next p c i t rest _ hcode =>
    have := setCode (loc := 0) (new := .prepare p.stackSize p.mi t) (by rw [hcode]; rfl)
      (by nofun) (by nofun) (by nofun) hg
    rw [hcode] at this
    exact this
  · exact hg

include clearTodo

theorem backpatch (hg : I gs) : I (backpatch gs) :=
  foldl_preserves (I := I) _ (fun _ x hg' => h.backpatchOne setCode hg' x) _ _ (clearTodo hg)

theorem genState (a : AST)
    (hinit : a.ok = true → I ((({} : GS).emit (.prepare (-1) (-1) 0)).pushSymbols bRoot))
    -- (`gen` appends the parse errors to the errors of the initial state, which are `[]`)
    (hbad : a.ok = false → I { (({} : GS).emit (.prepare (-1) (-1) 0)).pushSymbols bRoot with
      errors := a.errs.map (fun e => ⟨GErrT.PARSE_ERROR, e.file, e.line⟩) })
    (hn : a.ok = true → NodeP A a.root) : I (genState a) := by
  unfold Theo.genState
  refine h.backpatch setCode clearTodo (h.emit rfl (patchRoot setCode (h.popSymbols ?_ _)))
  cases hok : a.ok with
  | false => exact hbad hok
  | true => exact h.dispatchVoid _ _ _ (hn hok) (hinit hok)

end Final

end GenInv

theorem GS.breakpoint_errors (gs : GS) : gs.breakpoint.errors = gs.errors := rfl

theorem GS.advanceLine_errors (gs : GS) (line : Int) (file : Bytes) :
    (gs.advanceLine line file).errors = gs.errors := by
  unfold GS.advanceLine
  by_cases h0 : file = ConstGen.genStdFileName
  · rw [if_pos h0]
  · rw [if_neg h0]
    by_cases h1 : gs.fsName = file ∧ line ≠ gs.fsLine
    · rw [if_pos h1]; dsimp only; split <;> rfl
    · rw [if_neg h1]; dsimp only; split <;> rfl

theorem GS.removeTopPotBreak_errors (g : GS) : g.removeTopPotBreak.errors = g.errors := by
  unfold GS.removeTopPotBreak
  split
  · dsimp only
    split <;> rfl
  · rfl

theorem errorsKept (es : List GErr) : GenInv (fun _ _ => True) (fun g => es <+: g.errors) where
  aux _ _ _ _ _ h := h
  err _ h := h.trans (List.prefix_append _ _)
  emit _ h := h
  emitBackpatched _ _ h := h
  advanceLine _ h := by rw [GS.advanceLine_errors]; exact h
  removeTopPotBreak h := by rw [GS.removeTopPotBreak_errors]; exact h

theorem gen_errors_prefix (a : AST) (h : a.ok = false) :
    a.errs.map (fun e => (⟨GErrT.PARSE_ERROR, e.file, e.line⟩ : GErr)) <+: (gen a).errors := by
  have hok {p : Prop} (h' : a.ok = true) : p := by rw [h] at h'; cases h'
  rw [gen_eq]
  exact (errorsKept _).genState (fun _ _ _ _ h => h) (fun h => h) a hok (fun _ => List.prefix_refl _) hok

theorem gen_errors_length (a : AST) (h : a.ok = false) : a.errs.length ≤ (gen a).errors.length := by
  simpa using (gen_errors_prefix a h).length_le

theorem gen_ok_eq (a : AST) : (gen a).ok = (gen a).errors.isEmpty := by rw [gen_eq]

theorem gen_not_ok (a : AST) (h : a.ok = false) (hne : a.errs ≠ []) : (gen a).ok = false := by
  rw [gen_ok_eq, List.isEmpty_eq_false_iff]
  intro he
  have h1 := gen_errors_length a h
  rw [he] at h1
  exact hne (List.eq_nil_of_length_eq_zero (Nat.le_zero.mp h1))

end Theo
