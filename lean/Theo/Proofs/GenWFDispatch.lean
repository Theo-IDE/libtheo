/-
  C03 for the generator: the body invariant `BInv` through the walk of a value, of the arguments of
  a call and of a statement list without program definitions (`genV`, `genCA`, `genS`); recorded
  errors do not matter.
-/
import Theo.Proofs.GenWFBody

namespace Theo
namespace GenWF
open GS Static
open GenShape (markLabel_regs advanceLine_symbols)

@[simp] theorem emitBackpatched_top (gs : GS) (i : Instr) : (gs.emitBackpatched i).top = gs.top := rfl
@[simp] theorem emitBackpatched_labels (gs : GS) (i : Instr) : (gs.emitBackpatched i).labels = gs.labels := rfl

theorem createLabel_lt (gs : GS) : gs.createLabel.2 < gs.createLabel.1.labels.length := by
  rw [createLabel_snd, createLabel_labels, List.length_append, List.length_singleton]
  exact Nat.lt_succ_self _

structure Frame (gs gs' : GS) : Prop where
  labels : gs'.labels = gs.labels
  todo : gs'.todo = gs.todo
  marks : gs'.top.marks = gs.top.marks
  sm : gs'.stackMaps = gs.stackMaps
  fa : gs'.funcAddrs = gs.funcAddrs
  outer : gs'.symbols.drop 1 = gs.symbols.drop 1

theorem argFold_spec (l : List (Int × Nat)) : ∀ gs : GS,
    (l.foldl (fun g a => (g.emit (.arg a.2 a.1)).releaseTemporary a.1) gs).code =
        gs.code ++ l.map (fun a => Instr.arg (a.2 : Int) a.1) ∧
    Frame gs (l.foldl (fun g a => (g.emit (.arg a.2 a.1)).releaseTemporary a.1) gs) ∧
    (l.foldl (fun g a => (g.emit (.arg a.2 a.1)).releaseTemporary a.1) gs).top.regs.length = gs.top.regs.length := by
  induction l with
  | nil => intro gs; exact ⟨(List.append_nil _).symm, ⟨rfl, rfl, rfl, rfl, rfl, rfl⟩, rfl⟩
  | cons a as ih =>
    intro gs
    obtain ⟨h1, h2, h3⟩ := ih ((gs.emit (.arg a.2 a.1)).releaseTemporary a.1)
    have r := releaseTemporary_regStep (gs.emit (.arg a.2 a.1)) a.1
    refine ⟨?_, ?_, ?_⟩
    · rw [List.foldl_cons, h1, r.code, emit_code, List.map_cons, List.append_assoc]
      rfl
    · exact ⟨h2.labels.trans r.labels, h2.todo.trans r.todo, h2.marks.trans r.marks, h2.sm.trans r.sm,
        h2.fa.trans r.fa, h2.outer.trans r.outer⟩
    · rw [List.foldl_cons, h3, releaseTemporary_regs]; rfl

theorem lookupFunc_mem {gs : GS} {nm : Bytes} {p : ProgRec} (h : gs.lookupFunc nm = some p) :
    ∃ e ∈ gs.funcAddrs, e.2 = p := by
  unfold lookupFunc at h
  cases hf : gs.funcAddrs.find? (fun e => e.1 = nm) with
  | none => rw [hf] at h; cases h
  | some e =>
    rw [hf] at h
    exact ⟨e, List.mem_of_find?_eq_some hf, Option.some.inj h⟩

section
variable {C : ProgRec → Prop} {g0 gs : GS}

theorem BInv.err (h : BInv C g0 gs) (k : Nat) : BInv C g0 (gs.err k) :=
  h.regStep ⟨rfl, rfl, rfl, rfl, rfl, rfl, rfl, Nat.le_refl _⟩

theorem BInv.callee {C : ProgRec → Prop} {g0 gs : GS} (h : BInv C g0 gs) {nm : Bytes} {p : ProgRec}
    (hl : gs.lookupFunc nm = some p) : C p := by
  obtain ⟨_, h⟩ := h
  obtain ⟨e, he, rfl⟩ := lookupFunc_mem hl
  exact h.cfa e (h.fa ▸ he)

theorem binv_callTail (h : BInv C g0 gs) (al : List Int) (l r : Node) (tgt : Int)
    (ht : RegIn tgt gs.top.regs.length) (ha : ∀ a ∈ al, RegIn a gs.top.regs.length) :
    BInv C g0 (callTail gs al l r tgt) ∧ (callTail gs al l r tgt).top.regs.length = gs.top.regs.length := by
  unfold callTail
  dsimp only
  by_cases hb : (l.tok = bINC ∨ l.tok = bDEC) ∧ al.length = 2 ∧ r.left.ty = NodeT.NAME ∧
      r.right.left.ty = NodeT.NUMBER
  · rw [if_pos hb]
    have h0 : 0 < al.length := hb.2.1 ▸ Nat.succ_pos 1
    have ha0 : RegIn ((al[0]?).getD 0) gs.top.regs.length := by
      rw [List.getElem?_eq_getElem h0]
      exact ha _ (List.getElem_mem _)
    by_cases hinc : l.tok = bINC
    · rw [if_pos hinc]; exact ⟨h.emit ⟨ht, ha0⟩ rfl, rfl⟩
    · rw [if_neg hinc]; exact ⟨h.emit ⟨ht, ha0⟩ rfl, rfl⟩
  · rw [if_neg hb]
    cases hl : gs.lookupFunc l.tok with
    | none => exact ⟨h.err _, rfl⟩
    | some p =>
      dsimp only
      by_cases hne : p.argnum ≠ al.length
      · rw [if_pos hne]; exact ⟨h.err _, rfl⟩
      · rw [if_neg hne]
        have hne' : al.length = p.argnum := (Decidable.of_not_not hne).symm
        obtain ⟨f1, f2, f3⟩ := argFold_spec al.zipIdx (gs.emit (.prepare p.stackSize p.mi tgt))
        generalize (al.zipIdx.foldl (fun g a => (g.emit (.arg a.2 a.1)).releaseTemporary a.1)
          (gs.emit (.prepare p.stackSize p.mi tgt))) = g at f1 f2 f3 ⊢
        have hregs : (g.emit (.exec p.ind)).top.regs.length = gs.top.regs.length := f3
        obtain ⟨seg, h'⟩ := h
        refine ⟨⟨_, h'.appendSeg (callSeg p tgt al) ?_ ?_ f2.labels f2.marks (fun x hx => f2.todo ▸ hx) ?_
          (Nat.le_of_eq hregs.symm) f2.sm f2.fa f2.outer⟩, hregs⟩
        · rw [emit_code, f1, emit_code, List.append_assoc, List.append_assoc]
          rfl
        · rw [hregs]
          exact (Groups.callOne (BInv.callee ⟨seg, h'⟩ hl) ht ha hne').mono (fun _ hp => hp) (Nat.le_refl _)
            (Nat.le_of_eq (congrArg List.length f2.labels).symm)
        · intro k i hk hj
          rw [(mem_callSeg (List.mem_of_getElem? hk)).2] at hj; cases hj

theorem binv_adv {g' : GS} (h : BInv C g0 gs) (line : Int) (file : Bytes)
    (hk : BInv C g0 (gs.advanceLine line file) →
      BInv C g0 g' ∧ (gs.advanceLine line file).top.regs.length ≤ g'.top.regs.length) :
    BInv C g0 g' ∧ gs.top.regs.length ≤ g'.top.regs.length :=
  top_congr (advanceLine_symbols gs line file) ▸ hk (h.advanceLine line file)

theorem binv_genStrToInt (h : BInv C g0 gs) (tok : Bytes) :
    BInv C g0 (genStrToInt gs tok).1 ∧ (genStrToInt gs tok).1.top = gs.top := by
  unfold genStrToInt
  dsimp only
  by_cases hb : genRangeBad (strtolNat tok) = true
  · rw [if_pos hb]; exact ⟨h.err _, rfl⟩
  · rw [if_neg hb]; exact ⟨h, rfl⟩

theorem bi_values (C : ProgRec → Prop) (g0 : GS) : ∀ n : Node,
    (∀ gs tgt, BInv C g0 gs → RegIn tgt gs.top.regs.length →
      BInv C g0 (genV gs n tgt) ∧ gs.top.regs.length ≤ (genV gs n tgt).top.regs.length) ∧
    (∀ gs acc, BInv C g0 gs → (∀ a ∈ acc, RegIn a gs.top.regs.length) →
      BInv C g0 (genCA gs n acc).1 ∧ gs.top.regs.length ≤ (genCA gs n acc).1.top.regs.length ∧
      ∀ a ∈ (genCA gs n acc).2, RegIn a (genCA gs n acc).1.top.regs.length) := by
  intro n
  induction n with
  | nil => exact ⟨fun gs tgt h _ => by rw [genV_nil]; exact ⟨h, Nat.le_refl _⟩,
      fun gs acc h ha => by rw [genCA_nil]; exact ⟨h, Nat.le_refl _, ha⟩⟩
  | mk t tok file line l r ihl ihr =>
    replace ihl := ihl.2
    replace ihr := ihr.2
    have hv : ∀ gs tgt, BInv C g0 gs → RegIn tgt gs.top.regs.length →
        BInv C g0 (genV gs (.mk t tok file line l r) tgt) ∧
        gs.top.regs.length ≤ (genV gs (.mk t tok file line l r) tgt).top.regs.length := by
      intro gs tgt h ht
      rw [genV_mk]
      refine binv_adv h line file fun hb0 => ?_
      have ht' : RegIn tgt (gs.advanceLine line file).top.regs.length := (top_congr (advanceLine_symbols gs line file)).symm ▸ ht
      generalize gs.advanceLine line file = gs0 at hb0 ht' ⊢
      by_cases h1 : t = NodeT.NAME
      · rw [if_pos h1]
        obtain ⟨r1, r2⟩ := fetchVar_regStep gs0 tok
        exact ⟨(hb0.regStep r1).emit ⟨ht'.mono r1.regs, r2⟩ rfl, r1.regs⟩
      rw [if_neg h1]
      by_cases h2 : t = NodeT.NUMBER
      · rw [if_pos h2]
        obtain ⟨n1, n2⟩ := binv_genStrToInt hb0 tok
        exact ⟨n1.emit (by rw [n2]; exact ht') rfl, by rw [emit_top, n2]; exact Nat.le_refl _⟩
      rw [if_neg h2]
      by_cases h3 : t = NodeT.CALL
      · rw [if_pos h3]
        obtain ⟨b1, b2, b3⟩ := ihr gs0 [] hb0 (fun a ha => by cases ha)
        obtain ⟨c1, c2⟩ := binv_callTail b1 _ l r tgt (ht'.mono b2) b3
        exact ⟨c1, by rw [c2]; exact b2⟩
      · rw [if_neg h3]
        exact ⟨hb0.err _, Nat.le_refl _⟩
    refine ⟨hv, fun gs acc h ha => ?_⟩
    rw [genCA_mk]
    by_cases h1 : t = NodeT.SPLIT
    · rw [if_pos h1]
      obtain ⟨b1, b2, b3⟩ := ihl gs acc h ha
      obtain ⟨c1, c2, c3⟩ := ihr _ _ b1 b3
      exact ⟨c1, Nat.le_trans b2 c2, c3⟩
    · rw [if_neg h1]
      obtain ⟨r1, r2⟩ := fetchTemporary_regStep gs
      obtain ⟨b1, b2⟩ := hv _ _ (h.regStep r1) r2
      refine ⟨b1, Nat.le_trans r1.regs b2, ?_⟩
      intro a hmem
      rcases List.mem_append.1 hmem with hmem | hmem
      · exact (ha a hmem).mono (Nat.le_trans r1.regs b2)
      · rw [List.mem_singleton.1 hmem]; exact r2.mono b2

theorem bi_value (h : BInv C g0 gs) (n : Node) (tgt : Int) (ht : RegIn tgt gs.top.regs.length) :
    BInv C g0 (genV gs n tgt) ∧ gs.top.regs.length ≤ (genV gs n tgt).top.regs.length :=
  (bi_values C g0 n).1 gs tgt h ht

theorem loopPre_regStep (gs0 : GS) :
    RegStep gs0 (loopPre gs0).1 ∧ RegIn (loopPre gs0).2 (loopPre gs0).1.top.regs.length :=
  have h1 : RegStep gs0 ({ gs0 with loops := gs0.loops + 1 } : GS) :=
    ⟨rfl, rfl, rfl, rfl, rfl, rfl, rfl, Nat.le_refl _⟩
  have r := fetchVar_regStep ({ gs0 with loops := gs0.loops + 1 } : GS)
    (bLoopVar ++ gs0.fsName ++ [58] ++ intDec gs0.fsLine ++ [91] ++ natDigits (gs0.loops + 1) ++ [93])
  ⟨h1.trans r.1, r.2⟩

theorem binv_loopMid {v : GS} (h : BInv C g0 v) (counter : Int)
    (hc : RegIn counter v.top.regs.length) :
    BInv C g0 (loopMid v counter).1 ∧ (loopMid v counter).1.top = v.top ∧
      g0.labels.length ≤ (loopMid v counter).2.1 ∧ (loopMid v counter).2.1 < (loopMid v counter).1.labels.length ∧
      g0.labels.length ≤ (loopMid v counter).2.2 := by
  have hl := h.lablen
  have h1 := h.createLabel
  have h3 := h1.createLabel.setLabelNext v.createLabel.2 hl
  have hlen : (loopMid v counter).1.labels.length = v.createLabel.1.createLabel.1.labels.length :=
    setLabel_lablen _ _ _
  refine ⟨h3.emitBackpatched ⟨⟨_, rfl, h1.lablen, ?_⟩, ?_⟩, rfl, hl, ?_, h1.lablen⟩
  · rw [setLabel_lablen]; exact createLabel_lt _
  · rw [setLabel_top, createLabel_top, createLabel_top]; exact hc
  · rw [hlen]; exact Nat.lt_trans (createLabel_lt v) (createLabel_lt _)

theorem binv_loopPost {b : GS} (h : BInv C g0 b) (counter : Int) (startL endL : Nat)
    (hc : RegIn counter b.top.regs.length) (hs1 : g0.labels.length ≤ startL) (hs2 : startL < b.labels.length)
    (he : g0.labels.length ≤ endL) :
    BInv C g0 (loopPost b counter startL endL) ∧ (loopPost b counter startL endL).top = b.top :=
  have h1 := h.emit (i := .add counter counter (-1)) ⟨hc, hc⟩ rfl
  have h2 := h1.emitBackpatched (i := .jmp startL) ⟨startL, rfl, hs1, hs2⟩
  ⟨h2.setLabelNext endL he, rfl⟩

theorem binv_whilePre {gs0 : GS} (h : BInv C g0 gs0) :
    BInv C g0 (whilePre gs0).1 ∧ gs0.top.regs.length ≤ (whilePre gs0).1.top.regs.length ∧
      RegIn (whilePre gs0).2.2.2 (whilePre gs0).1.top.regs.length ∧
      g0.labels.length ≤ (whilePre gs0).2.1 ∧ (whilePre gs0).2.1 < (whilePre gs0).1.labels.length ∧
      g0.labels.length ≤ (whilePre gs0).2.2.1 ∧ (whilePre gs0).2.2.1 < (whilePre gs0).1.labels.length := by
  have hl := h.lablen
  have h1 := h.createLabel
  obtain ⟨r1, r2⟩ := fetchTemporary_regStep gs0.createLabel.1.createLabel.1
  have h4 := (h1.createLabel.regStep r1).setLabelNext gs0.createLabel.2 hl
  have hlen : (whilePre gs0).1.labels.length = gs0.createLabel.1.createLabel.1.labels.length :=
    (setLabel_lablen _ _ _).trans (congrArg List.length r1.labels)
  refine ⟨h4, ?_, ?_, hl, ?_, h1.lablen, ?_⟩
  · show _ ≤ (GS.setLabel _ _ _).top.regs.length
    rw [setLabel_top]; exact r1.regs
  · show RegIn _ (GS.setLabel _ _ _).top.regs.length
    rw [setLabel_top]; exact r2
  · rw [hlen]; exact Nat.lt_trans (createLabel_lt gs0) (createLabel_lt _)
  · rw [hlen]; exact createLabel_lt _

theorem binv_whilePost {b : GS} (h : BInv C g0 b) (startL endL : Nat) (cond : Int)
    (hs1 : g0.labels.length ≤ startL) (hs2 : startL < b.labels.length) (he : g0.labels.length ≤ endL) :
    BInv C g0 (whilePost b startL endL cond) ∧ (whilePost b startL endL cond).top.regs.length = b.top.regs.length :=
  have h2 := h.emitBackpatched (i := .jmp startL) ⟨startL, rfl, hs1, hs2⟩
  have h3 := h2.setLabelNext endL he
  ⟨h3.regStep (releaseTemporary_regStep _ _), releaseTemporary_regs _ _⟩

theorem binv_ifPre {gs0 : GS} (h : BInv C g0 gs0) :
    BInv C g0 (ifPre gs0).1 ∧ gs0.top.regs.length ≤ (ifPre gs0).1.top.regs.length ∧
      RegIn (ifPre gs0).2.1 (ifPre gs0).1.top.regs.length ∧ RegIn (ifPre gs0).2.2.1 (ifPre gs0).1.top.regs.length ∧
      RegIn (ifPre gs0).2.2.2 (ifPre gs0).1.top.regs.length := by
  unfold ifPre
  dsimp only
  obtain ⟨r1, q1⟩ := fetchTemporary_regStep gs0
  obtain ⟨r2, q2⟩ := fetchTemporary_regStep gs0.fetchTemporary.1
  obtain ⟨r3, q3⟩ := fetchTemporary_regStep gs0.fetchTemporary.1.fetchTemporary.1
  exact ⟨((h.regStep r1).regStep r2).regStep r3, Nat.le_trans r1.regs (Nat.le_trans r2.regs r3.regs),
    q1.mono (Nat.le_trans r2.regs r3.regs), q2.mono r3.regs, q3⟩

theorem binv_ifPost (h : BInv C g0 gs) (cond op1 op2 : Int) (m : Bytes)
    (h1 : RegIn cond gs.top.regs.length) (h2 : RegIn op1 gs.top.regs.length) (h3 : RegIn op2 gs.top.regs.length) :
    BInv C g0 (ifPost gs cond op1 op2 m) ∧ (ifPost gs cond op1 op2 m).top.regs.length = gs.top.regs.length := by
  have b1 := h.emit (i := .test cond op1 op2) ⟨h1, h2, h3⟩ rfl
  obtain ⟨b2, l1, l2⟩ := b1.markLabel m
  have hr := markLabel_regs (gs.emit (.test cond op1 op2)) m
  have b3 := b2.emitBackpatched (i := .jmpc ((gs.emit (.test cond op1 op2)).markLabel m).2 cond)
    ⟨⟨_, rfl, l1, l2⟩, by rw [hr, emit_top]; exact h1⟩
  refine ⟨((b3.regStep (releaseTemporary_regStep _ _)).regStep (releaseTemporary_regStep _ _)).regStep
    (releaseTemporary_regStep _ _), ?_⟩
  show ((((GS.emitBackpatched _ _).releaseTemporary cond).releaseTemporary op1).releaseTemporary op2).top.regs.length = _
  rw [releaseTemporary_regs, releaseTemporary_regs, releaseTemporary_regs, emitBackpatched_top, hr, emit_top]

end

theorem whilePre_errors (gs : GS) : (whilePre gs).1.errors = gs.errors := by
  unfold whilePre; dsimp only; simp

theorem bi_void (C : ProgRec → Prop) (g0 : GS) : ∀ n : Node, stmtShape n = true → ∀ gs : GS, BInv C g0 gs →
    BInv C g0 (genS gs n) ∧ gs.top.regs.length ≤ (genS gs n).top.regs.length := by
  apply stmtShape_induction
  case nil => intro gs h; rw [genS_nil]; exact ⟨h, Nat.le_refl _⟩
  case split =>
    intro tok file line l r _ _ ihl ihr gs h
    rw [genS_split]
    refine binv_adv h line file fun hb0 => ?_
    obtain ⟨b1, b2⟩ := ihl _ hb0
    obtain ⟨c1, c2⟩ := ihr _ b1
    exact ⟨c1, Nat.le_trans b2 c2⟩
  case assign =>
    intro tok file line l r _ gs h
    rw [genS_assign]
    refine binv_adv h line file fun hb0 => ?_
    obtain ⟨r1, r2⟩ := fetchVar_regStep (gs.advanceLine line file) l.tok
    obtain ⟨b1, b2⟩ := bi_value (hb0.regStep r1) r _ r2
    exact ⟨b1, Nat.le_trans r1.regs b2⟩
  case loop =>
    intro tok file line l r _ _ ih gs h
    rw [genS_loop]
    refine binv_adv h line file fun hb0 => ?_
    obtain ⟨r1, r2⟩ := loopPre_regStep (gs.advanceLine line file)
    obtain ⟨v1, v2⟩ := bi_value (hb0.regStep r1) l _ r2
    obtain ⟨m1, m2, m3, m5, m4⟩ := binv_loopMid v1 _ (r2.mono v2)
    obtain ⟨b1, b2⟩ := ih _ m1
    rw [m2] at b2
    obtain ⟨c1, c2⟩ := binv_loopPost b1 _ _ _ ((r2.mono v2).mono b2) m3
      (Nat.lt_of_lt_of_le m5 (step_void _ r).lablen) m4
    exact ⟨c1, by rw [c2]; exact Nat.le_trans r1.regs (Nat.le_trans v2 b2)⟩
  case while_ =>
    intro tok file line l r _ _ ih gs h
    rw [genS_while]
    refine binv_adv h line file fun hb0 => ?_
    obtain ⟨p1, p2, p3, p4, p5, p6, p7⟩ := binv_whilePre hb0
    obtain ⟨v1, v2⟩ := bi_value p1 l _ p3
    have qv := quiet_value (whilePre (gs.advanceLine line file)).1 l (whilePre (gs.advanceLine line file)).2.2.2
    obtain ⟨b1, b2⟩ := ih _ (v1.emitBackpatched (i := .jmpc _ _) ⟨⟨_, rfl, p6, by rw [qv.labels]; exact p7⟩, p3.mono v2⟩)
    obtain ⟨c1, c2⟩ := binv_whilePost b1 _ _ _ p4 (Nat.lt_of_lt_of_le p5
      (Nat.le_trans (Nat.le_of_eq (congrArg List.length qv.labels.symm)) (step_void (GS.emitBackpatched _ _) r).lablen)) p6
    exact ⟨c1, by rw [c2]; exact Nat.le_trans p2 (Nat.le_trans v2 b2)⟩
  case mark =>
    intro tok file line l r gs h
    rw [genS_mark]
    refine binv_adv h line file fun hb0 => ?_
    obtain ⟨b1, l1, _⟩ := hb0.markLabel l.tok
    refine ⟨b1.setLabelMark _ l1, ?_⟩
    rw [setLabel_top, markLabel_regs]; exact Nat.le_refl _
  case goto =>
    intro tok file line l r gs h
    rw [genS_goto]
    refine binv_adv h line file fun hb0 => ?_
    obtain ⟨b1, l1, l2⟩ := hb0.markLabel l.tok
    refine ⟨b1.emitBackpatched ⟨_, rfl, l1, l2⟩, ?_⟩
    rw [emitBackpatched_top, markLabel_regs]; exact Nat.le_refl _
  case if_ =>
    intro tok file line l r _ _ gs h
    rw [genS_if]
    refine binv_adv h line file fun hb0 => ?_
    obtain ⟨p1, p2, p3, p4, p5⟩ := binv_ifPre hb0
    obtain ⟨v1, v2⟩ := bi_value p1 l.left _ p4
    obtain ⟨w1, w2⟩ := bi_value v1 l.right _ (p5.mono v2)
    have hm := Nat.le_trans v2 w2
    obtain ⟨c1, c2⟩ := binv_ifPost w1 _ _ _ r.left.tok (p3.mono hm) (p4.mono hm) (p5.mono hm)
    exact ⟨c1, by rw [c2]; exact Nat.le_trans p2 hm⟩
  case stop =>
    intro tok file line l r gs h
    rw [genS_stop]
    exact binv_adv h line file fun hb0 => ⟨hb0.emit trivial rfl, Nat.le_refl _⟩

end GenWF
end Theo
