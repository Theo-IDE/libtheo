/-
  Iterating the reference machine — it never gets stuck — and the matched state after the
  prologue of the bytecode.  The simulation along whole executions is in SimCountStutter.lean
  (divergence, lower bound) and SimCountUpper.lean (halting, upper bound).
-/
import Theo.Proofs.SimStep
import Theo.Proofs.SimPure

namespace Theo
namespace Sim
open Sem WF
open LoopHalts (stepN stepN_succ step_fixed)

section
variable {src : Source} {p : Program} {V : Valid src p} (hV : V.OK)
include hV

theorem initial_frameAt (H : Int → Nat → Prop) :
    FrameAt (V.env src.progs.length) (V.G src.progs.length) H
      ⟨src.progs.length, [], [], src.main, .done, .run⟩ (V.start src.progs.length) 0 := by
  have := hV.entryAt (Nat.le_refl _) H [] []
  rwa [bodyOf_root] at this

theorem pinv_initial : PInv V (initial src) := by
  refine ⟨rfl, ?_, ?_⟩
  · show PStack V [_]
    rw [pstack_cons]
    exact ⟨Nat.le_refl _, ⟨_, 0, initial_frameAt hV HT⟩, rfl⟩
  · intro fr rest h
    cases h
    exact fun ⟨_, _, h⟩ => nomatch h

theorem pinv_iter : ∀ n, (stepN src n (initial src)).status ≠ .stuck ∧
    ((stepN src n (initial src)).status = .running → PInv V (stepN src n (initial src))) := by
  intro n
  induction n with
  | zero => exact ⟨by simp [stepN, initial], fun _ => pinv_initial hV⟩
  | succ n ih =>
    rw [stepN_succ]
    by_cases hr : (stepN src n (initial src)).status = .running
    · exact pure_step hV (ih.2 hr)
    · rw [step_fixed src _ hr]
      exact ⟨ih.1, fun h => absurd h hr⟩

end

section
variable {src : Source} {p : Program} {V : Valid src p} {c : Cert} {R : PcInfo} {S : Nat}
  (hc : CertOK p c R) (hV : V.OK)
include hc hV

/-- the prologue: `PREPARE` and one `JMP` over each of the `L` routine bodies leave the root
    activation alone on the stack, its registers zero -/
theorem init_run (hsk : SkipsS p.code S src.progs.length 1 (V.start src.progs.length)) :
    ∃ a vm, Run S (src.progs.length + 1) (VM.mk' p) vm ∧ Good p c R.rid vm ∧
      vm.ip = (V.start src.progs.length : Int) ∧ vm.stack = [a] ∧
      a.dbg = (src.progs.length : Int) ∧ FrameOK vm.data a (V.ri src.progs.length) [] [] := by
  obtain ⟨cnt, tgt, hhead⟩ := hV.head
  obtain ⟨s1, g1⟩ := (Good.init p c R.rid).run1 hc (pc := 0) rfl hhead rfl
    (.prepare (cnt := cnt) (idx := (src.progs.length : Int)) (tgt := tgt))
  obtain ⟨vm2, s2, g2, ip2, st2, d2⟩ := skips_run hc hsk g1 rfl
  refine ⟨_, vm2, ((SA.refl S _).then s1 |>.trans s2).cast (Nat.add_comm _ _), g2, ip2, st2, rfl, ?_⟩
  have ham := winv_actMap g2.winv _ (by rw [st2]; exact List.mem_cons_self)
  exact callee_frameOK (params := []) (vals := []) (hV.nodup _ (Nat.le_refl _)) (by rfl) rfl
    (fun _ h => nomatch h) (d2 ▸ FrameInit.fresh [] _ _ _ _)
    (actmap_regs hc hV (Nat.le_refl _) ham rfl)

theorem init_match (hsk : SkipsS p.code S src.progs.length 1 (V.start src.progs.length)) :
    ∃ vm, SC S (src.progs.length + 1) (VM.mk' p) vm ∧ Match V c R (initial src) vm := by
  obtain ⟨a, vm, s, g, ip, st, hd, hf⟩ := init_run hc hV hsk
  refine ⟨vm, s.sc, g, rfl, ⟨_, .of_eq ip, ?_⟩, ?_⟩
  · rw [st]
    exact stackRel_cons.2 ⟨⟨Nat.le_refl _, hd, hf, initial_frameAt hV _⟩, rfl, rfl⟩
  · intro fr rest h
    cases h
    exact fun ⟨_, _, h⟩ => nomatch h

end

end Sim
end Theo
