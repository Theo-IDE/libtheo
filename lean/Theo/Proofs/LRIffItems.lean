/-
  "No conflict ⇒ LR(1) in Knuth's sense", part 1: completeness of the item sets.
  The item set reached along the viable prefix `δ μ₁` of a right sentential form `δ A w`,
  `A → μ₁ μ₂`, contains `[A → μ₁ . μ₂, FIRST₁(w·eof)]` (`valid_mem`: one induction on the rightmost
  derivation, over every non-terminal occurrence of the sentential form); with conflict-free tables
  and an unexhausted state budget a non-empty set reached along a path is a state of the collection
  (`real_path`; `handle_state` for the prefix `δ μ` that ends in a handle).
-/
import Theo.Proofs.LRConverseValid

namespace Theo
namespace LRIff
open LRSound LRComplete FirstProofs LRConverse

section Aug
variable (g : Grammar) (start eof : Nat)

theorem aug_rule_cases (hg : g.Closed) {A k : Nat} {μ : List Sym}
    (h : ((g.augment start eof).alts A)[k]? = some μ) :
    (A = g.numNT ∧ μ = [.n start]) ∨ (A = g.numNT + 1 ∧ μ = [.t eof]) ∨
      (A < g.numNT ∧ (g.alts A)[k]? = some μ) := by
  by_cases h1 : A = g.numNT
  · subst h1
    rw [augment_alts_S g start eof hg] at h
    exact Or.inl ⟨rfl, (getElem?_singleton h).2⟩
  · by_cases h2 : A = g.numNT + 1
    · subst h2
      rw [augment_alts_E g start eof hg] at h
      exact Or.inr (Or.inl ⟨rfl, (getElem?_singleton h).2⟩)
    · rw [augment_alts_other g start eof A h1 h2] at h
      right; right
      exact ⟨alts_lhs_lt hg (List.mem_of_getElem? h), h⟩

theorem aug_no_eps (hg : g.Closed) (A k : Nat) (μ : List Sym)
    (h : ((g.augment start eof).alts A)[k]? = some μ) : ∀ s ∈ μ, s ≠ .eps := by
  intro s hs
  rcases aug_rule_cases g start eof hg h with ⟨_, rfl⟩ | ⟨_, rfl⟩ | ⟨_, h'⟩
  · simp only [List.mem_singleton] at hs; subst hs; simp
  · simp only [List.mem_singleton] at hs; subst hs; simp
  · have := alts_symOK hg (List.mem_of_getElem? h') s hs
    intro he; subst he; exact this

theorem aug_lhs_lt (hg : g.Closed) {A k : Nat} {μ : List Sym}
    (h : ((g.augment start eof).alts A)[k]? = some μ) : A < (g.augment start eof).numNT := by
  rw [augment_numNT]
  rcases aug_rule_cases g start eof hg h with ⟨h', _⟩ | ⟨h', _⟩ | ⟨h', _⟩ <;> omega

end Aug

theorem hull_nil (g : Grammar) (fi : FirstInfo) : hull g fi [] = [] := by
  simp only [hull, List.foldl_nil, List.length_nil, Nat.add_zero]
  cases g.itemBound <;> rfl

theorem jump_nonempty (g : Grammar) (fi : FirstInfo) (I : ItemSet) (X : Sym) (it : Item)
    (h : it ∈ jump g fi I X) : ∃ it0 ∈ I, g.afterDot it0 = X := by
  cases hf : I.filter (fun it => g.afterDot it = X) with
  | nil => rw [jump, hf, List.map_nil, hull_nil] at h; cases h
  | cons it0 _ =>
    have := List.mem_filter.1 (hf ▸ List.mem_cons_self : it0 ∈ I.filter _)
    exact ⟨it0, this.1, of_decide_eq_true this.2⟩

theorem foldl_jump_nil (g : Grammar) (fi : FirstInfo) : ∀ δ : List Sym, δ.foldl (jump g fi) [] = [] := by
  intro δ
  induction δ with
  | nil => rfl
  | cons X δ ih =>
    rw [List.foldl_cons]
    have : jump g fi [] X = [] := by simp [jump, hull_nil]
    rw [this, ih]

theorem path_through (g : Grammar) (fi : FirstInfo) (I : ItemSet) (X : Sym) (δ : List Sym) (it : Item)
    (h : it ∈ (X :: δ).foldl (jump g fi) I) : ∃ it0 ∈ I, g.afterDot it0 = X := by
  rw [List.foldl_cons] at h
  cases hj : jump g fi I X with
  | nil => rw [hj, foldl_jump_nil] at h; cases h
  | cons x xs => exact jump_nonempty g fi I X x (by rw [hj]; simp)

/-- where an element of a concatenation sits -/
theorem mem_split {α : Type} {a b c d : List α} {x : α} (h : a ++ b = c ++ x :: d) :
    (∃ a₂, a = c ++ x :: a₂ ∧ d = a₂ ++ b) ∨ (∃ b₁, c = a ++ b₁ ∧ b = b₁ ++ x :: d) := by
  rcases List.append_eq_append_iff.1 h with ⟨a', h1, h2⟩ | ⟨c', h1, h2⟩
  · exact Or.inr ⟨a', h1, h2⟩
  · cases c' with
    | nil => exact Or.inr ⟨[], by rw [h1, List.append_nil, List.append_nil], h2.symm⟩
    | cons y c' =>
      cases h2
      exact Or.inl ⟨c', h1, rfl⟩

section
variable {g : Grammar} {start eof : Nat}

/-- `I` is the item set of a reachable state of the collection -/
def Real (S : List LRState) (I : ItemSet) : Prop :=
  ∃ (q : Nat) (st : LRState), RS S q ∧ S[q]? = some st ∧ st.items = I

theorem rd_no_eps (hg : g.Closed) (hs : start < g.numNT) {φ : List Sym}
    (h : RDerives (g.augment start eof) [.n g.numNT] φ) : ∀ s ∈ φ, s ≠ .eps := fun s hs' he' =>
  (rd_symOK g start eof hg hs h).elim (fun h0 => by rw [h0, he'] at hs'; cases hs' <;> contradiction)
    (fun h0 => by subst he'; exact h0 _ hs')

theorem steps_ok (hg : g.Closed) (hs : start < g.numNT) : ∀ (ν : List Sym) (I : ItemSet),
    (∀ s ∈ ν, s ≠ .eps) → StOK g start eof I →
    StOK g start eof (ν.foldl (jump (g.augment start eof) (firstSets (g.augment start eof))) I) := by
  intro ν
  induction ν with
  | nil => exact fun _ _ h => h
  | cons X ν ih =>
    exact fun I hν h => ih _ (fun s hs' => hν s (List.mem_cons_of_mem _ hs'))
      (jump_ok g start eof hg hs I X (hν X List.mem_cons_self) h).1

/-- moving the dot along a right-hand side -/
theorem walk (hg : g.Closed) (hs : start < g.numNT) : ∀ (ν μ₁ μ₂ : List Sym) (I : ItemSet) (A k : Nat)
    (f : Sym), ((g.augment start eof).alts A)[k]? = some (μ₁ ++ ν ++ μ₂) → (∀ s ∈ ν, s ≠ .eps) →
    StOK g start eof I → (⟨A, k, μ₁.length, f⟩ : Item) ∈ I →
    (⟨A, k, μ₁.length + ν.length, f⟩ : Item) ∈
      ν.foldl (jump (g.augment start eof) (firstSets (g.augment start eof))) I := by
  intro ν
  induction ν with
  | nil => exact fun _ _ _ _ _ _ _ _ _ hit => hit
  | cons X ν ih =>
    intro μ₁ μ₂ I A k f hk hν hI hit
    have ha : (g.augment start eof).afterDot ⟨A, k, μ₁.length, f⟩ = X :=
      afterDot_of_get _ _ _ (by rw [rhs_mk hk, List.append_assoc]; exact getElem?_mid μ₁ X _)
    obtain ⟨hJ, hadv⟩ := jump_ok g start eof hg hs I X (hν X List.mem_cons_self) hI
    have := ih (μ₁ ++ [X]) μ₂ _ A k f (by rw [hk]; simp [List.append_assoc])
      (fun s hs' => hν s (List.mem_cons_of_mem _ hs')) hJ (by simpa [adv] using hadv _ hit ha)
    rw [List.length_append, List.length_singleton, Nat.add_assoc, Nat.add_comm 1] at this
    exact this

theorem la_mem_first (hg : g.Closed) (ts : List Tree) (hv : ∀ t ∈ ts, t.Valid (g.augment start eof))
    (w : List Nat) :
    Sym.t (laOf eof (yields ts ++ w)) ∈
      firstSyms (firstSets (g.augment start eof)) (ts.map Tree.root ++ [Sym.t (laOf eof w)]) := by
  have hf := forest_yield_first (g.augment start eof) (g.augment start eof)
    (fun A k r h => ⟨h, aug_lhs_lt g start eof hg h⟩) (Forest.ofList ts) (valid_ofList _ ts hv)
  rw [roots_ofList, yield_ofList] at hf
  rw [mem_firstSyms_t, mem_fos_append]
  cases hy : yields ts with
  | nil => exact Or.inr ⟨hf.1 hy, by simp [fos_t]⟩
  | cons a z => exact Or.inl (hf.2 a z hy)

/-- every non-terminal occurrence `C` of a right sentential form `α₁ C ψ`: the set reached along
    `α₁` has the initial items of `C` for the first terminal of whatever `ψ` derives.  What stands
    to the right of `C` is given by trees, so that a derivation step further right only folds some
    of them into one (`fold_node`) and the induction goes through. -/
theorem rd_items (hg : g.Closed) (hs : start < g.numNT) {φ : List Sym}
    (h : RDerives (g.augment start eof) [.n g.numNT] φ) :
    ∀ (α₁ : List Sym) (C : Nat) (ts : List Tree), φ = α₁ ++ Sym.n C :: ts.map Tree.root →
      (∀ t ∈ ts, t.Valid (g.augment start eof)) → ∀ (k : Nat) (μ : List Sym),
      ((g.augment start eof).alts C)[k]? = some μ →
      (⟨C, k, 0, .t (laOf eof (yields ts))⟩ : Item) ∈ pathItems g start eof α₁ := by
  have h0 := hull_init_ok g start eof hg hs
  induction h with
  | refl =>
    intro α₁ C ts he _ k μ hk
    cases α₁ with
    | cons s α₁ => cases α₁ <;> cases he
    | nil =>
      obtain rfl := Sym.n.inj (List.cons.inj he).1
      obtain rfl := List.map_eq_nil_iff.1 (List.cons.inj he).2.symm
      rw [augment_alts_S g start eof hg] at hk
      cases k with
      | succ k => cases hk
      | zero => rw [pathItems, List.foldl_nil]; exact h0.2
  | @tail b c hprev hstep ih =>
    intro α₁ C ts he hv k' μ' hk'
    obtain ⟨α, A, k, β, w, hk, rfl, rfl⟩ := rstep_inv hstep
    have hα₁ : ∀ s ∈ α₁, s ≠ .eps := fun s hs' =>
      rd_no_eps hg hs (.tail hprev hstep) s (he ▸ List.mem_append_left _ hs')
    rcases mem_split he with ⟨a₂, h1, h2⟩ | ⟨b₁, _, h2⟩
    · obtain ⟨t12, ts₃, rfl, rfl, r3⟩ := List.map_eq_append_iff.1 h2
      rcases mem_split h1 with ⟨α₂, rfl, r12⟩ | ⟨β₁, rfl, rfl⟩
      · -- `C` is older than the last step
        obtain ⟨ts₁, ts₂, rfl, rfl, rfl⟩ := List.map_eq_append_iff.1 r12
        obtain ⟨hr, hv', hy⟩ := fold_node hk hv
        exact hy ▸ ih α₁ C _ (by rw [hr, r3, List.append_assoc]; rfl) hv' k' μ' hk'
      · -- `C` was brought by the last step `A → β₁ C a₂`: move the dot over `β₁` and close
        have hit := walk hg hs β₁ [] _ _ A k _ hk (fun s hs' => hα₁ s (List.mem_append_right _ hs'))
          (steps_ok hg hs α _ (fun s hs' => hα₁ s (List.mem_append_left _ hs')) h0.1)
          (ih α A ts₃ (by rw [r3]) (fun t ht => hv t (List.mem_append_right _ ht)) k _ hk)
        rw [← List.foldl_append, List.length_nil, Nat.zero_add] at hit
        have hrhs := rhs_mk hk β₁.length (.t (laOf eof (yields ts₃)))
        refine (steps_ok hg hs _ _ hα₁ h0.1).closed _ hit _ (mem_closeItem _ _ _ C k' _
          (afterDot_of_get _ _ _ (by rw [hrhs]; exact getElem?_mid β₁ _ _))
          (List.getElem?_eq_some_iff.1 hk').1 ?_)
        rw [hrhs, show (⟨A, k, β₁.length, Sym.t (laOf eof (yields ts₃))⟩ : Item).dot = β₁.length from rfl,
          drop_mid, yields_append]
        exact la_mem_first hg t12 (fun t ht => hv t (List.mem_append_left _ ht)) (yields ts₃)
    · exact absurd (h2 ▸ List.mem_append_right b₁ List.mem_cons_self) (n_not_mem_tsyms C w)

theorem valid_mem (hg : g.Closed) (hs : start < g.numNT) {δ : List Sym} {A : Nat} {w : List Nat}
    (h : RDerives (g.augment start eof) [.n g.numNT] (δ ++ Sym.n A :: tsyms w)) {k : Nat}
    {μ₁ μ₂ : List Sym} (hk : ((g.augment start eof).alts A)[k]? = some (μ₁ ++ μ₂)) :
    (⟨A, k, μ₁.length, .t (laOf eof w)⟩ : Item) ∈ pathItems g start eof (δ ++ μ₁) := by
  have hφ : ∀ s ∈ δ, s ≠ .eps := fun s hs' => rd_no_eps hg hs h s (List.mem_append_left _ hs')
  have h0 := rd_items hg hs h δ A (w.map Tree.leaf) (by rw [roots_leaves]) (valid_leaves _ w) k _ hk
  rw [yields_leaves] at h0
  have := walk hg hs μ₁ [] μ₂ _ A k (.t (laOf eof w)) (by rw [hk]; rfl)
    (fun s hs' => aug_no_eps g start eof hg A k _ hk s (List.mem_append_left _ hs'))
    (steps_ok hg hs δ _ hφ (hull_init_ok g start eof hg hs).1) h0
  rwa [pathItems_append, List.length_nil, Nat.zero_add] at *

section Run
variable {pm : Bool} {S : List LRState} {T : Tables}

theorem real_path (C : Ctx g start eof pm S T) : ∀ (γ : List Sym) (I : ItemSet), (∀ s ∈ γ, s ≠ .eps) →
    Real S I → ∀ it ∈ γ.foldl (jump (g.augment start eof) (firstSets (g.augment start eof))) I,
    Real S (γ.foldl (jump (g.augment start eof) (firstSets (g.augment start eof))) I) := by
  intro γ
  induction γ with
  | nil => exact fun _ _ h _ _ => h
  | cons X γ ih =>
    intro I hγ ⟨q, st, hq, hst, hI⟩ it hit
    subst hI
    obtain ⟨it0, h0, ha⟩ := path_through _ _ _ _ _ _ hit
    obtain ⟨j, hj⟩ := C.has_trans hst h0 (hγ X List.mem_cons_self) ha
    obtain ⟨_, st', hst', hitems⟩ := C.inv.1 q st hst X j hj
    exact ih _ (fun s hs' => hγ s (List.mem_cons_of_mem _ hs'))
      ⟨j, st', RS.step hq hst hj, hst', hitems⟩ it hit

theorem handle_state (C : Ctx g start eof pm S T) {δ : List Sym} {A : Nat} {w : List Nat}
    (h : RDerives (g.augment start eof) [.n g.numNT] (δ ++ Sym.n A :: tsyms w)) {k : Nat}
    {μ : List Sym} (hk : ((g.augment start eof).alts A)[k]? = some μ) :
    Real S (pathItems g start eof (δ ++ μ)) ∧
      (⟨A, k, μ.length, .t (laOf eof w)⟩ : Item) ∈ pathItems g start eof (δ ++ μ) := by
  have hm := valid_mem C.hg C.hs h (μ₂ := []) (by rw [hk, List.append_nil])
  obtain ⟨_, st0, hst0, hh0⟩ := C.inv
  refine ⟨real_path C _ _ (fun s hs' => ?_) ⟨0, st0, RS.zero, hst0, hh0⟩ _ hm, hm⟩
  rcases List.mem_append.1 hs' with hs' | hs'
  · exact rd_no_eps C.hg C.hs h s (List.mem_append_left _ hs')
  · exact aug_no_eps g start eof C.hg A k _ hk s hs'

end Run

end

end LRIff
end Theo
