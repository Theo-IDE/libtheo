/-
  C01 for the generator model, vocabulary: sites, backpatching as a map over the code, the register
  file of a routine with its invariants and the stack map the validator reads from it, the names of
  the hidden loop counters.
-/
import Theo.Spec.Shape
import Theo.Proofs.StaticGS
import Theo.Proofs.SimDigits
import Theo.Proofs.SimVM

namespace Theo
namespace GenShape
open GS Sem Static

theorem prefix_getElem? {α} {a b : List α} (h : a <+: b) {p : Nat} {x : α} (hp : a[p]? = some x) :
    b[p]? = some x := by
  obtain ⟨t, rfl⟩ := h
  exact getElem?_append_some hp t

theorem prefix_append_self {α} (a b : List α) : a <+: a ++ b := ⟨b, rfl⟩

theorem getElem?_append_len {α} (a : List α) (x : α) (t : List α) : (a ++ x :: t)[a.length]? = some x :=
  getElem?_mid a x t

theorem getElem?_snoc_len {α} (a : List α) (x : α) : (a ++ [x])[a.length]? = some x :=
  getElem?_append_len a x []

theorem skipc_pb {C : List Instr} {p : Nat} (h : C[p]? = some Instr.potBreak) : skipc C p = skipc C (p + 1) :=
  Sim.skipc_succ_of_pb h

theorem skipc_range {C : List Instr} (n a : Nat)
    (h : ∀ p, a ≤ p → p < a + n → C[p]? = some Instr.potBreak) : skipc C a = skipc C (a + n) :=
  Sim.skipc_run n a (fun i hi => h (a + i) (Nat.le_add_right _ _) (Nat.add_lt_add_left hi a))

theorem skipc_eq_self {C : List Instr} {p : Nat} {i : Instr} (h : C[p]? = some i) (hn : i ≠ Instr.potBreak) :
    skipc C p = p :=
  Sim.skipc_of_not_pb (by rw [h]; intro h'; exact hn (Option.some.inj h'))

/-- `C` holds the backpatched `code`, except at the header -/
def Agree (L : List Int) (code C : List Instr) : Prop :=
  ∀ p i, 0 < p → code[p]? = some i → C[p]? = some (patch L p i)

theorem Agree.of_prefix {L : List Int} {a b C : List Instr} (h : Agree L b C) (hp : a <+: b) : Agree L a C :=
  fun p i h0 hi => h p i h0 (prefix_getElem? hp hi)

theorem Agree.at_len {L : List Int} {a t C : List Instr} {i : Instr} (h : Agree L (a ++ i :: t) C) (h0 : 0 < a.length) :
    C[a.length]? = some (patch L a.length i) :=
  h _ _ h0 (getElem?_append_len a i t)

def TempNamed (regs : List VReg) : Prop := ∀ r ∈ regs, r.isTemp = true → r.name = bTempName

def NTNodup (regs : List VReg) : Prop := ((regs.filter (fun r => !r.isTemp)).map (·.name)).Nodup

def RegsExt (a b : List VReg) : Prop :=
  ∀ (i : Nat) (r : VReg), a[i]? = some r → ∃ r' : VReg, b[i]? = some r' ∧ r'.name = r.name ∧ r'.isTemp = r.isTemp

theorem RegsExt.refl (a : List VReg) : RegsExt a a := fun _ r h => ⟨r, h, rfl, rfl⟩
theorem RegsExt.trans {a b c : List VReg} (h1 : RegsExt a b) (h2 : RegsExt b c) : RegsExt a c := by
  intro i r h
  obtain ⟨r1, e1, n1, t1⟩ := h1 i r h
  obtain ⟨r2, e2, n2, t2⟩ := h2 i r1 e1
  exact ⟨r2, e2, n2.trans n1, t2.trans t1⟩
theorem RegsExt.len {a b : List VReg} (h : RegsExt a b) : a.length ≤ b.length := by
  cases ha : a.length with
  | zero => exact Nat.zero_le _
  | succ n =>
    have : n < a.length := by omega
    obtain ⟨r', e, _, _⟩ := h n a[n] (List.getElem?_eq_getElem this)
    have := (List.getElem?_eq_some_iff.1 e).1
    omega
theorem RegsExt.append (a t : List VReg) : RegsExt a (a ++ t) := by
  intro i r h
  exact ⟨r, prefix_getElem? (prefix_append_self a t) h, rfl, rfl⟩

def KeepUse (a b : List VReg) : Prop := ∀ (i : Nat) (r : VReg), a[i]? = some r → r.inUse = true → b[i]? = some r

theorem KeepUse.refl (a : List VReg) : KeepUse a a := fun _ _ h _ => h
theorem KeepUse.trans {a b c : List VReg} (h1 : KeepUse a b) (h2 : KeepUse b c) : KeepUse a c :=
  fun i r h hu => h2 i r (h1 i r h hu) hu
theorem KeepUse.append (a t : List VReg) : KeepUse a (a ++ t) :=
  fun _ _ h _ => prefix_getElem? (prefix_append_self a t) h

def LiveOK (regs : List VReg) (live : List Int) : Prop :=
  ∀ t ∈ live, ∃ (i : Nat) (r : VReg), t = (i : Int) ∧ regs[i]? = some r ∧ r.isTemp = true ∧ r.inUse = true

theorem LiveOK.keep {a b : List VReg} {live : List Int} (h : LiveOK a live) (k : KeepUse a b) : LiveOK b live := by
  intro t ht
  obtain ⟨i, r, e, hr, h1, h2⟩ := h t ht
  exact ⟨i, r, e, k i r hr h2, h1, h2⟩

theorem LiveOK.nil (regs : List VReg) : LiveOK regs [] := fun _ h => by cases h

theorem LiveOK.append {regs : List VReg} {a b : List Int} (h1 : LiveOK regs a) (h2 : LiveOK regs b) :
    LiveOK regs (a ++ b) := by
  intro t ht
  rcases List.mem_append.1 ht with h | h
  · exact h1 t h
  · exact h2 t h

/-- a register index that is free (or beyond the file): what `fetchTemporary` hands out -/
def FreeAt (regs : List VReg) (t : Int) : Prop :=
  ∃ i : Nat, t = (i : Int) ∧ ∀ r : VReg, regs[i]? = some r → r.inUse = false

theorem LiveOK.not_mem_of_free {regs : List VReg} {live : List Int} (h : LiveOK regs live) {t : Int}
    (hf : FreeAt regs t) : live.contains t = false := by
  cases hc : live.contains t with
  | false => rfl
  | true =>
    exfalso
    have hm : t ∈ live := by simpa using hc
    obtain ⟨i, r, e, hr, _, hu⟩ := h t hm
    obtain ⟨j, e', hfree⟩ := hf
    have : i = j := by omega
    subst this
    rw [hfree r hr] at hu; cases hu

/-- the map `popSymbols` records: register ↦ name, temporaries left out -/
def smapFrom (regs : List VReg) (k : Nat) : List (Int × Bytes) :=
  ((regs.zipIdx k).filter (fun p => !p.1.isTemp)).map (fun p => ((p.2 : Int), p.1.name))

def smap (regs : List VReg) : List (Int × Bytes) := smapFrom regs 0

theorem smapFrom_nil (k : Nat) : smapFrom [] k = [] := rfl
theorem smapFrom_cons (r : VReg) (rs : List VReg) (k : Nat) :
    smapFrom (r :: rs) k = if r.isTemp then smapFrom rs (k + 1) else ((k : Int), r.name) :: smapFrom rs (k + 1) := by
  unfold smapFrom
  rw [List.zipIdx_cons]
  cases h : r.isTemp <;> simp [h]

theorem mem_smapFrom {regs : List VReg} {k : Nat} {e : Int × Bytes} :
    e ∈ smapFrom regs k ↔ ∃ (i : Nat) (r : VReg), regs[i]? = some r ∧ r.isTemp = false ∧ e = (((k + i : Nat) : Int), r.name) := by
  unfold smapFrom
  constructor
  · intro h
    obtain ⟨⟨r, j⟩, hp, rfl⟩ := List.mem_map.1 h
    obtain ⟨hz, ht⟩ := List.mem_filter.1 hp
    obtain ⟨hk, hg⟩ := List.mem_zipIdx_iff_le_and_getElem?_sub.1 hz
    exact ⟨j - k, r, hg, by simpa using ht, by rw [Nat.add_sub_cancel' hk]⟩
  · rintro ⟨i, r, h1, h2, rfl⟩
    exact List.mem_map.2 ⟨(r, k + i), List.mem_filter.2
      ⟨List.mem_zipIdx_iff_le_and_getElem?_sub.2 ⟨Nat.le_add_right _ _, by rw [Nat.add_sub_cancel_left]; exact h1⟩, by simp [h2]⟩, rfl⟩

theorem mem_smap {regs : List VReg} {e : Int × Bytes} :
    e ∈ smap regs ↔ ∃ (i : Nat) (r : VReg), regs[i]? = some r ∧ r.isTemp = false ∧ e = ((i : Int), r.name) := by
  unfold smap
  rw [mem_smapFrom]
  simp

theorem smapFrom_names (regs : List VReg) (k : Nat) :
    (smapFrom regs k).map (·.2) = (regs.filter (fun r => !r.isTemp)).map (·.name) := by
  induction regs generalizing k with
  | nil => rfl
  | cons x xs ih =>
    rw [smapFrom_cons]
    cases hx : x.isTemp
    · simp [hx, ih]
    · simp [hx, ih]

theorem smapFrom_idx_ge (regs : List VReg) (k : Nat) : ∀ e ∈ smapFrom regs k, (k : Int) ≤ e.1 := by
  intro e he
  obtain ⟨i, r, _, _, h⟩ := mem_smapFrom.1 he
  rw [h]; simp only; omega

theorem smapFrom_idx_nodup (regs : List VReg) (k : Nat) : ((smapFrom regs k).map (·.1)).Nodup := by
  induction regs generalizing k with
  | nil => exact List.nodup_nil
  | cons x xs ih =>
    rw [smapFrom_cons]
    split
    · exact ih (k + 1)
    · rw [List.map_cons, List.nodup_cons]
      refine ⟨?_, ih (k + 1)⟩
      intro hin
      obtain ⟨e, he, hk⟩ := List.mem_map.1 hin
      have := smapFrom_idx_ge xs (k + 1) e he
      simp only at hk
      rw [hk] at this
      omega

theorem namesNodup_smap (regs : List VReg) (h : NTNodup regs) (en mi : Nat) :
    namesNodup ⟨en, mi, smap regs⟩ = true := by
  unfold namesNodup
  simp only [Bool.and_eq_true, decide_eq_true_eq]
  exact ⟨by unfold smap; rw [smapFrom_names]; exact h, smapFrom_idx_nodup regs 0⟩

theorem regOf_smap {regs : List VReg} (hn : NTNodup regs) {i : Nat} {r : VReg} (hr : regs[i]? = some r)
    (ht : r.isTemp = false) {x : Bytes} (hx : r.name = x) (hp : bLoopVar.isPrefixOf x = false) (en mi : Nat) :
    RInfo.regOf ⟨en, mi, smap regs⟩ x = some (i : Int) := by
  unfold RInfo.regOf
  rw [hp]
  simp only [Bool.false_eq_true, if_false]
  have hmem : ((i : Int), x) ∈ smap regs := mem_smap.2 ⟨i, r, hr, ht, by rw [hx]⟩
  have hnd : ((smap regs).map (·.2)).Nodup := by unfold smap; rw [smapFrom_names]; exact hn
  have := find?_of_nodup_map (f := Prod.snd) hnd hmem
  simp only at this
  rw [this]; rfl

theorem isNamed_smap_temp {regs : List VReg} {i : Nat} {r : VReg} (hr : regs[i]? = some r) (ht : r.isTemp = true)
    (en mi : Nat) : RInfo.isNamed ⟨en, mi, smap regs⟩ (i : Int) = false := by
  unfold RInfo.isNamed
  cases h : (smap regs).any (fun e => e.1 = (i : Int)) with
  | false => rfl
  | true =>
    exfalso
    obtain ⟨e, he, hi⟩ := List.any_eq_true.1 h
    obtain ⟨j, r', h1, h2, h3⟩ := mem_smap.1 he
    have : (j : Int) = (i : Int) := by rw [h3] at hi; simpa using hi
    have hji : j = i := by omega
    subst hji
    rw [hr] at h1
    cases h1
    rw [ht] at h2; cases h2

def ctrSuffix (id : Nat) : Bytes := [91] ++ natDigits id ++ [93]

/-- name of the hidden counter of loop `id` created at `file:line` -/
def ctrName (file : Bytes) (line : Int) (id : Nat) : Bytes :=
  bLoopVar ++ file ++ [58] ++ intDec line ++ [91] ++ natDigits id ++ [93]

def hasId (nm : Bytes) (id : Nat) : Prop := bLoopVar.isPrefixOf nm = true ∧ (ctrSuffix id).isSuffixOf nm = true

theorem ctrName_hasId (file : Bytes) (line : Int) (id : Nat) : hasId (ctrName file line id) id := by
  unfold hasId ctrName ctrSuffix
  refine ⟨?_, ?_⟩
  · rw [List.isPrefixOf_iff_prefix]
    simp only [List.append_assoc]
    exact List.prefix_append _ _
  · rw [List.isSuffixOf_iff_suffix]
    refine ⟨bLoopVar ++ file ++ [58] ++ intDec line, ?_⟩
    simp only [List.append_assoc]

theorem hasId_inj {nm : Bytes} {a b : Nat} (h1 : hasId nm a) (h2 : hasId nm b) : a = b :=
  Sim.ctr_suffix_inj a b nm h1.2 h2.2

theorem ctrName_ne_temp (file : Bytes) (line : Int) (id : Nat) : ctrName file line id ≠ bTempName := by
  unfold ctrName
  simp only [List.append_assoc]
  intro h
  have := congrArg List.head? h
  simp [bLoopVar, bTempName] at this

structure CtrInv (regs : List VReg) (loops : Nat) : Prop where
  bound : ∀ (i : Nat) (r : VReg), regs[i]? = some r → r.isTemp = false → bLoopVar.isPrefixOf r.name = true →
    ∃ id, id ≤ loops ∧ hasId r.name id
  uniq : ∀ (i j : Nat) (r r' : VReg) (id : Nat), regs[i]? = some r → regs[j]? = some r' → r.isTemp = false → r'.isTemp = false →
    hasId r.name id → hasId r'.name id → i = j

theorem CtrInv.nil (n : Nat) : CtrInv [] n :=
  ⟨fun i r h => by simp at h, fun i j r r' id h => by simp at h⟩

theorem CtrInv.mono {regs : List VReg} {a b : Nat} (h : CtrInv regs a) (hab : a ≤ b) : CtrInv regs b :=
  ⟨fun i r h1 h2 h3 => by
    obtain ⟨id, hid, hh⟩ := h.bound i r h1 h2 h3
    exact ⟨id, Nat.le_trans hid hab, hh⟩, h.uniq⟩

theorem CtrInv.ext {a b : List VReg} {n : Nat} (h : CtrInv a n) (he : RegsExt a b)
    (hnew : ∀ (i : Nat) (r : VReg), b[i]? = some r → a.length ≤ i → r.isTemp = false → bLoopVar.isPrefixOf r.name = false) :
    CtrInv b n := by
  have old : ∀ (i : Nat) (r : VReg), b[i]? = some r → r.isTemp = false → bLoopVar.isPrefixOf r.name = true →
      ∃ r0 : VReg, a[i]? = some r0 ∧ r0.name = r.name ∧ r0.isTemp = false := by
    intro i r h1 h2 h3
    by_cases hi : i < a.length
    · obtain ⟨r', e1, e2, e3⟩ := he i a[i] (List.getElem?_eq_getElem hi)
      rw [h1] at e1
      cases e1
      exact ⟨a[i], List.getElem?_eq_getElem hi, e2.symm, by rw [← e3]; exact h2⟩
    · have := hnew i r h1 (by omega) h2
      rw [this] at h3; cases h3
  refine ⟨?_, ?_⟩
  · intro i r h1 h2 h3
    obtain ⟨r0, e1, e2, e3⟩ := old i r h1 h2 h3
    have := h.bound i r0 e1 e3 (by rw [e2]; exact h3)
    rw [e2] at this; exact this
  · intro i j r r' id h1 h2 t1 t2 i1 i2
    obtain ⟨r0, e1, e2, e3⟩ := old i r h1 t1 i1.1
    obtain ⟨r0', e1', e2', e3'⟩ := old j r' h2 t2 i2.1
    exact h.uniq i j r0 r0' id e1 e1' e3 e3' (by rw [e2]; exact i1) (by rw [e2']; exact i2)

theorem ctrOf_smap {regs : List VReg} {n : Nat} (hc : CtrInv regs n) {i : Nat} {r : VReg} (hr : regs[i]? = some r)
    (ht : r.isTemp = false) {id : Nat} (hid : hasId r.name id) (en mi : Nat) :
    RInfo.ctrOf ⟨en, mi, smap regs⟩ id = some (i : Int) := by
  unfold RInfo.ctrOf
  simp only
  have hmem : ((i : Int), r.name) ∈ smap regs := mem_smap.2 ⟨i, r, hr, ht, rfl⟩
  cases hf : (smap regs).find? (fun e => bLoopVar.isPrefixOf e.2 && ([91] ++ natDigits id ++ [93] : Bytes).isSuffixOf e.2) with
  | none =>
    exfalso
    have := List.find?_eq_none.1 hf _ hmem
    have h1 := hid.1
    have h2 : ([91] ++ natDigits id ++ [93] : Bytes).isSuffixOf r.name = true := hid.2
    simp only [h1, h2] at this
    exact this rfl
  | some e =>
    have he := List.mem_of_find?_eq_some hf
    have hp := List.find?_some hf
    obtain ⟨j, r', h1, h2, h3⟩ := mem_smap.1 he
    have hid' : hasId r'.name id := by
      rw [h3] at hp
      simp only [Bool.and_eq_true] at hp
      exact ⟨hp.1, hp.2⟩
    have := hc.uniq j i r' r id h1 hr h2 ht hid' hid
    subst this
    rw [h3]; rfl

end GenShape
end Theo
