/-
  C04 (static rules): the generator's verdict, characterised on the tree.
  `nValOK` / `nStmtOK` (RUN and LIT rules against an arity table), `defsOf` / `refsOf` (marks
  defined / jumped to), and the theorems that dispatching a value, a parameter list, a statement
  list records no error iff these checks pass (`value_char`, `args_char`, `stmt_char`).
-/
import Theo.Proofs.StaticInv

namespace Theo
namespace Static
open GS

instance (l r : Node) (n : Nat) : Decidable (builtinP l r n) := by unfold builtinP; infer_instance

def argCount : Node → Nat
  | .nil => 0
  | .mk t _ _ _ l r => if t = NodeT.SPLIT then argCount l + argCount r else 1

/-- RUN and LIT for a value (`args = false`) or an argument tree (`args = true`) -/
def nValOK (fa : Bytes → Option Nat) : Bool → Node → Bool
  | _, .nil => true
  | args, .mk t tok _ _ l r =>
    if args = true ∧ t = NodeT.SPLIT then nValOK fa true l && nValOK fa true r
    else if t = NodeT.NAME then true
    else if t = NodeT.NUMBER then !genRangeBad (decVal tok)
    else if t = NodeT.CALL then
      nValOK fa true r && (decide (builtinP l r (argCount r)) || fa l.tok == some (argCount r))
    else false

def nStmtOK (fa : Bytes → Option Nat) : Node → Bool
  | .nil => true
  | .mk t _ _ _ l r =>
    if t = NodeT.SPLIT then nStmtOK fa l && nStmtOK fa r
    else if t = NodeT.ASSIGN then nValOK fa false r
    else if t = NodeT.LOOP ∨ t = NodeT.WHILE then nValOK fa false l && nStmtOK fa r
    else if t = NodeT.IF then nValOK fa false l.left && nValOK fa false l.right
    else true

def defsOf : Node → List Bytes
  | .nil => []
  | .mk t _ _ _ l r =>
    if t = NodeT.SPLIT then defsOf l ++ defsOf r
    else if t = NodeT.LOOP ∨ t = NodeT.WHILE then defsOf r
    else if t = NodeT.MARK then [l.tok]
    else []

def refsOf : Node → List Bytes
  | .nil => []
  | .mk t _ _ _ l r =>
    if t = NodeT.SPLIT then refsOf l ++ refsOf r
    else if t = NodeT.LOOP ∨ t = NodeT.WHILE then refsOf r
    else if t = NodeT.GOTO then [l.tok]
    else if t = NodeT.IF then [r.left.tok]
    else []

/-- effect of a statement tree on the mark states -/
def upd : Node → (Bytes → Option Bool) → Bytes → Option Bool
  | .nil, σ => σ
  | .mk t _ _ _ l r, σ =>
    if t = NodeT.SPLIT then upd r (upd l σ)
    else if t = NodeT.LOOP ∨ t = NodeT.WHILE then upd r σ
    else if t = NodeT.MARK then fun m => if m = l.tok then some true else σ m
    else if t = NodeT.GOTO then fun m => if m = l.tok then some ((σ l.tok).getD false) else σ m
    else if t = NodeT.IF then fun m => if m = r.left.tok then some ((σ r.left.tok).getD false) else σ m
    else σ

theorem rangeBad_strtol (tok : Bytes) : genRangeBad (strtolNat tok) = genRangeBad (decVal tok) := by
  unfold genRangeBad strtolNat
  have h1 : ConstGen.genGuardRejectsMax = true := rfl
  simp only [h1, if_true]
  unfold INT_MAX LONG_MAX
  apply decide_eq_decide.2
  omega

theorem nValOK_false_mk (fa : Bytes → Option Nat) (t : Nat) (tok file : Bytes) (line : Int) (l r : Node) :
    nValOK fa false (.mk t tok file line l r) =
      if t = NodeT.NAME then true
      else if t = NodeT.NUMBER then !genRangeBad (decVal tok)
      else if t = NodeT.CALL then
        nValOK fa true r && (decide (builtinP l r (argCount r)) || fa l.tok == some (argCount r))
      else false := by
  rw [nValOK]; simp

theorem nValOK_true_split (fa : Bytes → Option Nat) (tok file : Bytes) (line : Int) (l r : Node) :
    nValOK fa true (.mk NodeT.SPLIT tok file line l r) = (nValOK fa true l && nValOK fa true r) := by
  rw [nValOK]; simp

theorem nValOK_true_ne (fa : Bytes → Option Nat) (t : Nat) (tok file : Bytes) (line : Int) (l r : Node)
    (h : t ≠ NodeT.SPLIT) :
    nValOK fa true (.mk t tok file line l r) = nValOK fa false (.mk t tok file line l r) := by
  rw [nValOK, nValOK]; simp [h]

theorem value_char : ∀ n : Node,
    (∀ gs tgt, (genV gs n tgt).errors = [] ↔ gs.errors = [] ∧ nValOK (look gs) false n = true) ∧
    (∀ gs acc,
      ((genCA gs n acc).1.errors = [] ↔ gs.errors = [] ∧ nValOK (look gs) true n = true) ∧
      (genCA gs n acc).2.length = acc.length + argCount n)
  | .nil => ⟨fun gs tgt => by rw [genV_nil]; exact (and_iff_left rfl).symm,
             fun gs acc => by rw [genCA_nil]; exact ⟨(and_iff_left rfl).symm, rfl⟩⟩
  | .mk t tok file line l r => by
    have ihl := (value_char l).2
    have ihr := (value_char r).2
    have hv : ∀ gs tgt, (genV gs (.mk t tok file line l r) tgt).errors = [] ↔
        gs.errors = [] ∧ nValOK (look gs) false (.mk t tok file line l r) = true := by
      intro gs tgt
      rw [genV_mk, nValOK_false_mk]
      have e0 := advanceLine_errors gs line file
      have hl0 : look (gs.advanceLine line file) = look gs := look_eq (quiet_advanceLine gs line file).funcAddrs
      generalize gs.advanceLine line file = gs0 at e0 hl0
      by_cases h1 : t = NodeT.NAME
      · rw [if_pos h1, if_pos h1, emit_errors, fetchVar_errors, e0]; exact (and_iff_left rfl).symm
      rw [if_neg h1, if_neg h1]
      by_cases h2 : t = NodeT.NUMBER
      · rw [if_pos h2, if_pos h2, emit_errors, genStrToInt_errors, rangeBad_strtol, e0, Bool.not_eq_true']
      rw [if_neg h2, if_neg h2]
      by_cases h3 : t = NodeT.CALL
      · obtain ⟨he, hlen⟩ := ihr gs0 []
        rw [if_pos h3, if_pos h3, (callTail_spec _ _ _ _ _).2, he, hlen,
          look_congr ((quiet_values r).2 gs0 []).funcAddrs, hl0, e0]
        simp only [List.length_nil, Nat.zero_add, Bool.and_eq_true, Bool.or_eq_true, decide_eq_true_eq, beq_iff_eq,
          and_assoc]
      · rw [if_neg h3, if_neg h3, ← e0]; exact err_errors_iff _ _ Bool.false_ne_true
    refine ⟨hv, fun gs acc => ?_⟩
    rw [genCA_mk]
    by_cases h1 : t = NodeT.SPLIT
    · subst h1
      obtain ⟨he1, hlen1⟩ := ihl gs acc
      obtain ⟨he2, hlen2⟩ := ihr (genCA gs l acc).1 (genCA gs l acc).2
      rw [if_pos rfl, nValOK_true_split, he2, he1, hlen2, hlen1,
        look_eq ((quiet_values l).2 gs acc).funcAddrs, Bool.and_eq_true, and_assoc, Nat.add_assoc]
      exact ⟨Iff.rfl, rfl⟩
    · rw [if_neg h1, nValOK_true_ne _ _ _ _ _ _ _ h1]
      dsimp only
      rw [hv, fetchTemporary_errors, look_eq (quiet_fetchTemporary gs).funcAddrs,
        List.length_append, argCount, if_neg h1]
      exact ⟨Iff.rfl, rfl⟩

theorem value_errors {gs p : GS} (q : Quiet gs p) (e : p.errors = gs.errors) (n : Node) (tgt : Int) :
    (genV p n tgt).errors = [] ↔ gs.errors = [] ∧ nValOK (look gs) false n = true := by
  rw [(value_char n).1 p tgt, e, look_eq q.funcAddrs]

def regNames (gs : GS) : List Bytes := gs.top.regs.map (·.name)

theorem findReg_isSome (n : Bytes) : ∀ (regs : List VReg) (i : Nat),
    (findReg regs n i).isSome = true ↔ n ∈ regs.map (·.name)
  | [], _ => by simp [findReg]
  | r :: rs, i => by
    unfold findReg
    by_cases h : r.name = n
    · simp [h]
    · rw [if_neg h, findReg_isSome n rs (i + 1)]
      simp
      intro h'; exact absurd h'.symm h

theorem fetchVar_regNames (gs : GS) (n : Bytes) (x : Bytes) :
    x ∈ regNames (gs.fetchVar n).1 ↔ x ∈ regNames gs ∨ x = n := by
  unfold fetchVar
  dsimp only
  cases hf : findReg gs.top.regs n 0 with
  | some i =>
    dsimp only
    have : n ∈ regNames gs := (findReg_isSome n _ 0).1 (by rw [hf]; rfl)
    constructor
    · exact Or.inl
    · rintro (h | h)
      · exact h
      · exact h ▸ this
  | none =>
    dsimp only
    unfold regNames
    simp

theorem argStep_char (gs : GS) (x : Bytes) :
    ((argStep gs x).errors = [] ↔ gs.errors = [] ∧ x ∉ regNames gs) ∧
    (∀ y, y ∈ regNames (argStep gs x) ↔ y ∈ regNames gs ∨ y = x) ∧
    (argStep gs x).top.argnum = gs.top.argnum + 1 := by
  have hreg : regNames (bumpArg (if (findReg gs.top.regs x 0).isSome then gs.err GErrT.INTERNAL_ERROR else gs)) =
      regNames gs := by split <;> rfl
  refine ⟨?_, fun y => ?_, ?_⟩
  · show ((bumpArg _).fetchVar x).1.errors = [] ↔ _
    rw [fetchVar_errors]
    show GS.errors (if _ then _ else _) = [] ↔ _
    rw [errIf_errors, findReg_isSome x gs.top.regs 0]; rfl
  · show y ∈ regNames ((bumpArg _).fetchVar x).1 ↔ _
    rw [fetchVar_regNames, hreg]
  · show ((bumpArg _).fetchVar x).1.top.argnum = _
    rw [(quiet_fetchVar _ _).argnum]
    split <;> rfl

theorem args_char (gs : GS) (n : Node) :
    ((genArgs gs n).errors = [] ↔
      gs.errors = [] ∧ (namesOf n).Nodup ∧ ∀ x ∈ namesOf n, x ∉ regNames gs) ∧
    (∀ x, x ∈ regNames (genArgs gs n) ↔ x ∈ regNames gs ∨ x ∈ namesOf n) ∧
    (genArgs gs n).top.argnum = gs.top.argnum + (namesOf n).length := by
  rw [genArgs_fold]
  generalize namesOf n = ns
  induction ns generalizing gs with
  | nil => simp
  | cons x xs ih =>
    obtain ⟨e1, r1, a1⟩ := argStep_char gs x
    obtain ⟨e2, r2, a2⟩ := ih (argStep gs x)
    rw [List.foldl_cons]
    refine ⟨?_, fun y => by rw [r2, r1, List.mem_cons, or_assoc], by rw [a2, a1, List.length_cons]; omega⟩
    rw [e2, e1, List.nodup_cons]
    simp only [r1, List.mem_cons, not_or, forall_eq_or_imp]
    constructor
    · rintro ⟨⟨h0, hx⟩, hn, hd⟩
      exact ⟨h0, ⟨fun hin => (hd x hin).2 rfl, hn⟩, hx, fun a ha => (hd a ha).1⟩
    · rintro ⟨h0, ⟨hx, hn⟩, hx', hd⟩
      exact ⟨⟨h0, hx'⟩, hn, fun a ha => ⟨hd a ha, fun e => hx (e ▸ ha)⟩⟩

structure StmtSpec (gs gs' : GS) (n : Node) : Prop where
  errs : gs'.errors = [] ↔ gs.errors = [] ∧ nStmtOK (look gs) n = true
  funcAddrs : gs'.funcAddrs = gs.funcAddrs
  mstate : ∀ m, mstate gs' m = upd n (mstate gs) m


theorem StmtSpec.nil (gs : GS) : StmtSpec gs gs .nil := ⟨(and_iff_left rfl).symm, rfl, fun _ => rfl⟩

/-- in front of a statement `n`: steps that leave the verdict's state alone and record an error
    iff `c` fails; `e1`, `e2` say that this is what the node `n'` stands for -/
theorem StmtSpec.guard {gs v g : GS} {n n' : Node} {c : Bool} (w : MarksWF gs) (q : Quiet gs v)
    (ev : v.errors = [] ↔ gs.errors = [] ∧ c = true) (h : MarksWF v → StmtSpec v g n)
    (e1 : nStmtOK (look gs) n' = (c && nStmtOK (look gs) n)) (e2 : upd n' = upd n) : StmtSpec gs g n' :=
  have h := h (q.wf w)
  ⟨by rw [h.errs, ev, look_eq q.funcAddrs, e1, Bool.and_eq_true, and_assoc], h.funcAddrs.trans q.funcAddrs,
   fun m => by rw [h.mstate, funext q.mstate, e2]⟩

theorem StmtSpec.quiet {gs v g : GS} {n : Node} (w : MarksWF gs) (q : Quiet gs v) (e : v.errors = gs.errors)
    (h : MarksWF v → StmtSpec v g n) : StmtSpec gs g n :=
  StmtSpec.guard (c := true) w q (by rw [e]; exact (and_iff_left rfl).symm) h rfl rfl

/-- a loop around a statement (see `Step.bracket`): its labels belong to no mark -/
theorem StmtSpec.bracket {gs m b res : GS} {startL endL : Nat} {n : Node} (w : MarksWF gs)
    (sm : LoopMidSpec gs m startL endL) (hb : Step m b) (sb : MarksWF m → StmtSpec m b n)
    (sc : startL < b.labels.length → ClosesSpec b res endL ∧ (TodoOK b → TodoOK res)) : StmtSpec gs res n := by
  have sb := sb (sm.wf w)
  have hlen : gs.labels.length + 2 ≤ b.labels.length := by rw [← sm.lablen]; exact hb.lablen
  obtain ⟨sc, _⟩ := sc (by rw [sm.startL]; omega)
  have hn : ∀ x ∈ b.top.marks, x.2 ≠ endL := by
    intro x hx
    rw [sm.endL]
    rcases hb.new x hx with h | h
    · have := w.lt x (sm.marks ▸ h); omega
    · rw [sm.lablen] at h; omega
  exact ⟨by rw [sc.errors, sb.errs, sm.errors, look_eq sm.funcAddrs],
    sc.funcAddrs.trans (sb.funcAddrs.trans sm.funcAddrs),
    fun x => by rw [sc.mstate hn, sb.mstate, funext (sm.mstate w)]⟩

theorem stmt_char : ∀ n, stmtShape n = true → ∀ gs : GS, MarksWF gs → StmtSpec gs (genS gs n) n := by
  apply stmtShape_induction
  case nil => intro gs _; rw [genS_nil]; exact StmtSpec.nil gs
  case split =>
    intro tok file line l r _ _ ihl ihr gs w
    rw [genS_split]
    refine StmtSpec.quiet w (quiet_advanceLine gs line file) (advanceLine_errors _ _ _) fun w => ?_
    have s1 := ihl _ w
    have s2 := ihr _ ((step_void _ l).wf w)
    refine ⟨?_, s2.funcAddrs.trans s1.funcAddrs, fun m => by rw [s2.mstate, funext s1.mstate]; rfl⟩
    rw [s2.errs, s1.errs, look_eq s1.funcAddrs, and_assoc, ← Bool.and_eq_true]; rfl
  case assign =>
    intro tok file line l r _ gs w
    rw [genS_assign]
    have q := (quiet_advanceLine gs line file).trans (quiet_fetchVar _ l.tok)
    exact StmtSpec.guard w (q.trans (quiet_value _ _ _)) (value_errors q (by simp) r _)
      (fun _ => .nil _) (Bool.and_true _).symm rfl
  case loop =>
    intro tok file line l r _ _ ih gs w
    rw [genS_loop]
    have q := (quiet_advanceLine gs line file).trans (quiet_loopPre _)
    exact StmtSpec.guard w (q.trans (quiet_value _ _ _)) (value_errors q (by simp) l _)
      (fun w => StmtSpec.bracket w (loopMid_spec _ _) (step_void _ _) (ih _) (loopPost_spec _ _ _ _)) rfl rfl
  case while_ =>
    intro tok file line l r _ _ ih gs w
    rw [genS_while]
    have sm := whilePre_spec (gs.advanceLine line file)
    have qv := quiet_value (whilePre (gs.advanceLine line file)).1 l (whilePre (gs.advanceLine line file)).2.2.2
    have q := qv.trans (quiet_jmpc _ (whilePre (gs.advanceLine line file)).2.2.2 (sm.endL_lt qv))
    exact StmtSpec.quiet w (quiet_advanceLine gs line file) (advanceLine_errors _ _ _) fun w =>
      StmtSpec.bracket w sm (q.step.trans (step_void _ _))
        (fun w => StmtSpec.guard w q (value_errors (Quiet.refl _) rfl l _) (ih _) rfl rfl) (whilePost_spec _ _ _ _)
  case mark =>
    intro tok file line l r gs w
    rw [genS_mark]
    obtain ⟨_, e1, f1, m1⟩ := mark_spec (gs.advanceLine line file) l.tok
    exact StmtSpec.quiet w (quiet_advanceLine gs line file) (advanceLine_errors _ _ _) fun w =>
      ⟨by rw [e1]; exact (and_iff_left rfl).symm, f1, m1 w⟩
  case goto =>
    intro tok file line l r gs w
    rw [genS_goto]
    have j := goto_spec (gs.advanceLine line file) l.tok
    exact StmtSpec.quiet w (quiet_advanceLine gs line file) (advanceLine_errors _ _ _) fun w =>
      ⟨by rw [j.errors]; exact (and_iff_left rfl).symm, j.funcAddrs, j.mstate w⟩
  case if_ =>
    intro tok file line l r _ _ gs w
    rw [genS_if]
    dsimp only
    have q := (quiet_advanceLine gs line file).trans (quiet_ifPre _)
    have e : (ifPre (gs.advanceLine line file)).1.errors = gs.errors := by simp
    generalize (ifPre (gs.advanceLine line file)).1 = p at q e
    generalize (ifPre (gs.advanceLine line file)).2.1 = cond
    generalize (ifPre (gs.advanceLine line file)).2.2.1 = op1
    generalize (ifPre (gs.advanceLine line file)).2.2.2 = op2
    have q1 := q.trans (quiet_value p l.left op1)
    have e1 := value_errors q e l.left op1
    have e2 := value_errors (Quiet.refl (genV p l.left op1)) rfl l.right op2
    have j := ifPost_spec (genV (genV p l.left op1) l.right op2) cond op1 op2 r.left.tok
    -- the jump on its own is a GOTO statement
    refine StmtSpec.guard (n := .mk NodeT.GOTO [] [] 0 r.left .nil) w (q1.trans (quiet_value _ _ _)) ?_
      (fun w => ⟨by rw [j.errors]; exact (and_iff_left rfl).symm, j.funcAddrs, j.mstate w⟩) (Bool.and_true _).symm rfl
    rw [e2, e1, look_eq q1.funcAddrs, and_assoc, ← Bool.and_eq_true]; rfl
  case stop =>
    intro tok file line l r gs w
    rw [genS_stop]
    exact StmtSpec.guard (c := true) w ((quiet_advanceLine gs line file).trans (quiet_emit _ _)) (by simp)
      (fun _ => .nil _) rfl rfl

end Static
end Theo
