/-
  Selection and splicing lemmas for `applyMacros` (C09, C12).
-/
import Theo.Model.MacroApply
import Theo.Proofs.SortedList

namespace Theo

theorem detectFrom_cons (d : Detector) (t : Token) (ts : List Token) (i : Nat) :
    detectFrom d (t :: ts) i =
      match (detectAt d (t :: ts)).filter (fun a => checkConstraint d.md a.split) with
      | some a => some ⟨i, a.total.length, a.split⟩
      | none => detectFrom d ts (i + 1) := by
  rw [detectFrom]
  cases detectAt d (t :: ts) with
  | none => rfl
  | some a => cases h : checkConstraint d.md a.split <;> simp [Option.filter, h]

theorem detectFrom_some (d : Detector) : ∀ (ts : List Token) (i : Nat) (r : Response),
    detectFrom d ts i = some r →
    ∃ k a, k < ts.length ∧ r.location = i + k ∧ detectAt d (ts.drop k) = some a ∧
      checkConstraint d.md a.split = true ∧ r.length = a.total.length ∧ r.matched = a.split ∧
      ∀ j, j < k → ∀ a', detectAt d (ts.drop j) = some a' → checkConstraint d.md a'.split = false := by
  intro ts
  induction ts with
  | nil => intro i r h; simp [detectFrom] at h
  | cons t ts ih =>
    intro i r h
    rw [detectFrom_cons] at h
    split at h
    · next a ha =>
      cases h
      obtain ⟨ha, hc⟩ := Option.filter_eq_some_iff.mp ha
      exact ⟨0, a, by simp, rfl, ha, hc, rfl, rfl, fun j hj => absurd hj (Nat.not_lt_zero j)⟩
    · next h0 =>
      obtain ⟨k, a, hk, hl, ha, hc, hlen, hm, hmin⟩ := ih (i + 1) r h
      refine ⟨k + 1, a, by simp only [List.length_cons]; omega, by omega, ha, hc, hlen, hm, ?_⟩
      intro j hj a' ha'
      cases j with
      | zero => simpa using Option.filter_eq_none_iff.mp h0 a' ha'
      | succ j => exact hmin j (by omega) a' ha'

theorem detectFrom_none (d : Detector) : ∀ (ts : List Token) (i : Nat),
    detectFrom d ts i = none ↔
      ∀ k, k < ts.length → ∀ a, detectAt d (ts.drop k) = some a → checkConstraint d.md a.split = false := by
  intro ts
  induction ts with
  | nil => intro i; simp [detectFrom]
  | cons t ts ih =>
    intro i
    rw [detectFrom_cons, List.length_cons, Nat.forall_lt_succ_left]
    split
    · next a ha =>
      obtain ⟨ha, hc⟩ := Option.filter_eq_some_iff.mp ha
      exact ⟨fun h => (nomatch h), fun h => by simp [h.1 a ha] at hc⟩
    · next h0 =>
      rw [ih (i + 1)]
      exact ⟨fun h => ⟨fun a ha => by simpa using Option.filter_eq_none_iff.mp h0 a ha, h⟩, fun h => h.2⟩

theorem detect_leftmost (d : Detector) (inp : List Token) (r : Response) (h : detect d inp = some r) :
    r.location < inp.length ∧
    (∃ a, detectAt d (inp.drop r.location) = some a ∧ checkConstraint d.md a.split = true ∧
          r.length = a.total.length ∧ r.matched = a.split) ∧
    (∀ i, i < r.location → ∀ a, detectAt d (inp.drop i) = some a → checkConstraint d.md a.split = false) := by
  obtain ⟨k, a, hk, hl, ha, hc, hlen, hm, hmin⟩ := detectFrom_some d inp 0 r h
  have hlk : r.location = k := by omega
  rw [hlk]
  exact ⟨hk, ⟨a, ha, hc, hlen, hm⟩, hmin⟩

def Response.dom (b y : Response) : Prop :=
  b.location < y.location ∨ (b.location = y.location ∧ y.length ≤ b.length)

theorem Response.dom_refl (a : Response) : a.dom a := Or.inr ⟨rfl, Nat.le_refl _⟩

theorem Response.dom_trans {a b c : Response} (h1 : a.dom b) (h2 : b.dom c) : a.dom c := by
  unfold Response.dom at *
  omega

theorem Response.dom_of_better {a b : Response} (h : a.better b = true) : a.dom b := by
  simp only [Response.better, Bool.or_eq_true, Bool.and_eq_true, beq_iff_eq, decide_eq_true_eq] at h
  unfold Response.dom
  omega

theorem Response.dom_of_not_better {a b : Response} (h : ¬ a.better b = true) : b.dom a := by
  simp only [Response.better, Bool.or_eq_true, Bool.and_eq_true, beq_iff_eq, decide_eq_true_eq] at h
  unfold Response.dom
  omega

theorem foldl_best (xs : List (Detector × Response)) : ∀ (x : Detector × Response),
    xs.foldl (fun best y => if y.2.better best.2 then y else best) x ∈ x :: xs ∧
    ∀ y ∈ x :: xs, (xs.foldl (fun best y => if y.2.better best.2 then y else best) x).2.dom y.2 := by
  induction xs with
  | nil => intro x; simp [Response.dom_refl]
  | cons y ys ih =>
    intro x
    rw [List.foldl_cons]
    obtain ⟨x', hx', hmem, hdx, hdy⟩ : ∃ x', (if y.2.better x.2 then y else x) = x' ∧
        (x' = x ∨ x' = y) ∧ x'.2.dom x.2 ∧ x'.2.dom y.2 := by
      by_cases hb : y.2.better x.2 = true
      · exact ⟨y, if_pos hb, Or.inr rfl, Response.dom_of_better hb, Response.dom_refl _⟩
      · exact ⟨x, if_neg hb, Or.inl rfl, Response.dom_refl _, Response.dom_of_not_better hb⟩
    obtain ⟨h1, h2⟩ := ih x'
    have hd := h2 x' (by simp)
    rw [hx']
    refine ⟨?_, fun z hz => ?_⟩
    · rcases List.mem_cons.mp h1 with h | h
      · rw [h]; rcases hmem with e | e <;> simp [e]
      · simp [h]
    · rcases List.mem_cons.mp hz with rfl | hz
      · exact Response.dom_trans hd hdx
      · rcases List.mem_cons.mp hz with rfl | hz
        · exact Response.dom_trans hd hdy
        · exact h2 z (by simp [hz])

theorem pickBest_some {l : List (Detector × Response)} {b : Detector × Response}
    (h : pickBest l = some b) : b ∈ l ∧ ∀ y ∈ l, b.2.dom y.2 := by
  cases l with
  | nil => simp [pickBest] at h
  | cons x xs =>
    simp only [pickBest, Option.some.injEq] at h
    exact h ▸ foldl_best xs x

theorem pickBest_none {l : List (Detector × Response)} : pickBest l = none ↔ l = [] := by
  cases l <;> simp [pickBest]

theorem mem_detections {b : List Detector} {inp : List Token} {d : Detector} {r : Response} :
    (d, r) ∈ b.filterMap (fun d => (detect d inp).map (fun r => (d, r))) ↔ d ∈ b ∧ detect d inp = some r := by
  simp only [List.mem_filterMap, Option.map_eq_some_iff, Prod.mk.injEq]
  constructor
  · rintro ⟨d', hd', r', hr', rfl, rfl⟩
    exact ⟨hd', hr'⟩
  · rintro ⟨hd, hr⟩
    exact ⟨d, hd, r, hr, rfl, rfl⟩

theorem detections_nil {b : List Detector} {inp : List Token} :
    b.filterMap (fun d => (detect d inp).map (fun r => (d, r))) = [] ↔ ∀ d ∈ b, detect d inp = none := by
  simp only [List.filterMap_eq_nil_iff, Option.map_eq_none_iff]

/-- `applyStep` through `List.findSome?`, whose lemmas then stand in for inductions over the bins -/
theorem applyStep_eq (bs : List (List Detector)) (inp : List Token) (p : Nat) :
    applyStep bs inp p =
      (bs.findSome? fun b => pickBest (b.filterMap fun d => (detect d inp).map fun r => (d, r))).map
        fun dr => (dr.1, dr.2, inp.take dr.2.location ++ replacement dr.1.md dr.2 p ++
          inp.drop (dr.2.location + dr.2.length)) := by
  induction bs with
  | nil => rfl
  | cons b rest ih =>
    rw [applyStep, List.findSome?_cons]
    cases pickBest (b.filterMap fun d => (detect d inp).map fun r => (d, r)) with
    | none => exact ih
    | some dr => rfl

theorem applyStep_some (bs : List (List Detector)) (inp : List Token) (p : Nat)
    (d : Detector) (r : Response) (out : List Token) (h : applyStep bs inp p = some (d, r, out)) :
    ∃ pre b post, bs = pre ++ b :: post ∧ (∀ b' ∈ pre, ∀ d' ∈ b', detect d' inp = none) ∧
      d ∈ b ∧ detect d inp = some r ∧
      out = inp.take r.location ++ replacement d.md r p ++ inp.drop (r.location + r.length) ∧
      ∀ d' ∈ b, ∀ r', detect d' inp = some r' → r.dom r' := by
  rw [applyStep_eq, Option.map_eq_some_iff] at h
  obtain ⟨⟨d0, r0⟩, hf, he⟩ := h
  cases he
  obtain ⟨pre, b, post, rfl, hb, hpre⟩ := List.findSome?_eq_some_iff.1 hf
  obtain ⟨hmem, hdom⟩ := pickBest_some hb
  rw [mem_detections] at hmem
  exact ⟨pre, b, post, rfl, fun b' hb' => detections_nil.1 (pickBest_none.1 (hpre b' hb')),
    hmem.1, hmem.2, rfl, fun d' hd' r' hr' => hdom (d', r') (mem_detections.2 ⟨hd', hr'⟩)⟩

theorem applyStep_none (bs : List (List Detector)) (inp : List Token) (p : Nat) :
    applyStep bs inp p = none ↔ ∀ b ∈ bs, ∀ d ∈ b, detect d inp = none := by
  simp only [applyStep_eq, Option.map_eq_none_iff, List.findSome?_eq_none_iff, pickBest_none,
    detections_nil]

def prios (ds : List Detector) : List Int :=
  insertionSort (fun a b => decide (a > b)) ((ds.map (·.md.priority)).eraseDups)

theorem bins_eq (ds : List Detector) :
    bins ds = (prios ds).map (fun p => ds.filter (fun d => d.md.priority = p)) := rfl

theorem prios_sorted (ds : List Detector) : (prios ds).Pairwise (· > ·) :=
  pairwise_insertionSort _ (· > ·) (fun _ _ h => of_decide_eq_true h)
    (fun _ _ _ h1 h2 => Int.lt_trans h2 h1) _

theorem mem_prios (ds : List Detector) (p : Int) : p ∈ prios ds ↔ ∃ d ∈ ds, d.md.priority = p := by
  rw [prios, mem_insertionSort _ (fun a b h1 h2 => by
    have := of_decide_eq_false h1; have := of_decide_eq_false h2; omega),
    List.mem_eraseDups, List.mem_map]

theorem mem_bins_mem {ds : List Detector} {b : List Detector} (hb : b ∈ bins ds) {d : Detector}
    (hd : d ∈ b) : d ∈ ds := by
  rw [bins_eq, List.mem_map] at hb
  obtain ⟨p, _, rfl⟩ := hb
  exact (List.mem_filter.mp hd).1

theorem bins_split {ds : List Detector} {pre post : List (List Detector)} {b : List Detector}
    (h : bins ds = pre ++ b :: post) :
    ∃ ppre p ppost, prios ds = ppre ++ p :: ppost ∧
      pre = ppre.map (fun p => ds.filter (fun d => d.md.priority = p)) ∧
      b = ds.filter (fun d => d.md.priority = p) := by
  rw [bins_eq, List.map_eq_append_iff] at h
  obtain ⟨l1, l2, hl, h1, h2⟩ := h
  rw [List.map_eq_cons_iff] at h2
  obtain ⟨p, l3, rfl, hp, _⟩ := h2
  exact ⟨l1, p, l3, hl, h1.symm, hp.symm⟩

theorem applyStep_bins (ds : List Detector) (inp : List Token) (p : Nat)
    (d : Detector) (r : Response) (out : List Token) (h : applyStep (bins ds) inp p = some (d, r, out)) :
    (∀ d' ∈ ds, (detect d' inp).isSome = true → d'.md.priority ≤ d.md.priority) ∧
    (∀ d' ∈ ds, d'.md.priority = d.md.priority → ∀ r', detect d' inp = some r' → r.dom r') := by
  obtain ⟨pre, b, post, hbs, hpre, hdb, _, _, hdom⟩ := applyStep_some _ _ _ _ _ _ h
  obtain ⟨ppre, q, ppost, hpr, rfl, rfl⟩ := bins_split hbs
  have hdq : d.md.priority = q := by
    have := (List.mem_filter.mp hdb).2
    simpa using this
  constructor
  · intro d' hd' hsome
    have hmem : d'.md.priority ∈ prios ds := (mem_prios ds _).mpr ⟨d', hd', rfl⟩
    have hsorted := prios_sorted ds
    rw [hpr] at hmem hsorted
    rw [List.pairwise_append] at hsorted
    obtain ⟨_, hs2, _⟩ := hsorted
    rw [List.pairwise_cons] at hs2
    rcases List.mem_append.mp hmem with hm | hm
    · exfalso
      have := hpre (ds.filter (fun d => d.md.priority = d'.md.priority))
        (List.mem_map.mpr ⟨_, hm, rfl⟩) d' (List.mem_filter.mpr ⟨hd', by simp⟩)
      rw [this] at hsome
      cases hsome
    · rcases List.mem_cons.mp hm with hm | hm
      · omega
      · have := hs2.1 _ hm
        omega
  · intro d' hd' hpq r' hr'
    exact hdom d' (List.mem_filter.mpr ⟨hd', by simp [hpq, hdq]⟩) r' hr'

def nonLRErrs (defs : List MacroDef) : List PErr :=
  (defs.map mkDetector).filterMap (fun d =>
    if d.usable then none
    else some ⟨PErrT.MACRO_COMPILE_NON_LR, (d.md.rule.head?.getD default).file,
               (d.md.rule.head?.getD default).line, []⟩)

def maxPassesErr : PErr := ⟨PErrT.MACRO_APPLY_REACHED_MAX_PASSES, bDash, -1, []⟩

theorem applyMacros_eq (inp : List Token) (defs : List MacroDef) (passes : Nat) :
    applyMacros inp defs passes =
      match passes with
      | 0 => ⟨inp, nonLRErrs defs, 0⟩
      | k + 1 =>
        ⟨(passLoop (bins ((defs.map mkDetector).filter (·.usable))) (k + 1) 0 inp 0).1,
          nonLRErrs defs ++
            (if (passLoop (bins ((defs.map mkDetector).filter (·.usable))) (k + 1) 0 inp 0).2.2 then [maxPassesErr]
             else []),
          (passLoop (bins ((defs.map mkDetector).filter (·.usable))) (k + 1) 0 inp 0).2.1⟩ := by
  cases passes with
  | zero => rfl
  | succ k =>
    simp only [applyMacros, nonLRErrs, maxPassesErr]
    split <;> simp [*]

theorem applyMacros_errs (inp : List Token) (defs : List MacroDef) (passes : Nat) :
    ∃ tl, (applyMacros inp defs passes).errs = nonLRErrs defs ++ tl ∧ ∀ e ∈ tl, e = maxPassesErr := by
  rw [applyMacros_eq]
  cases passes with
  | zero => exact ⟨[], (List.append_nil _).symm, nofun⟩
  | succ k => exact ⟨_, rfl, by split <;> simp⟩

theorem nonLRErrs_filter (defs : List MacroDef) :
    ((nonLRErrs defs).filter (fun e => decide (e.kind = PErrT.MACRO_COMPILE_NON_LR))).map
        (fun e => (e.file, e.line)) =
      (defs.filter (fun m => !(mkDetector m).usable)).map
        (fun m => ((m.rule.head?.getD default).file, (m.rule.head?.getD default).line)) := by
  induction defs with
  | nil => rfl
  | cons m ms ih =>
    simp only [nonLRErrs, List.map_cons, List.filterMap_cons] at ih ⊢
    cases hu : (mkDetector m).usable with
    | true => simpa [hu] using ih
    | false =>
      simp only [hu, Bool.false_eq_true, if_false, List.filter_cons, decide_true, if_true,
        List.map_cons, Bool.not_false]
      rw [ih]
      rfl

theorem usable_filter_eq (defs : List MacroDef) :
    ((defs.filter (fun m => (mkDetector m).usable)).map mkDetector).filter (·.usable) =
      (defs.map mkDetector).filter (·.usable) := by
  induction defs with
  | nil => rfl
  | cons m ms ih =>
    cases hu : (mkDetector m).usable with
    | true => simp [hu, ih]
    | false => simp [hu, ih]

theorem step_detector (defs : List MacroDef) (inp : List Token) (p : Nat)
    (d : Detector) (r : Response) (out : List Token)
    (h : applyStep (bins ((defs.map mkDetector).filter (·.usable))) inp p = some (d, r, out)) :
    ∃ m ∈ defs, d = mkDetector m ∧ (mkDetector m).usable = true := by
  obtain ⟨pre, b, post, hbs, _, hdb, _⟩ := applyStep_some _ _ _ _ _ _ h
  have hb : b ∈ bins ((defs.map mkDetector).filter (·.usable)) := by rw [hbs]; simp
  have hd := mem_bins_mem hb hdb
  rw [List.mem_filter, List.mem_map] at hd
  obtain ⟨⟨m, hm, rfl⟩, hu⟩ := hd
  exact ⟨m, hm, rfl, hu⟩

theorem step_usable (defs : List MacroDef) (inp : List Token) (p : Nat)
    (d : Detector) (r : Response) (out : List Token)
    (h : applyStep (bins ((defs.map mkDetector).filter (·.usable))) inp p = some (d, r, out)) :
    d.tables.conflicts = [] ∧ d.md ∈ defs := by
  obtain ⟨m, hm, rfl, hu⟩ := step_detector defs inp p d r out h
  exact ⟨by simpa [Detector.usable] using hu, hm⟩

end Theo
