/-
  The simulation with visit events along whole executions.  `traceT`: `n` reference steps from a
  matched state are matched by a VM run passing exactly the sites of the lines visited, with
  agreeing variables at each (`step_trace`, from the initial state).  `reachT`: while the
  reference machine runs, the matched VM run gets arbitrarily long, so every VM prefix lies inside
  one (`no_extra_stops`).
-/
import Theo.Proofs.SimStepT
import Theo.Proofs.Simulation

namespace Theo
namespace Sim
open Sem WF
open LoopHalts (stepN stepN_fixed)

theorem visits_stopped (src : Source) {c : Config} (h : c.status ≠ .running) :
    ∀ n, visits src n c = [] := by
  intro n
  cases n with
  | zero => rfl
  | succ n =>
    rw [visits.eq_def]
    simp only

theorem visitConfigs_stopped (src : Source) {c : Config} (h : c.status ≠ .running) :
    ∀ n, visitConfigs src n c = [] := by
  intro n
  cases n with
  | zero => rfl
  | succ n =>
    rw [visitConfigs.eq_def]
    simp only

theorem visits_succ (src : Source) {c : Config} (h : c.status = .running) (n : Nat) :
    visits src (n + 1) c = (stepEvent c).toList ++ visits src n (Sem.step src c) := by
  rw [visits.eq_def]
  simp only [h]

theorem visitConfigs_succ (src : Source) {c : Config} (h : c.status = .running) (n : Nat) :
    visitConfigs src (n + 1) c =
      (if (stepEvent c).isSome then [c] else []) ++ visitConfigs src n (Sem.step src c) := by
  rw [visitConfigs.eq_def]
  simp only [h]

/-- views agree at corresponding stops: `StopsAgree` of Props/C07.lean on `StacksAgree'` -/
def StopsAgree' (p : Program) : List Config → List (BreakPoint × VM) → Prop
  | [], [] => True
  | c :: cs, (_, vm) :: vs => StacksAgree' p vm.data c.stack vm.stack ∧ StopsAgree' p cs vs
  | _, _ => False

theorem StopsAgree'.append {p : Program} : ∀ {a1 : List Config} {l1 : List (BreakPoint × VM)}
    {a2 : List Config} {l2 : List (BreakPoint × VM)}, StopsAgree' p a1 l1 → StopsAgree' p a2 l2 →
    StopsAgree' p (a1 ++ a2) (l1 ++ l2) := by
  intro a1
  induction a1 with
  | nil =>
    intro l1 a2 l2 h1 h2
    cases l1 with
    | nil => exact h2
    | cons _ _ => exact h1.elim
  | cons c cs ih =>
    intro l1 a2 l2 h1 h2
    cases l1 with
    | nil => exact h1.elim
    | cons x xs => exact ⟨h1.1, ih h1.2 h2⟩

theorem evOK_stops {p : Program} {cfg : Config} {L : List (BreakPoint × VM)} (h : EvOK p cfg L) :
    StopsAgree' p (if (stepEvent cfg).isSome then [cfg] else []) L := by
  obtain ⟨h1, h2⟩ := h
  cases he : stepEvent cfg with
  | none =>
    rw [he] at h1
    obtain rfl := List.map_eq_nil_iff.1 h1
    exact trivial
  | some q =>
    rw [he] at h1
    cases L with
    | nil => cases h1
    | cons x t =>
      cases t with
      | nil => exact ⟨h2 x (List.mem_singleton.2 rfl), trivial⟩
      | cons _ _ => cases h1

section
variable {src : Source} {p : Program} {V : Valid src p} {tend : Nat → Nat} {c : Cert} {R : PcInfo}
  (hc : CertOK p c R) (hV : V.OK) (hT : TValid V tend)
include hc hV hT

theorem init_matchT : ∃ vm, QS p (VM.mk' p) vm ∧ MatchT V tend c R (initial src) vm := by
  obtain ⟨a, vm, s, g, ip, st, hd, hf⟩ := init_run hc hV hT.skips
  refine ⟨vm, s.qs, g, rfl, ⟨_, ip, ?_⟩, ?_⟩
  · rw [st]
    refine stackRelT_cons.2 ⟨⟨Nat.le_refl _, hd, hf, ?_⟩, rfl, rfl⟩
    have := hT.body _ (Nat.le_refl _)
    rw [bodyOf_root] at this
    exact ⟨_, this, rfl⟩
  · intro fr rest h
    cases h
    exact fun ⟨_, _, h⟩ => nomatch h

theorem traceT : ∀ (n : Nat) (cfg : Config) (vm : VM), MatchT V tend c R cfg vm →
    ∃ k vm', Steps vm k vm' ∧
      (sitesPassed p k vm).map (fun x => posOfBp x.1) = visits src n cfg ∧
      StopsAgree' p (visitConfigs src n cfg) (sitesPassed p k vm) ∧
      (stepN src n cfg).status ≠ .stuck ∧
      ((stepN src n cfg).status = .running → MatchT V tend c R (stepN src n cfg) vm') ∧
      ((stepN src n cfg).status = .halted → vm'.isDone = .ok true) := by
  intro n
  induction n with
  | zero =>
    intro cfg vm hm
    refine ⟨0, vm, Steps.refl _, rfl, trivial, ?_,
      fun _ => hm, fun h => ?_⟩
    · show cfg.status ≠ .stuck
      rw [hm.run]; nofun
    · have : cfg.status = .halted := h
      rw [hm.run] at this; cases this
  | succ n ih =>
    intro cfg vm hm
    have hrun := hm.run
    rw [stepN, visits_succ src hrun, visitConfigs_succ src hrun]
    have hres := sim_stepT hc hV hT hm
    cases hres with
    | run vm1 L1 hr1 hs1 hev hm1 =>
      have hes : ES p vm L1 vm1 := by
        rcases hs1 with hs1 | ⟨rfl, rfl, _⟩
        · exact hs1.es
        · exact ES.refl _ _
      obtain ⟨k1, st1, e1⟩ := hes
      obtain ⟨k2, vm2, st2, e2, a2, b2, c2, d2⟩ := ih _ vm1 hm1
      refine ⟨k1 + k2, vm2, st1.trans st2, ?_, ?_, b2, c2, d2⟩
      · rw [sitesPassed_add p st1, List.map_append, e1, e2, hev.1]
      · rw [sitesPassed_add p st1, e1]
        exact (evOK_stops hev).append a2
    | halt vm1 L1 hh1 hs1 hev hd1 _ =>
      obtain ⟨k1, st1, e1⟩ := hs1
      have hnr : (Sem.step src cfg).status ≠ .running := by rw [hh1]; nofun
      refine ⟨k1, vm1, st1, ?_, ?_, ?_, ?_, fun _ => hd1⟩
      · rw [e1, visits_stopped src hnr, List.append_nil, hev.1]
      · rw [e1, visitConfigs_stopped src hnr, List.append_nil]
        exact evOK_stops hev
      · rw [stepN_fixed src hnr, hh1]; nofun
      · intro h; rw [stepN_fixed src hnr, hh1] at h; cases h

theorem step_trace (n : Nat) :
    ∃ m, (sitesPassed p m (VM.mk' p)).map (fun x => posOfBp x.1) = visits src n (initial src) ∧
      StopsAgree' p (visitConfigs src n (initial src)) (sitesPassed p m (VM.mk' p)) := by
  obtain ⟨vm0, ⟨k0, st0, e0⟩, hm0⟩ := init_matchT hc hV hT
  obtain ⟨k, vm', st, e1, a1, _, _, _⟩ := traceT hc hV hT n _ vm0 hm0
  refine ⟨k0 + k, ?_, ?_⟩
  · rw [sitesPassed_add p st0, e0, List.nil_append]; exact e1
  · rw [sitesPassed_add p st0, e0, List.nil_append]; exact a1

theorem reachT : ∀ (N : Nat) (cfg : Config) (vm : VM), MatchT V tend c R cfg vm →
    (∀ i, (stepN src i cfg).status = .running) →
    ∃ n k vm', N ≤ k ∧ Steps vm k vm' ∧
      (sitesPassed p k vm).map (fun x => posOfBp x.1) = visits src n cfg := by
  intro N
  induction N with
  | zero => intro cfg vm _ _; exact ⟨0, 0, vm, Nat.le_refl _, Steps.refl _, rfl⟩
  | succ N ihN =>
    have inner : ∀ (m : Nat) (cfg : Config) (vm : VM), cmeasure cfg = m → MatchT V tend c R cfg vm →
        (∀ i, (stepN src i cfg).status = .running) →
        ∃ n k vm', N + 1 ≤ k ∧ Steps vm k vm' ∧
          (sitesPassed p k vm).map (fun x => posOfBp x.1) = visits src n cfg := by
      intro m
      induction m using Nat.strongRecOn with
      | _ m ih =>
        intro cfg vm hmeas hm hdiv
        have hdiv' : ∀ i, (stepN src i (Sem.step src cfg)).status = .running :=
          fun i => hdiv (i + 1)
        have hres := sim_stepT hc hV hT hm
        cases hres with
        | run vm1 L1 hr1 hs1 hev hm1 =>
          rcases hs1 with ⟨k1, st1, e1⟩ | ⟨rfl, rfl, hlt⟩
          · obtain ⟨n2, k2, vm2, hk2, st2, e2⟩ := ihN _ vm1 hm1 hdiv'
            refine ⟨n2 + 1, k1 + 1 + k2, vm2, by omega, st1.trans st2, ?_⟩
            rw [sitesPassed_add p st1, List.map_append, e1, e2, visits_succ src hm.run, hev.1]
          · obtain ⟨n2, k2, vm2, hk2, st2, e2⟩ := ih _ (by rw [← hmeas]; exact hlt) _ _ rfl hm1 hdiv'
            refine ⟨n2 + 1, k2, vm2, hk2, st2, ?_⟩
            have h0 : (stepEvent cfg).toList = [] := by rw [← hev.1]; rfl
            rw [e2, visits_succ src hm.run, h0, List.nil_append]
        | halt vm1 L1 hh1 _ _ _ _ =>
          have := hdiv 1
          have e : stepN src 1 cfg = Sem.step src cfg := rfl
          rw [e, hh1] at this
          cases this
    intro cfg vm hm hdiv
    exact inner _ cfg vm rfl hm hdiv

theorem no_extra_stops (m : Nat) :
    ∃ n, (sitesPassed p m (VM.mk' p)).map (fun x => posOfBp x.1) <+: visits src n (initial src) := by
  obtain ⟨vm0, ⟨k0, st0, e0⟩, hm0⟩ := init_matchT hc hV hT
  have hpre : ∀ k, sitesPassed p (k0 + k) (VM.mk' p) = sitesPassed p k vm0 :=
    fun k => by rw [sitesPassed_add p st0, e0, List.nil_append]
  by_cases hdiv : ∀ i, (stepN src i (initial src)).status = .running
  · obtain ⟨n, k, vm', hk, st, e1⟩ := reachT hc hV hT m _ vm0 hm0 hdiv
    refine ⟨n, ?_⟩
    rw [← e1, ← hpre]
    exact (sitesPassed_mono p _ (Nat.le_trans hk (Nat.le_add_left _ _))).map _
  · obtain ⟨i, hi⟩ := Classical.not_forall.1 hdiv
    obtain ⟨k, vm', st, e1, _, hns, _, hh⟩ := traceT hc hV hT i _ vm0 hm0
    have hdone : vm'.isDone = .ok true := by
      cases hst : (stepN src i (initial src)).status with
      | running => exact absurd hst hi
      | halted => exact hh hst
      | stuck => exact absurd hst hns
    refine ⟨i, ?_⟩
    rw [← e1, ← hpre]
    -- beyond the halting prefix the VM passes nothing more
    rcases Nat.le_total m (k0 + k) with hle | hge
    · exact (sitesPassed_mono p _ hle).map _
    · rw [← Nat.add_sub_of_le hge, sitesPassed_add p (st0.trans st), sitesPassed_halt p hdone,
        List.append_nil]
      exact List.prefix_refl _

end

end Sim
end Theo
