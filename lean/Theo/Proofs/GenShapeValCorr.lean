/-
  C01 for the generator model: `value_corr` — the code the generator emits for a value (an argument
  list) passes `checkValue` (`checkArgs`) for the value (list) `valueOf` (`valuesOf`) reads off
  the same tree.
-/
import Theo.Proofs.GenShapeVal
import Theo.Proofs.SimShape
import Theo.Proofs.StaticSrc

namespace Theo
namespace GenShape
open GS Sem Static

/-- `C` the final code and `L` the final label table of the program, `R` the final register file of
    the routine, `rt` its number in `src` (`src.progs.length` for the main statements), `infos` what
    the validator knows of the definitions in front of it, `entry` the pc of its entry -/
structure RC where
  C : List Instr
  L : List Int
  R : List VReg
  src : Source
  rt : Nat
  infos : List RInfo
  entry : Nat

def RC.e (X : RC) : VEnv := ⟨X.C, X.src, ⟨X.entry, X.rt, smap X.R⟩, X.rt, X.infos⟩

structure RC.OK (X : RC) : Prop where
  tn : TempNamed X.R
  ntn : NTNodup X.R
  ctr : ∃ n, CtrInv X.R n

def FuncInv (X : RC) (gs : GS) : Prop :=
  ∀ f j pd, lookupProg X.src f X.rt = some (j, pd) →
    ∃ p ri, gs.lookupFunc f = some p ∧ p.argnum = pd.params.length ∧ X.infos[j]? = some ri ∧
      p.mi = (ri.mi : Int) ∧ p.ind = (ri.entry : Int)

theorem FuncInv.congr {X : RC} {gs gs' : GS} (h : FuncInv X gs) (hf : gs'.funcAddrs = gs.funcAddrs) : FuncInv X gs' := by
  intro f j pd hl
  obtain ⟨p, ri, h1, h2⟩ := h f j pd hl
  exact ⟨p, ri, by unfold lookupFunc at *; rw [hf]; exact h1, h2⟩

structure VLinks (X : RC) (gs : GS) : Prop where
  regs : RegsExt gs.top.regs X.R
  agree : Agree X.L gs.code X.C
  func : FuncInv X gs

theorem VLinks.back {X : RC} {gs gs' : GS} (h : VLinks X gs') (q : GQ gs gs') : VLinks X gs :=
  ⟨q.regs.trans h.regs, h.agree.of_prefix q.code, h.func.congr q.funcAddrs.symm⟩

/-- the validator's position `pc` and the generator's position differ by sites only: they have the
    same anchor, `skipc X.C ·`, the first position from there on that holds a real instruction -/
structure At (X : RC) (pc : Nat) (gs : GS) : Prop where
  eq : skipc X.C pc = skipc X.C gs.code.length
  pos : 0 < gs.code.length

theorem patch_pb_iff (L : List Int) (p : Nat) (i : Instr) : patch L p i = Instr.potBreak ↔ i = Instr.potBreak := by
  cases i <;> simp [patch]

theorem patch_ne_pb (L : List Int) (p : Nat) {i : Instr} (h : i ≠ Instr.potBreak) : patch L p i ≠ Instr.potBreak :=
  mt (patch_pb_iff L p i).1 h

theorem At.sites {X : RC} {pc : Nat} {gs gs0 : GS} (h : At X pc gs) {k : Nat}
    (hc : gs0.code = gs.code ++ List.replicate k Instr.potBreak) {code : List Instr}
    (hp : gs0.code <+: code) (ha : Agree X.L code X.C) : At X pc gs0 := by
  refine ⟨?_, by rw [hc]; simp; have := h.pos; omega⟩
  rw [h.eq]
  have hl : gs0.code.length = gs.code.length + k := by rw [hc]; simp
  rw [hl]
  apply skipc_range
  intro p h1 h2
  have hg : gs0.code[p]? = some Instr.potBreak := by
    rw [hc, List.getElem?_append_right h1, List.getElem?_replicate, if_pos (by omega)]
  have := ha p _ (by have := h.pos; omega) (prefix_getElem? hp hg)
  rw [this]; rfl

theorem At.instr {X : RC} {pc : Nat} {gs : GS} (h : At X pc gs) {i : Instr} {t code : List Instr}
    (hp : gs.code ++ i :: t <+: code) (ha : Agree X.L code X.C) (hi : i ≠ Instr.potBreak) :
    X.e.at pc = some (patch X.L gs.code.length i) ∧ X.e.next pc = gs.code.length + 1 ∧
      skipc X.C pc = gs.code.length := by
  have hc : X.C[gs.code.length]? = some (patch X.L gs.code.length i) :=
    ha _ _ h.pos (prefix_getElem? hp (getElem?_append_len _ _ _))
  have hs : skipc X.C pc = gs.code.length := h.eq.trans (skipc_eq_self hc (patch_ne_pb _ _ hi))
  exact ⟨(congrArg (X.C[·]?) hs).trans hc, congrArg (· + 1) hs, hs⟩

theorem At.emit {X : RC} {pc : Nat} {gs : GS} (h : At X pc gs) {i : Instr} {t code : List Instr}
    (hp : gs.code ++ i :: t <+: code) (ha : Agree X.L code X.C) (hi : i ≠ Instr.potBreak) :
    At X (X.e.next pc) (gs.emit i) := by
  rw [(h.instr hp ha hi).2.1]
  exact ⟨by simp [GS.emit], by simp [GS.emit]⟩

theorem At.skip_eq {X : RC} {pc : Nat} {gs : GS} (h : At X pc gs) {i : Instr} {t code : List Instr}
    (hp : gs.code ++ i :: t <+: code) (ha : Agree X.L code X.C) (hi : i ≠ Instr.potBreak) :
    skipc X.C pc = gs.code.length := (h.instr hp ha hi).2.2

theorem At.exact {X : RC} {gs : GS} (h0 : 0 < gs.code.length) : At X gs.code.length gs := ⟨rfl, h0⟩
theorem At.congr {X : RC} {pc : Nat} {gs gs' : GS} (h : At X pc gs) (hl : gs'.code.length = gs.code.length) : At X pc gs' :=
  ⟨hl ▸ h.eq, hl ▸ h.pos⟩

theorem lit_ok {tok : Bytes} (h : genRangeBad (decVal tok) = false) :
    toInt32 (strtolNat tok) = ((decVal tok : Nat) : Int) ∧ decVal tok < WORD_MAX := by
  have hlt : decVal tok < 2147483647 := (Static.rangeOK_iff _).1 h
  refine ⟨?_, hlt⟩
  unfold strtolNat LONG_MAX toInt32
  have : min (decVal tok) 9223372036854775807 = decVal tok := by omega
  rw [this]
  have h2 : decVal tok % 4294967296 = decVal tok := Nat.mod_eq_of_lt (by omega)
  simp only [h2]
  rw [if_pos (by omega)]

theorem genStrToInt_snd (gs : GS) (tok : Bytes) : (genStrToInt gs tok).2 = toInt32 (strtolNat tok) := rfl

theorem negInt32_nat (k : Nat) : negInt32 (k : Int) = -(k : Int) := by
  unfold negInt32 INT_MIN
  rw [if_neg (by omega)]

theorem dispatchValue_name (gs : GS) (tok file : Bytes) (line : Int) (l r : Node) (tgt : Int) :
    genV gs (.mk NodeT.NAME tok file line l r) tgt =
      ((gs.advanceLine line file).fetchVar tok).1.emit (.add tgt ((gs.advanceLine line file).fetchVar tok).2 0) := by
  rw [genV_mk, if_pos rfl]

theorem dispatchValue_number (gs : GS) (tok file : Bytes) (line : Int) (l r : Node) (tgt : Int) :
    genV gs (.mk NodeT.NUMBER tok file line l r) tgt =
      (genStrToInt (gs.advanceLine line file) tok).1.emit (.const tgt (toInt32 (strtolNat tok))) := by
  rw [genV_mk, if_neg (by decide), if_pos rfl]; rfl

theorem regOf_of_links {X : RC} (ok : X.OK) {regs : List VReg} (he : RegsExt regs X.R) {i : Nat} {r : VReg}
    (hr : regs[i]? = some r) {x : Bytes} (hx : r.name = x) (hP : PV x) :
    X.e.me.regOf x = some (i : Int) := by
  obtain ⟨r', e1, e2, e3⟩ := he i r hr
  have hnt : r'.isTemp = false := by
    cases ht : r'.isTemp with
    | false => rfl
    | true =>
      exfalso
      have := ok.tn r' (List.mem_iff_getElem?.2 ⟨i, e1⟩) ht
      exact PV_ne_temp x hP (by rw [← hx, ← e2]; exact this)
  exact regOf_smap ok.ntn e1 hnt (e2.trans hx) (PV_noPrefix x hP) _ _

theorem notNamed_of_links {X : RC} {regs : List VReg} (he : RegsExt regs X.R) {i : Nat} {r : VReg}
    (hr : regs[i]? = some r) (ht : r.isTemp = true) : X.e.me.isNamed (i : Int) = false := by
  obtain ⟨r', e1, e2, e3⟩ := he i r hr
  exact isNamed_smap_temp e1 (e3.trans ht) _ _

theorem leaf_corr {X : RC} {gs g0 g1 : GS} {i : Instr} {k0 pc : Nat}
    (hk0 : g0.code = gs.code ++ List.replicate k0 Instr.potBreak) (hc1 : g1.code = g0.code)
    (ha : Agree X.L (g1.emit i).code X.C) (hat : At X pc gs) (hi : i ≠ Instr.potBreak) :
    X.e.at pc = some (patch X.L g0.code.length i) ∧ At X (X.e.next pc) (g1.emit i) := by
  have hcode : (g1.emit i).code = g0.code ++ [i] := by rw [emit_code, hc1]
  have hat0 : At X pc g0 := hat.sites hk0 (by rw [hcode]; exact prefix_append_self _ _) ha
  have hp : g0.code ++ i :: [] <+: (g1.emit i).code := by rw [hcode]; exact List.prefix_refl _
  exact ⟨(hat0.instr hp ha hi).1, (hat0.emit hp ha hi).congr (by rw [hcode]; simp)⟩

theorem name_corr {X : RC} (ok : X.OK) (gs : GS) (tok file : Bytes) (line : Int) (l r : Node) (tgt : Int)
    (hP : PV tok) (lk : VLinks X (genV gs (.mk NodeT.NAME tok file line l r) tgt))
    {pc : Nat} (hat : At X pc gs) :
    ∃ ry : Int, X.e.me.regOf tok = some ry ∧ X.e.at pc = some (.add tgt ry 0) ∧
      At X (X.e.next pc) (genV gs (.mk NodeT.NAME tok file line l r) tgt) := by
  rw [dispatchValue_name] at lk ⊢
  obtain ⟨k0, hk0⟩ := advanceLine_code gs line file
  have fv := fetchVar_spec PV (gs.advanceLine line file) tok hP
  obtain ⟨i, rg, e1, e2, e3⟩ := fv.reg
  obtain ⟨a1, a2⟩ := leaf_corr hk0 fv.code lk.agree hat nofun
  exact ⟨i, regOf_of_links ok lk.regs e2 e3 hP, by rw [a1, e1]; rfl, a2⟩

theorem number_corr {X : RC} (gs : GS) (tok file : Bytes) (line : Int) (l r : Node) (tgt : Int)
    (lk : VLinks X (genV gs (.mk NodeT.NUMBER tok file line l r) tgt))
    {pc : Nat} (hat : At X pc gs) :
    X.e.at pc = some (.const tgt (toInt32 (strtolNat tok))) ∧
      At X (X.e.next pc) (genV gs (.mk NodeT.NUMBER tok file line l r) tgt) := by
  rw [dispatchValue_number] at lk ⊢
  obtain ⟨k0, hk0⟩ := advanceLine_code gs line file
  exact leaf_corr hk0 (genStrToInt_code _ tok) lk.agree hat nofun

theorem checkArgs_cons_ok {e : VEnv} {a : Value} {as : Values} {live acc : List Int} {pc pc1 : Nat} {t : Int}
    (h1 : checkValue e a (live ++ acc) pc = some (t, pc1)) (h2 : tempOK e (live ++ acc) t = true) :
    checkArgs e (.cons a as) live acc pc = checkArgs e as live (acc ++ [t]) pc1 := by
  simp only [checkArgs, h1]
  simp [h2]

theorem appendV_nil : ∀ a : Values, Values.appendV a .nil = a
  | .nil => rfl
  | .cons v vs => by simp [Values.appendV, appendV_nil vs]

theorem appendV_assoc : ∀ a b c : Values, Values.appendV (Values.appendV a b) c = Values.appendV a (Values.appendV b c)
  | .nil, b, c => rfl
  | .cons v vs, b, c => by simp [Values.appendV, appendV_assoc vs b c]

theorem argFold_code : ∀ (l : List (Int × Nat)) (g : GS),
    (l.foldl (fun g a => (g.emit (.arg a.2 a.1)).releaseTemporary a.1) g).code =
      g.code ++ l.map (fun a => Instr.arg a.2 a.1) := by
  intro l
  induction l with
  | nil => intro g; simp
  | cons a as ih =>
    intro g
    simp only [List.foldl_cons]
    rw [ih]
    show (g.code ++ [Instr.arg a.2 a.1]) ++ _ = _
    simp

theorem checkArgInstrs_ok {X : RC} : ∀ (temps : List Int) (i0 p0 : Nat),
    (∀ j t, temps[j]? = some t → X.C[p0 + j]? = some (.arg ((i0 + j : Nat) : Int) t)) →
    checkArgInstrs X.e temps i0 p0 = some (p0 + temps.length) := by
  intro temps
  induction temps with
  | nil => intro i0 p0 _; simp [checkArgInstrs]
  | cons t ts ih =>
    intro i0 p0 h
    have h0 := h 0 t rfl
    simp only [Nat.add_zero] at h0
    have hs : skipc X.C p0 = p0 := skipc_eq_self h0 nofun
    have hat : X.e.at p0 = some (.arg (i0 : Int) t) := by
      unfold VEnv.at
      show X.C[skipc X.C p0]? = _
      rw [hs]; exact h0
    have hnx : X.e.next p0 = p0 + 1 := by
      unfold VEnv.next
      show skipc X.C p0 + 1 = _
      rw [hs]
    simp only [checkArgInstrs, hat, hnx]
    simp only [and_self, if_true]
    rw [ih (i0 + 1) (p0 + 1)]
    · simp; omega
    · intro j t' hj
      have := h (j + 1) t' (by simpa using hj)
      rw [show p0 + 1 + j = p0 + (j + 1) by omega, show i0 + 1 + j = i0 + (j + 1) by omega]
      exact this

theorem callTail_builtin (gs : GS) (al : List Int) (l r : Node) (tgt : Int) (hb : builtinP l r al.length) :
    callTail gs al l r tgt =
      gs.emit (.add tgt ((al[0]?).getD 0)
        (if l.tok = bINC then toInt32 (strtolNat r.right.left.tok) else negInt32 (toInt32 (strtolNat r.right.left.tok)))) := by
  have hb' : (l.tok = bINC ∨ l.tok = bDEC) ∧ (al.length = 2 ∧ r.left.ty = NodeT.NAME ∧ r.right.left.ty = NodeT.NUMBER) := hb
  unfold callTail
  dsimp only
  rw [if_pos hb']
  split <;> rfl

theorem callTail_call (gs : GS) (al : List Int) (l r : Node) (tgt : Int) (p : ProgRec)
    (hb : ¬ builtinP l r al.length) (hl : gs.lookupFunc l.tok = some p) (ha : p.argnum = al.length) :
    callTail gs al l r tgt =
      (al.zipIdx.foldl (fun g a => (g.emit (.arg a.2 a.1)).releaseTemporary a.1)
        (gs.emit (.prepare p.stackSize p.mi tgt))).emit (.exec p.ind) := by
  have hb' : ¬ ((l.tok = bINC ∨ l.tok = bDEC) ∧ (al.length = 2 ∧ r.left.ty = NodeT.NAME ∧ r.right.left.ty = NodeT.NUMBER)) := hb
  unfold callTail
  dsimp only
  rw [if_neg hb', hl]
  dsimp only
  rw [if_neg (by simpa using ha)]

theorem tempOK_split {e : VEnv} {live : List Int} {t t2 : Int} (h : tempOK e (live ++ [t]) t2 = true) :
    tempOK e live t2 = true ∧ t2 ≠ t := by
  unfold tempOK at *
  simp only [Bool.and_eq_true, Bool.not_eq_true', List.contains_eq_mem, List.mem_append, List.mem_singleton,
    decide_eq_false_iff_not, not_or] at h ⊢
  exact ⟨⟨h.1, h.2.1⟩, h.2.2⟩

theorem advanceLine_top (gs : GS) (line : Int) (file : Bytes) : (gs.advanceLine line file).top = gs.top :=
  top_congr (advanceLine_symbols gs line file)

theorem call_instrs {X : RC} {ga ct : GS} {al : List Int} {c m tgt e : Int} {pc1 : Nat}
    (hcode : ct.code = ga.code ++ .prepare c m tgt :: (al.zipIdx.map (fun a => Instr.arg a.2 a.1) ++ [.exec e]))
    (ha : Agree X.L ct.code X.C) (at1 : At X pc1 ga) :
    X.e.at pc1 = some (.prepare c m tgt) ∧
    checkArgInstrs X.e al 0 (X.e.next pc1) = some (ga.code.length + 1 + al.length) ∧
    X.e.at (ga.code.length + 1 + al.length) = some (.exec e) ∧
    At X (X.e.next (ga.code.length + 1 + al.length)) ct := by
  obtain ⟨i1, i2, _⟩ := at1.instr (by rw [hcode]; exact List.prefix_refl _) ha (by nofun)
  have hpos := at1.pos
  have hargs : ∀ j t, al[j]? = some t → X.C[ga.code.length + 1 + j]? = some (.arg ((0 + j : Nat) : Int) t) := by
    intro j t hj
    have hg : ct.code[ga.code.length + 1 + j]? = some (.arg (j : Int) t) := by
      rw [hcode, List.getElem?_append_right (by omega), show ga.code.length + 1 + j - ga.code.length = j + 1 by omega,
        List.getElem?_cons_succ, List.getElem?_append_left (by simp; exact (List.getElem?_eq_some_iff.1 hj).1),
        List.getElem?_map, List.getElem?_zipIdx, hj]
      simp
    rw [ha _ _ (by omega) hg]; simp [patch]
  have hexec : X.C[ga.code.length + 1 + al.length]? = some (.exec e) := by
    have hg : ct.code[ga.code.length + 1 + al.length]? = some (.exec e) := by
      rw [hcode, List.getElem?_append_right (by omega),
        show ga.code.length + 1 + al.length - ga.code.length = al.length + 1 by omega,
        List.getElem?_cons_succ, List.getElem?_append_right (by simp)]
      simp
    rw [ha _ _ (by omega) hg]; rfl
  have hs2 : skipc X.C (ga.code.length + 1 + al.length) = ga.code.length + 1 + al.length :=
    skipc_eq_self hexec nofun
  refine ⟨i1, by rw [i2]; exact checkArgInstrs_ok (X := X) al 0 (ga.code.length + 1) hargs, ?_, ?_⟩
  · show X.C[skipc X.C _]? = _
    rw [hs2, hexec]
  · show At X (skipc X.C _ + 1) ct
    rw [hs2, show ga.code.length + 1 + al.length + 1 = ct.code.length by rw [hcode]; simp; omega]
    exact At.exact (by rw [hcode, List.length_append, List.length_cons]; omega)

theorem value_corr {X : RC} (ok : X.OK) : ∀ n : Node,
    (∀ gs tgt live pc, isNil n = false → valShape false n = true → valNames n = true →
      valueOK X.src X.rt (valueOf n) = true →
      VLinks X (genV gs n tgt) → LiveOK gs.top.regs live → live.contains tgt = false → At X pc gs →
      ∃ pc', checkValue X.e (valueOf n) live pc = some (tgt, pc') ∧ At X pc' (genV gs n tgt)) ∧
    (∀ gs acc live pc rest, valShape true n = true → valNames n = true →
      valuesOK X.src X.rt (valuesOf n) = true →
      VLinks X (genCA gs n acc).1 → LiveOK gs.top.regs (live ++ acc) → At X pc gs →
      ∃ pc', checkArgs X.e (Values.appendV (valuesOf n) rest) live acc pc =
               checkArgs X.e rest live (genCA gs n acc).2 pc' ∧
             At X pc' (genCA gs n acc).1 ∧
             LiveOK (genCA gs n acc).1.top.regs (live ++ (genCA gs n acc).2)) := by
  intro n
  induction n with
  | nil =>
    refine ⟨fun gs tgt live pc hnil => by simp [isNil] at hnil, fun gs acc live pc rest _ _ _ lk hlive hat => ?_⟩
    rw [genCA_nil] at lk ⊢
    rw [valuesOf_nil]
    exact ⟨pc, rfl, hat, hlive⟩
  | mk t tok file line l r ihl ihr =>
    replace ihl := ihl.2
    replace ihr := ihr.2
    have hval : ∀ gs tgt live pc, valShape false (.mk t tok file line l r) = true → valNames (.mk t tok file line l r) = true →
        valueOK X.src X.rt (valueOf (.mk t tok file line l r)) = true →
        VLinks X (genV gs (.mk t tok file line l r) tgt) → LiveOK gs.top.regs live → live.contains tgt = false → At X pc gs →
        ∃ pc', checkValue X.e (valueOf (.mk t tok file line l r)) live pc = some (tgt, pc') ∧
          At X pc' (genV gs (.mk t tok file line l r) tgt) := by
      intro gs tgt live pc hs hn hv lk hlive htgt hat
      rw [valShape_mk, if_neg (by simp)] at hs
      rw [valNames_mk] at hn
      rw [valueOf_mk] at hv ⊢
      by_cases h1 : t = NodeT.NAME
      · subst h1
        rw [if_neg (by decide), if_pos rfl] at hn
        rw [if_pos rfl]
        obtain ⟨ry, a1, a2, a3⟩ := name_corr ok gs tok file line l r tgt hn lk hat
        exact ⟨_, Sim.checkValue_var_iff.2 ⟨_, a1, a2, htgt, rfl⟩, a3⟩
      by_cases h2 : t = NodeT.NUMBER
      · subst h2
        rw [if_neg (by decide), if_pos rfl] at hv ⊢
        obtain ⟨a1, a2⟩ := number_corr gs tok file line l r tgt lk hat
        have hk : genRangeBad (decVal tok) = false := by
          simp only [valueOK] at hv; simpa using hv
        obtain ⟨k1, k2⟩ := lit_ok hk
        rw [k1] at a1
        exact ⟨_, Sim.checkValue_num_iff.2 ⟨a1, k2, htgt, rfl⟩, a2⟩
      have hs' : t = NodeT.CALL ∧ l.ty = NodeT.NAME ∧ valShape true r = true := by
        simpa [h1, h2] using hs
      obtain ⟨h3, hlt, hsr⟩ := hs'
      have h0 : t ≠ NodeT.SPLIT := by rw [h3]; decide
      have hnr : valNames r = true := by
        rw [if_neg h0, if_neg h1, if_pos h3] at hn; exact hn
      rw [if_neg h1, if_neg h2, if_pos h3, valuesOf_length] at hv ⊢
      rw [genV_mk] at lk ⊢
      rw [if_neg h1, if_neg h2, if_pos h3] at lk ⊢
      obtain ⟨k0, hk0⟩ := advanceLine_code gs line file
      have htop0 := advanceLine_top gs line file
      generalize gs.advanceLine line file = gs0 at *
      have va := vk_args gs0 r [] hnr
      have hlen : (genCA gs0 r []).2.length = argCount r := by
        have := ((value_char r).2 gs0 []).2
        simpa using this
      have iha := ihr gs0 [] live pc .nil hsr hnr
      generalize hA : genCA gs0 r [] = A at *
      obtain ⟨ga, al⟩ := A
      simp only at *
      obtain ⟨nw, e1, lnw, fnw⟩ := va.new
      have e1' : al = nw := by simpa using e1
      subst e1'
      obtain ⟨vct, kct⟩ := callTail_vk gs0.top.regs ga al l r tgt fnw va.vk.keep
      have lkA : VLinks X ga := lk.back vct.toGQ
      have hat0 : At X pc gs0 := hat.sites hk0 (va.vk.vq.code.trans vct.code) lk.agree
      have hlive0 : LiveOK gs0.top.regs (live ++ []) := by rw [htop0]; simpa using hlive
      by_cases hb : builtinP l r (argCount r)
      ·
        have hb' : (l.tok = bINC ∨ l.tok = bDEC) ∧ argCount r = 2 ∧ r.left.ty = NodeT.NAME ∧ r.right.left.ty = NodeT.NUMBER := hb
        simp only [if_pos hb'] at hv ⊢
        have bv := builtin_values l r hb hsr
        have hk : genRangeBad (decVal r.right.left.tok) = false := by
          split at hv <;> (simp only [valueOK] at hv; simpa using hv)
        obtain ⟨k1, k2⟩ := lit_ok hk
        have hvs : valuesOK X.src X.rt (valuesOf r) = true := by
          rw [bv]; simp only [valuesOK, valueOK]; simp [hk]
        obtain ⟨pc1, ca, at1, _⟩ := iha hvs lkA hlive0 hat0
        rw [appendV_nil, bv] at ca
        have ca' : checkArgs X.e (.cons (.var r.left.tok) (.cons (.num (decVal r.right.left.tok)) .nil)) live [] pc =
            some (al, pc1) := by rw [ca]; simp only [checkArgs]
        obtain ⟨t1, pca, c1, c2, c3⟩ := Sim.checkArgs_cons_iff.1 ca'
        obtain ⟨ry, d1, d2, _, d4⟩ := Sim.checkValue_var_iff.1 c1
        obtain ⟨t2, pcb, c4, c5, c6⟩ := Sim.checkArgs_cons_iff.1 c3
        obtain ⟨d5, _, _, d8⟩ := Sim.checkValue_num_iff.1 c4
        simp only [checkArgs] at c6
        have c6' := Option.some.inj c6
        have hal : al = [t1, t2] := by have := (Prod.mk.inj c6').1; simpa using this.symm
        have hpc1 : pc1 = pcb := (Prod.mk.inj c6').2.symm
        subst hal
        obtain ⟨c5a, c5b⟩ := tempOK_split (by simpa using c5)
        have c2' : tempOK X.e live t1 = true := by simpa using c2
        have hbl : builtinP l r ([t1, t2] : List Int).length := by rw [hlen]; exact hb
        rw [callTail_builtin ga [t1, t2] l r tgt hbl] at lk ⊢
        simp only [List.getElem?_cons_zero, Option.getD_some] at lk ⊢
        rw [k1, negInt32_nat] at lk ⊢
        have hc : ∀ c : Int, (ga.emit (.add tgt t1 c)).code = ga.code ++ [.add tgt t1 c] := fun c => rfl
        obtain ⟨i1, _⟩ := at1.instr (t := []) (by rw [hc]; exact List.prefix_refl _) lk.agree (by nofun)
        refine ⟨X.e.next pc1, ?_, at1.emit (t := []) (by rw [hc]; exact List.prefix_refl _) lk.agree (by nofun)⟩
        rw [hpc1, d8, d4] at i1 ⊢
        by_cases hinc : l.tok = bINC
        · rw [if_pos hinc] at i1 ⊢
          simp only [checkValue]
          exact Sim.checkIncDec_iff.2 ⟨_, _, _, _, d1, d2, c2', by rw [← d4]; exact d5, c5a, c5b, i1, k2, htgt, rfl⟩
        · rw [if_neg hinc] at i1 ⊢
          simp only [checkValue]
          exact Sim.checkIncDec_iff.2 ⟨_, _, _, _, d1, d2, c2', by rw [← d4]; exact d5, c5a, c5b, i1, k2, htgt, rfl⟩
      ·
        have hb' : ¬ ((l.tok = bINC ∨ l.tok = bDEC) ∧ argCount r = 2 ∧ r.left.ty = NodeT.NAME ∧ r.right.left.ty = NodeT.NUMBER) := hb
        simp only [if_neg hb'] at hv ⊢
        rw [valueOK_call, Bool.and_eq_true] at hv
        obtain ⟨hvs, har⟩ := hv
        obtain ⟨pc1, ca, at1, _⟩ := iha hvs lkA hlive0 hat0
        rw [appendV_nil] at ca
        have ca' : checkArgs X.e (valuesOf r) live [] pc = some (al, pc1) := by rw [ca]; simp only [checkArgs]
        have har' : arity X.src X.rt l.tok = some (valuesOf r).length := by simpa using har
        unfold arity at har'
        cases hlp : lookupProg X.src l.tok X.rt with
        | none => rw [hlp] at har'; cases har'
        | some jp =>
          obtain ⟨j, pd⟩ := jp
          rw [hlp] at har'
          have hpl : pd.params.length = (valuesOf r).length := by simpa using har'
          obtain ⟨p, ri, f1, f2, f3, f4, f5⟩ := lkA.func l.tok j pd hlp
          have hpa : p.argnum = al.length := by rw [f2, hpl, valuesOf_length, hlen]
          have hbl : ¬ builtinP l r al.length := by rw [hlen]; exact hb
          rw [callTail_call ga al l r tgt p hbl f1 hpa] at lk ⊢
          have hcode : ((al.zipIdx.foldl (fun g a => (g.emit (.arg a.2 a.1)).releaseTemporary a.1)
              (ga.emit (.prepare p.stackSize p.mi tgt))).emit (.exec p.ind)).code =
              ga.code ++ .prepare p.stackSize p.mi tgt :: (al.zipIdx.map (fun a => Instr.arg a.2 a.1) ++ [.exec p.ind]) := by
            rw [emit_code, argFold_code, emit_code]; simp
          generalize ((al.zipIdx.foldl (fun g a => (g.emit (.arg a.2 a.1)).releaseTemporary a.1)
              (ga.emit (.prepare p.stackSize p.mi tgt))).emit (.exec p.ind)) = ct at *
          obtain ⟨i1, hci, hat2, hfin⟩ := call_instrs hcode lk.agree at1
          refine ⟨_, Sim.checkValue_call_iff.2 ⟨_, _, ca', _, _, _, p.stackSize, _, hlp, f3, by rw [hpl, valuesOf_length, hlen],
            by rw [i1, ← f4], htgt, hci, f5 ▸ hat2, rfl⟩, hfin⟩
    refine ⟨fun gs tgt live pc _ => hval gs tgt live pc, ?_⟩
    intro gs acc live pc rest hs hn hv lk hlive hat
    rw [valShape_mk] at hs
    rw [valNames_mk] at hn
    rw [valuesOf_mk] at hv ⊢
    rw [genCA_mk] at lk ⊢
    by_cases h1 : t = NodeT.SPLIT
    · subst h1
      rw [if_pos ⟨rfl, rfl⟩, Bool.and_eq_true] at hs
      rw [if_pos rfl, Bool.and_eq_true] at hn
      simp only [if_true] at hv lk ⊢
      rw [valuesOK_appendV, Bool.and_eq_true] at hv
      have v2 := vk_args (genCA gs l acc).1 r (genCA gs l acc).2 hn.2
      have lk1 : VLinks X (genCA gs l acc).1 := lk.back v2.vk.vq.toGQ
      obtain ⟨pc1, c1, a1, l1⟩ := ihl gs acc live pc (Values.appendV (valuesOf r) rest) hs.1 hn.1 hv.1 lk1 hlive hat
      obtain ⟨pc2, c2, a2, l2⟩ := ihr (genCA gs l acc).1 (genCA gs l acc).2 live pc1 rest
        hs.2 hn.2 hv.2 lk l1 a1
      exact ⟨pc2, by rw [appendV_assoc, c1, c2], a2, l2⟩
    · rw [if_neg (fun h => h1 h.2)] at hs
      simp only [if_neg h1] at hn hv lk ⊢
      have hsv : valShape false (.mk t tok file line l r) = true := by
        rw [valShape_mk, if_neg (by simp)]; exact hs
      have hnv : valNames (.mk t tok file line l r) = true := by
        rw [valNames_mk, if_neg h1]; exact hn
      have hvv : valueOK X.src X.rt (valueOf (.mk t tok file line l r)) = true := by
        simp only [valuesOK, Bool.and_true] at hv; exact hv
      have ft := fetchTemporary_spec PV gs
      have hvk := vk_value gs.fetchTemporary.1 (.mk t tok file line l r) gs.fetchTemporary.2 hnv
      have hlive1 : LiveOK gs.fetchTemporary.1.top.regs (live ++ acc) := hlive.keep ft.keep
      have hfree : (live ++ acc).contains gs.fetchTemporary.2 = false := hlive.not_mem_of_free ft.free
      have hat1 : At X pc gs.fetchTemporary.1 := ⟨by rw [ft.code]; exact hat.eq, by rw [ft.code]; exact hat.pos⟩
      obtain ⟨pc1, c1, a1⟩ := hval gs.fetchTemporary.1 gs.fetchTemporary.2 (live ++ acc) pc
        hsv hnv hvv lk hlive1 hfree hat1
      obtain ⟨i, rg, e1, e2, e3, e4⟩ := ft.reg
      have hreg' := hvk.keep i rg e2 e4
      have htmp : tempOK X.e (live ++ acc) gs.fetchTemporary.2 = true := by
        unfold tempOK
        rw [hfree, e1, notNamed_of_links lk.regs hreg' e3]; rfl
      refine ⟨pc1, ?_, a1, ?_⟩
      · show checkArgs X.e (Values.appendV (.cons _ .nil) rest) live acc pc = _
        simp only [Values.appendV]
        exact checkArgs_cons_ok c1 htmp
      · rw [← List.append_assoc]
        refine (hlive1.keep hvk.keep).append ?_
        intro x hx
        simp at hx
        subst hx
        exact ⟨i, rg, e1, hreg', e3, e4⟩

end GenShape
end Theo
