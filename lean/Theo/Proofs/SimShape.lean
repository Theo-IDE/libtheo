/-
  What the validator establishes.  Each clause of `checkValue` and `checkStmt` is characterised
  once, as an iff (`checkValue_*_iff`, `checkStmt_*_iff`): forwards it is what the simulation
  uses, backwards it shows that a given piece of code passes the clause.  From these the position
  relations for statements and continuations (`SAt`, `KAt`; `check_walk`) and the resolution of
  jumps (`goto_resolve`).  Before that, the longest run of sites of a code (`maxSiteRun`); at the
  end, the clause of `checkProgs` for one definition, as an iff too (`RoutOK`, `checkProgs_cons_iff`).
-/
import Theo.Proofs.SimVM
import Theo.Proofs.SemRules


namespace Theo
namespace Sim
open Sem

def maxSiteRun (code : List Instr) : Nat :=
  (List.range code.length).foldr (fun pc a => max (skipc code pc - pc) a) 0

theorem siteBound_maxSiteRun (code : List Instr) : SiteBound code (maxSiteRun code) := by
  intro pc
  by_cases hpc : pc < code.length
  · have h : skipc code pc - pc ≤ maxSiteRun code :=
      Nat.le_trans (le_foldr_max (fun pc => skipc code pc - pc) 0 (List.mem_range.2 hpc))
        (Nat.le_of_eq List.foldr_map)
    omega
  · have : skipc code pc = pc :=
      skipc_of_not_pb (by rw [List.getElem?_eq_none (by omega)]; simp)
    omega

theorem checkValue_var_iff {e : VEnv} {y : Name} {live : List Int} {pc : Nat} {tgt : Int} {pc' : Nat} :
    checkValue e (.var y) live pc = some (tgt, pc') ↔
    ∃ ry, e.me.regOf y = some ry ∧ e.at pc = some (.add tgt ry 0) ∧ live.contains tgt = false ∧
      pc' = e.next pc := by
  refine ⟨fun h => ?_, ?_⟩
  · rw [checkValue] at h
    split at h
    · rename_i t s ry h1 h2
      rw [Option.ite_none_right_eq_some] at h
      obtain ⟨⟨rfl, hl⟩, h⟩ := h
      cases h
      exact ⟨_, h2, h1, by simpa using hl, rfl⟩
    · cases h
  · rintro ⟨ry, h2, h1, h3, rfl⟩
    have h3' : tgt ∉ live := by simpa using h3
    simp only [checkValue, h1, h2]
    simp [h3']

theorem checkValue_num_iff {e : VEnv} {n : Nat} {live : List Int} {pc : Nat} {tgt : Int} {pc' : Nat} :
    checkValue e (.num n) live pc = some (tgt, pc') ↔
    e.at pc = some (.const tgt (n : Int)) ∧ n < WORD_MAX ∧ live.contains tgt = false ∧
      pc' = e.next pc := by
  refine ⟨fun h => ?_, ?_⟩
  · rw [checkValue] at h
    split at h
    · rename_i t c h1
      rw [Option.ite_none_right_eq_some] at h
      obtain ⟨⟨rfl, hn, hl⟩, h⟩ := h
      cases h
      exact ⟨h1, hn, by simpa using hl, rfl⟩
    · cases h
  · rintro ⟨h1, h2, h3, rfl⟩
    have h3' : tgt ∉ live := by simpa using h3
    simp only [checkValue, h1]
    simp [h2, h3']

theorem tempOK_iff {e : VEnv} {live : List Int} {t : Int} :
    tempOK e live t = true ↔ e.me.isNamed t = false ∧ live.contains t = false := by
  unfold tempOK
  simp

theorem checkIncDec_iff {e : VEnv} {y : Name} {k : Nat} {isInc : Bool} {live : List Int} {pc : Nat}
    {tgt : Int} {pc' : Nat} : checkIncDec e y k isInc live pc = some (tgt, pc') ↔
    ∃ ry t1 t2 c2, e.me.regOf y = some ry ∧ e.at pc = some (.add t1 ry 0) ∧
      tempOK e live t1 = true ∧ e.at (e.next pc) = some (.const t2 c2) ∧
      tempOK e live t2 = true ∧ t2 ≠ t1 ∧
      e.at (e.next (e.next pc)) = some (.add tgt t1 (if isInc then (k : Int) else -(k : Int))) ∧
      k < WORD_MAX ∧ live.contains tgt = false ∧ pc' = e.next (e.next (e.next pc)) := by
  refine ⟨fun h => ?_, ?_⟩
  · unfold checkIncDec at h
    split at h
    · rename_i t1 s ry h1 h2
      rw [Option.ite_none_left_eq_some] at h
      obtain ⟨hc1, h⟩ := h
      split at h
      · rename_i t2 c2 h3
        rw [Option.ite_none_left_eq_some] at h
        obtain ⟨hc2, h⟩ := h
        split at h
        · rename_i tg s2 cc h4
          rw [Option.ite_none_right_eq_some] at h
          obtain ⟨⟨rfl, rfl, hk, hl⟩, h⟩ := h
          cases h
          simp only [not_or, Bool.not_eq_eq_eq_not, Bool.not_true, Decidable.not_not] at hc1 hc2
          obtain ⟨rfl, ht1⟩ := hc1
          exact ⟨_, _, t2, c2, h2, h1, by simpa using ht1, h3, by simpa using hc2.1, hc2.2, h4, hk,
            by simpa using hl, rfl⟩
        · cases h
      · cases h
    · cases h
  · rintro ⟨ry, t1, t2, c2, h2, h1, h3, h4, h5, h6, h7, h8, h9, rfl⟩
    have h9' : tgt ∉ live := by simpa using h9
    unfold checkIncDec
    simp only [h1, h2, h4, h7]
    simp [h3, h5, h6, h8, h9']

/-- the call sequence after the arguments: `PREPARE; ARG*; EXEC` of a routine defined earlier -/
def CallTail (e : VEnv) (f : Name) (live : List Int) (temps : List Int) (pc1 : Nat) (tgt : Int)
    (pc' : Nat) : Prop :=
  ∃ j pd ri cnt pc2, lookupProg e.src f e.routine = some (j, pd) ∧ e.infos[j]? = some ri ∧
    pd.params.length = temps.length ∧ e.at pc1 = some (.prepare cnt (ri.mi : Int) tgt) ∧
    live.contains tgt = false ∧ checkArgInstrs e temps 0 (e.next pc1) = some pc2 ∧
    e.at pc2 = some (.exec (ri.entry : Int)) ∧ pc' = e.next pc2

theorem checkValue_call_iff {e : VEnv} {f : Name} {args : Values} {live : List Int} {pc : Nat}
    {tgt : Int} {pc' : Nat} : checkValue e (.call f args) live pc = some (tgt, pc') ↔
    ∃ temps pc1, checkArgs e args live [] pc = some (temps, pc1) ∧
      CallTail e f live temps pc1 tgt pc' := by
  refine ⟨fun h => ?_, ?_⟩
  · rw [checkValue] at h
    split at h
    · cases h
    · rename_i j pd hl
      split at h
      · rename_i ri temps pc1 h1 h2
        rw [Option.ite_none_left_eq_some] at h
        obtain ⟨hlen, h⟩ := h
        split at h
        · rename_i cnt mi tg h3
          rw [Option.ite_none_left_eq_some] at h
          obtain ⟨hc, h⟩ := h
          split at h
          · rename_i pc2 h4
            split at h
            · rename_i en h5
              rw [Option.ite_none_right_eq_some] at h
              obtain ⟨rfl, h⟩ := h
              cases h
              simp only [not_or, Decidable.not_not, Bool.not_eq_true] at hc
              obtain ⟨rfl, hc⟩ := hc
              exact ⟨temps, pc1, h2, j, pd, ri, cnt, pc2, hl, h1, Decidable.not_not.1 hlen, h3, hc,
                h4, h5, rfl⟩
            · cases h
          · cases h
        · cases h
      · cases h
  · rintro ⟨temps, pc1, h3, j, pd, ri, cnt, pc2, h1, h2, h4, h5, h6, h7, h8, rfl⟩
    have h6' : tgt ∉ live := by simpa using h6
    simp only [checkValue, h1, h2, h3]
    simp [h4, h5, h6', h7, h8]

theorem checkArgs_nil {e : VEnv} {live acc : List Int} {pc : Nat} :
    checkArgs e .nil live acc pc = some (acc, pc) := by
  rw [checkArgs]

theorem checkArgs_cons_iff {e : VEnv} {a : Value} {as : Values} {live acc : List Int} {pc : Nat}
    {temps : List Int} {pc1 : Nat} :
    checkArgs e (.cons a as) live acc pc = some (temps, pc1) ↔
    ∃ t pca, checkValue e a (live ++ acc) pc = some (t, pca) ∧ tempOK e (live ++ acc) t = true ∧
      checkArgs e as live (acc ++ [t]) pca = some (temps, pc1) := by
  refine ⟨fun h => ?_, ?_⟩
  · rw [checkArgs] at h
    split at h
    · rename_i t pca h1
      rw [Option.ite_none_right_eq_some] at h
      exact ⟨t, pca, h1, h⟩
    · cases h
  · rintro ⟨t, pca, h1, h2, h3⟩
    simp only [checkArgs, h1]
    simpa [h2] using h3

theorem checkArgInstrs_cons {e : VEnv} {t : Int} {ts : List Int} {i pc pc2 : Nat}
    (h : checkArgInstrs e (t :: ts) i pc = some pc2) :
    e.at pc = some (.arg (i : Int) t) ∧ checkArgInstrs e ts (i + 1) (e.next pc) = some pc2 := by
  rw [checkArgInstrs] at h
  split at h
  · rename_i ti s h1
    rw [Option.ite_none_right_eq_some] at h
    obtain ⟨⟨rfl, rfl⟩, h⟩ := h
    exact ⟨h1, h⟩
  · cases h

theorem lt_next (e : VEnv) (pc : Nat) : pc < e.next pc := Nat.lt_succ_of_le (le_skipc e.code pc)

theorem checkArgInstrs_le {e : VEnv} : ∀ {ts : List Int} {i pc pc2 : Nat},
    checkArgInstrs e ts i pc = some pc2 → pc ≤ pc2 := by
  intro ts
  induction ts with
  | nil => intro i pc pc2 h; simp only [checkArgInstrs, Option.some.injEq] at h; omega
  | cons t ts ih =>
    intro i pc pc2 h
    obtain ⟨_, h2⟩ := checkArgInstrs_cons h
    have := ih h2
    have := lt_next e pc
    omega

theorem callTail_lt {e : VEnv} {f : Name} {live temps : List Int} {pc1 : Nat} {tgt : Int} {pc' : Nat}
    (h : CallTail e f live temps pc1 tgt pc') : pc1 < pc' := by
  obtain ⟨j, pd, ri, cnt, pc2, _, _, _, _, _, h6, _, rfl⟩ := h
  have := checkArgInstrs_le h6
  have := lt_next e pc1
  have := lt_next e pc2
  omega

theorem checkIncDec_lt {e : VEnv} {y : Name} {k : Nat} {b : Bool} {live : List Int} {pc : Nat}
    {tgt : Int} {pc' : Nat} (h : checkIncDec e y k b live pc = some (tgt, pc')) : pc < pc' := by
  obtain ⟨_, _, _, _, _, _, _, _, _, _, _, _, _, rfl⟩ := checkIncDec_iff.1 h
  exact Nat.lt_trans (lt_next e pc) (Nat.lt_trans (lt_next e _) (lt_next e _))

mutual
theorem checkValue_lt {e : VEnv} : ∀ {v : Value} {live : List Int} {pc : Nat} {tgt : Int} {pc' : Nat},
    checkValue e v live pc = some (tgt, pc') → pc < pc'
  | .var y => fun h => by
    obtain ⟨_, _, _, _, rfl⟩ := checkValue_var_iff.1 h
    exact lt_next e _
  | .num n => fun h => by
    obtain ⟨_, _, _, rfl⟩ := checkValue_num_iff.1 h
    exact lt_next e _
  | .inc y k => fun h => checkIncDec_lt (by simpa only [checkValue] using h)
  | .dec y k => fun h => checkIncDec_lt (by simpa only [checkValue] using h)
  | .call f args => fun h => by
    obtain ⟨temps, pc1, h1, h2⟩ := checkValue_call_iff.1 h
    exact Nat.lt_of_le_of_lt (checkArgs_le h1) (callTail_lt h2)
theorem checkArgs_le {e : VEnv} : ∀ {args : Values} {live acc : List Int} {pc : Nat}
    {temps : List Int} {pc1 : Nat}, checkArgs e args live acc pc = some (temps, pc1) → pc ≤ pc1
  | .nil => fun h => by
    rw [checkArgs_nil] at h
    cases h
    exact Nat.le_refl _
  | .cons a as => fun h => by
    obtain ⟨t, pca, h1, _, h3⟩ := checkArgs_cons_iff.1 h
    exact Nat.le_trans (Nat.le_of_lt (checkValue_lt h1)) (checkArgs_le h3)
end

theorem checkStmt_assign_iff {e : VEnv} {x : Name} {v : Value} {pos : Pos} {w w' : Walk} :
    checkStmt e (.assign x v pos) w = some w' ↔
    ∃ rx pc1, checkValue e v [] w.pc = some (rx, pc1) ∧ e.me.regOf x = some rx ∧
      w' = { w with pc := pc1 } := by
  refine ⟨fun h => ?_, ?_⟩
  · rw [checkStmt] at h
    split at h
    · rename_i tgt pc1 rx h1 h2
      rw [Option.ite_none_right_eq_some] at h
      obtain ⟨rfl, h⟩ := h
      cases h
      exact ⟨_, pc1, h1, h2, rfl⟩
    · cases h
  · rintro ⟨rx, pc1, h1, h2, rfl⟩
    simp only [checkStmt, h1, h2]
    simp

theorem checkStmt_mark_inv {e : VEnv} {m : Name} {pos : Pos} {w w' : Walk}
    (h : checkStmt e (.mark m pos) w = some w') : w' = { w with marks := w.marks ++ [(m, w.pc)] } := by
  rw [checkStmt] at h
  cases h
  rfl

theorem checkStmt_loop_iff {e : VEnv} {id : Nat} {x : Name} {body : Stmts} {pos : Pos} {w w' : Walk} :
    checkStmt e (.loop id x body pos) w = some w' ↔
    ∃ ctr rx offE offL w1, e.me.ctrOf id = some ctr ∧ e.me.regOf x = some rx ∧
      e.at w.pc = some (.add ctr rx 0) ∧ e.at (e.next w.pc) = some (.jmpc offE ctr) ∧
      checkStmts e body { w with pc := e.next (e.next w.pc) } = some w1 ∧
      e.at w1.pc = some (.add ctr ctr (-1)) ∧ e.at (e.next w1.pc) = some (.jmp offL) ∧
      Anch e.code (((skipc e.code (e.next w1.pc) : Nat) : Int) + offL)
        (skipc e.code (e.next w.pc)) ∧
      Anch e.code (((skipc e.code (e.next w.pc) : Nat) : Int) + offE)
        (skipc e.code (e.next w1.pc) + 1) ∧
      w' = { w1 with pc := skipc e.code (e.next w1.pc) + 1 } := by
  refine ⟨fun h => ?_, ?_⟩
  · rw [checkStmt] at h
    dsimp only at h
    split at h
    · rename_i ctr rx t s h1 h2 h3
      rw [Option.ite_none_left_eq_some] at h
      obtain ⟨hc1, h⟩ := h
      split at h
      · rename_i offE cc h4
        rw [Option.ite_none_left_eq_some] at h
        obtain ⟨hc2, h⟩ := h
        split at h
        · rename_i w1 h5
          split at h
          · rename_i t3 s3 h6
            rw [Option.ite_none_left_eq_some] at h
            obtain ⟨hc3, h⟩ := h
            split at h
            · rename_i offL h7
              rw [Option.ite_none_right_eq_some, Bool.and_eq_true, sameAnchor_iff, sameAnchor_iff] at h
              obtain ⟨hc4, h⟩ := h
              cases h
              simp only [not_or, Decidable.not_not] at hc1 hc2 hc3
              obtain ⟨rfl, rfl⟩ := hc1
              subst hc2
              obtain ⟨rfl, rfl⟩ := hc3
              exact ⟨_, _, offE, offL, w1, h1, h2, h3, h4, h5, h6, h7, hc4.1, hc4.2, rfl⟩
            · cases h
          · cases h
        · cases h
      · cases h
    · cases h
  · rintro ⟨ctr, rx, offE, offL, w1, h1, h2, h3, h4, h5, h6, h7, h8, h9, rfl⟩
    simp only [checkStmt, h1, h2, h3, h4, h5, h6, h7]
    simp [sameAnchor_iff.2 h8, sameAnchor_iff.2 h9]

theorem checkStmt_while_iff {e : VEnv} {x : Name} {body : Stmts} {pos : Pos} {w w' : Walk} :
    checkStmt e (.while_ x body pos) w = some w' ↔
    ∃ rx tmp offE offL w1, e.me.regOf x = some rx ∧ e.me.isNamed tmp = false ∧
      e.at w.pc = some (.add tmp rx 0) ∧ e.at (e.next w.pc) = some (.jmpc offE tmp) ∧
      checkStmts e body { w with pc := e.next (e.next w.pc) } = some w1 ∧
      e.at w1.pc = some (.jmp offL) ∧
      Anch e.code (((skipc e.code w1.pc : Nat) : Int) + offL) w.pc ∧
      Anch e.code (((skipc e.code (e.next w.pc) : Nat) : Int) + offE) (skipc e.code w1.pc + 1) ∧
      w' = { w1 with pc := skipc e.code w1.pc + 1 } := by
  refine ⟨fun h => ?_, ?_⟩
  · rw [checkStmt] at h
    dsimp only at h
    split at h
    · rename_i rx tmp s h1 h2
      rw [Option.ite_none_left_eq_some] at h
      obtain ⟨hc1, h⟩ := h
      split at h
      · rename_i offE cc h3
        rw [Option.ite_none_left_eq_some] at h
        obtain ⟨hc2, h⟩ := h
        split at h
        · rename_i w1 h4
          split at h
          · rename_i offL h5
            rw [Option.ite_none_right_eq_some, Bool.and_eq_true, sameAnchor_iff, sameAnchor_iff] at h
            obtain ⟨hc3, h⟩ := h
            cases h
            simp only [not_or, Decidable.not_not, Bool.not_eq_true] at hc1 hc2
            obtain ⟨rfl, hn⟩ := hc1
            subst hc2
            exact ⟨_, _, offE, offL, w1, h1, hn, h2, h3, h4, h5, hc3.1, hc3.2, rfl⟩
          · cases h
        · cases h
      · cases h
    · cases h
  · rintro ⟨rx, tmp, offE, offL, w1, h2, hn, h3, h4, h5, h7, h8, h9, rfl⟩
    simp only [checkStmt, h2, h3, h4, h5, h7]
    simp [hn, sameAnchor_iff.2 h8, sameAnchor_iff.2 h9]

theorem checkStmt_goto_iff {e : VEnv} {m : Name} {pos : Pos} {w w' : Walk} :
    checkStmt e (.goto m pos) w = some w' ↔
    ∃ off, e.at w.pc = some (.jmp off) ∧
      w' = { w with pc := e.next w.pc, gotos := w.gotos ++ [(skipc e.code w.pc, off, m)] } := by
  refine ⟨fun h => ?_, ?_⟩
  · rw [checkStmt] at h
    split at h
    · rename_i off h1
      cases h
      exact ⟨off, h1, rfl⟩
    · cases h
  · rintro ⟨off, h, rfl⟩
    simp only [checkStmt, h]

theorem checkStmt_ifGoto_iff {e : VEnv} {x : Name} {cst : Nat} {m : Name} {pos : Pos} {w w' : Walk} :
    checkStmt e (.ifGoto x cst m pos) w = some w' ↔
    ∃ rx t1 t2 t0 off, e.me.regOf x = some rx ∧
      e.at w.pc = some (.add t1 rx 0) ∧ e.me.isNamed t1 = false ∧
      e.at (e.next w.pc) = some (.const t2 (cst : Int)) ∧ e.me.isNamed t2 = false ∧ t2 ≠ t1 ∧
      cst < WORD_MAX ∧
      e.at (e.next (e.next w.pc)) = some (.test t0 t1 t2) ∧ e.me.isNamed t0 = false ∧
      e.at (e.next (e.next (e.next w.pc))) = some (.jmpc off t0) ∧
      w' = { w with pc := e.next (e.next (e.next (e.next w.pc))),
                    gotos := w.gotos ++ [(skipc e.code (e.next (e.next (e.next w.pc))), off, m)] } := by
  refine ⟨fun h => ?_, ?_⟩
  · rw [checkStmt] at h
    dsimp only at h
    split at h
    · rename_i rx t1 s h1 h2
      rw [Option.ite_none_left_eq_some] at h
      obtain ⟨hc1, h⟩ := h
      split at h
      · rename_i t2 cc h3
        rw [Option.ite_none_left_eq_some] at h
        obtain ⟨hc2, h⟩ := h
        split at h
        · rename_i t0 a b h4
          rw [Option.ite_none_left_eq_some] at h
          obtain ⟨hc3, h⟩ := h
          split at h
          · rename_i off c0 h5
            rw [Option.ite_none_left_eq_some] at h
            obtain ⟨hc4, h⟩ := h
            cases h
            simp only [not_or, Decidable.not_not, Bool.not_eq_true] at hc1 hc2 hc3 hc4
            obtain ⟨rfl, hn1⟩ := hc1
            obtain ⟨rfl, hn2, hne, hlt⟩ := hc2
            obtain ⟨rfl, rfl, hn0⟩ := hc3
            subst hc4
            exact ⟨_, _, _, _, off, h1, h2, hn1, h3, hn2, hne, by simpa using hlt, h4, hn0, h5, rfl⟩
          · cases h
        · cases h
      · cases h
    · cases h
  · rintro ⟨rx, t1, t2, t0, off, h1, h2, n1, h3, n2, hne, hc, h4, n0, h5, rfl⟩
    simp only [checkStmt, h1, h2, h3, h4, h5]
    simp [n1, n2, n0, hne, hc]

theorem checkStmt_stop_iff {e : VEnv} {pos : Pos} {w w' : Walk} :
    checkStmt e (.stop pos) w = some w' ↔
    e.at w.pc = some .halt ∧ w' = { w with pc := e.next w.pc } := by
  refine ⟨fun h => ?_, ?_⟩
  · rw [checkStmt] at h
    split at h
    · rename_i h1
      cases h
      exact ⟨h1, rfl⟩
    · cases h
  · rintro ⟨h, rfl⟩
    simp only [checkStmt, h]

theorem checkStmts_cons_inv {e : VEnv} {s : Stmt} {ss : Stmts} {w w' : Walk}
    (h : checkStmts e (.cons s ss) w = some w') :
    ∃ w1, checkStmt e s w = some w1 ∧ checkStmts e ss w1 = some w' := by
  rw [checkStmts] at h
  split at h
  · rename_i w1 h1
    exact ⟨w1, h1, h⟩
  · cases h

theorem checkStmts_nil_inv {e : VEnv} {w w' : Walk} (h : checkStmts e .nil w = some w') : w' = w := by
  rw [checkStmts] at h
  cases h
  rfl

structure Sub (w G : Walk) : Prop where
  marks : ∀ x ∈ w.marks, x ∈ G.marks
  gotos : ∀ x ∈ w.gotos, x ∈ G.gotos

theorem Sub.refl (w : Walk) : Sub w w := ⟨fun _ h => h, fun _ h => h⟩
theorem Sub.of_eq {a b G : Walk} (hm : a.marks = b.marks) (hg : a.gotos = b.gotos) (h : Sub b G) :
    Sub a G := ⟨fun x hx => h.marks x (hm ▸ hx), fun x hx => h.gotos x (hg ▸ hx)⟩
theorem Sub.trans {a b c : Walk} (h1 : Sub a b) (h2 : Sub b c) : Sub a c :=
  ⟨fun x h => h2.marks x (h1.marks x h), fun x h => h2.gotos x (h1.gotos x h)⟩

mutual
/-- the code of statement `s` occupies `pc … pc'`; its jumps are recorded in `G` -/
def SAt1 (e : VEnv) (G : Walk) : Stmt → Nat → Nat → Prop
  | .assign x v _, pc, pc' => ∃ rx, e.me.regOf x = some rx ∧ checkValue e v [] pc = some (rx, pc')
  | .mark _ _, pc, pc' => pc' = pc
  | .loop id x body _, pc, pc' => ∃ ctr rx offE offL pcB,
      e.me.ctrOf id = some ctr ∧ e.me.regOf x = some rx ∧
      e.at pc = some (.add ctr rx 0) ∧ e.at (e.next pc) = some (.jmpc offE ctr) ∧
      SAt e G body (e.next (e.next pc)) pcB ∧
      e.at pcB = some (.add ctr ctr (-1)) ∧ e.at (e.next pcB) = some (.jmp offL) ∧
      Anch e.code (((skipc e.code (e.next pcB) : Nat) : Int) + offL) (e.next pc) ∧
      Anch e.code (((skipc e.code (e.next pc) : Nat) : Int) + offE) (skipc e.code (e.next pcB) + 1) ∧
      pc' = skipc e.code (e.next pcB) + 1
  | .while_ x body _, pc, pc' => ∃ rx tmp offE offL pcB,
      e.me.regOf x = some rx ∧ e.me.isNamed tmp = false ∧
      e.at pc = some (.add tmp rx 0) ∧ e.at (e.next pc) = some (.jmpc offE tmp) ∧
      SAt e G body (e.next (e.next pc)) pcB ∧
      e.at pcB = some (.jmp offL) ∧
      Anch e.code (((skipc e.code pcB : Nat) : Int) + offL) pc ∧
      Anch e.code (((skipc e.code (e.next pc) : Nat) : Int) + offE) (skipc e.code pcB + 1) ∧
      pc' = skipc e.code pcB + 1
  | .goto m _, pc, pc' => ∃ off, e.at pc = some (.jmp off) ∧
      (skipc e.code pc, off, m) ∈ G.gotos ∧ pc' = e.next pc
  | .ifGoto x cst m _, pc, pc' => ∃ rx t1 t2 t0 off, e.me.regOf x = some rx ∧
      e.at pc = some (.add t1 rx 0) ∧ e.me.isNamed t1 = false ∧
      e.at (e.next pc) = some (.const t2 (cst : Int)) ∧ e.me.isNamed t2 = false ∧ t2 ≠ t1 ∧
      cst < WORD_MAX ∧
      e.at (e.next (e.next pc)) = some (.test t0 t1 t2) ∧ e.me.isNamed t0 = false ∧
      e.at (e.next (e.next (e.next pc))) = some (.jmpc off t0) ∧
      (skipc e.code (e.next (e.next (e.next pc))), off, m) ∈ G.gotos ∧
      pc' = e.next (e.next (e.next (e.next pc)))
  | .stop _, pc, pc' => e.at pc = some .halt ∧ pc' = e.next pc
def SAt (e : VEnv) (G : Walk) : Stmts → Nat → Nat → Prop
  | .nil, pc, pc' => pc' = pc
  | .cons s ss, pc, pc' => ∃ pc1, SAt1 e G s pc pc1 ∧ SAt e G ss pc1 pc'
end

/-- the code that runs when the focus is exhausted under continuation `k`, up to the end
    `pcEnd` of the routine -/
def KAt (e : VEnv) (G : Walk) : Kont → Nat → Nat → Prop
  | .done, pc, pcEnd => pc = pcEnd
  | .loop id body rest k, pc, pcEnd => ∃ ctr offE offL pJ pcR,
      e.me.ctrOf id = some ctr ∧ e.at pJ = some (.jmpc offE ctr) ∧
      SAt e G body (e.next pJ) pc ∧
      e.at pc = some (.add ctr ctr (-1)) ∧ e.at (e.next pc) = some (.jmp offL) ∧
      Anch e.code (((skipc e.code (e.next pc) : Nat) : Int) + offL) pJ ∧
      Anch e.code (((skipc e.code pJ : Nat) : Int) + offE) (skipc e.code (e.next pc) + 1) ∧
      SAt e G rest (skipc e.code (e.next pc) + 1) pcR ∧ KAt e G k pcR pcEnd
  | .while_ x body rest k, pc, pcEnd => ∃ rx tmp offE offL pL pcR,
      e.me.regOf x = some rx ∧ e.me.isNamed tmp = false ∧
      e.at pL = some (.add tmp rx 0) ∧ e.at (e.next pL) = some (.jmpc offE tmp) ∧
      SAt e G body (e.next (e.next pL)) pc ∧
      e.at pc = some (.jmp offL) ∧
      Anch e.code (((skipc e.code pc : Nat) : Int) + offL) pL ∧
      Anch e.code (((skipc e.code (e.next pL) : Nat) : Int) + offE) (skipc e.code pc + 1) ∧
      SAt e G rest (skipc e.code pc + 1) pcR ∧ KAt e G k pcR pcEnd

/-- what a successful walk over a statement (list) leaves: it only adds marks and jumps, only moves
    forward, and the code it passed has the shape of the statement, its jumps recorded in any
    walk `G` that continues it -/
theorem check_walk (e : VEnv) :
    (∀ s w w', checkStmt e s w = some w' →
      Sub w w' ∧ w.pc ≤ w'.pc ∧ ∀ G, Sub w' G → SAt1 e G s w.pc w'.pc) ∧
    ∀ ss w w', checkStmts e ss w = some w' →
      Sub w w' ∧ w.pc ≤ w'.pc ∧ ∀ G, Sub w' G → SAt e G ss w.pc w'.pc := by
  have n1 : ∀ pc, pc ≤ e.next pc := fun pc => Nat.le_of_lt (lt_next e pc)
  have n2 : ∀ pc, pc ≤ e.next (e.next pc) := fun pc => Nat.le_trans (n1 _) (n1 _)
  have last : ∀ {w : Walk} {x}, x ∈ w.gotos ++ [x] :=
    List.mem_append_right _ (List.mem_singleton.2 rfl)
  apply stmts_induct
  case assign =>
    intro x v pos w w' h
    obtain ⟨rx, pc1, h1, h2, rfl⟩ := checkStmt_assign_iff.1 h
    exact ⟨⟨fun _ h => h, fun _ h => h⟩, Nat.le_of_lt (checkValue_lt h1), fun _ _ => ⟨rx, h2, h1⟩⟩
  case mark =>
    intro m pos w w' h
    rw [checkStmt_mark_inv h]
    exact ⟨⟨fun _ h => List.mem_append_left _ h, fun _ h => h⟩, Nat.le_refl _, fun _ _ => rfl⟩
  case loop =>
    intro id x body pos ih w w' h
    obtain ⟨ctr, rx, offE, offL, w1, h1, h2, h3, h4, hb, h5, h6, h7, h8, rfl⟩ := checkStmt_loop_iff.1 h
    obtain ⟨hs, hle, hsat⟩ := ih _ _ hb
    exact ⟨⟨hs.marks, hs.gotos⟩, Nat.le_trans (n2 _) (Nat.le_trans hle
        (Nat.le_trans (n1 _) (Nat.le_trans (le_skipc _ _) (Nat.le_succ _)))),
      fun G hG => ⟨ctr, rx, offE, offL, w1.pc, h1, h2, h3, h4, hsat G ⟨hG.marks, hG.gotos⟩, h5, h6,
        h7.skip, h8, rfl⟩⟩
  case while_ =>
    intro x body pos ih w w' h
    obtain ⟨rx, tmp, offE, offL, w1, h1, h2, h3, h4, hb, h5, h6, h7, rfl⟩ := checkStmt_while_iff.1 h
    obtain ⟨hs, hle, hsat⟩ := ih _ _ hb
    exact ⟨⟨hs.marks, hs.gotos⟩, Nat.le_trans (n2 _) (Nat.le_trans hle
        (Nat.le_trans (le_skipc _ _) (Nat.le_succ _))),
      fun G hG => ⟨rx, tmp, offE, offL, w1.pc, h1, h2, h3, h4, hsat G ⟨hG.marks, hG.gotos⟩, h5, h6, h7,
        rfl⟩⟩
  case goto =>
    intro m pos w w' h
    obtain ⟨off, h1, rfl⟩ := checkStmt_goto_iff.1 h
    exact ⟨⟨fun _ h => h, fun _ h => List.mem_append_left _ h⟩, n1 w.pc,
      fun G hG => ⟨off, h1, hG.gotos _ last, rfl⟩⟩
  case ifGoto =>
    intro x cst m pos w w' h
    obtain ⟨rx, t1, t2, t0, off, g1, g2, g3, g4, g5, g6, g7, g8, g9, g10, rfl⟩ :=
      checkStmt_ifGoto_iff.1 h
    exact ⟨⟨fun _ h => h, fun _ h => List.mem_append_left _ h⟩, Nat.le_trans (n2 _) (n2 _),
      fun G hG => ⟨rx, t1, t2, t0, off, g1, g2, g3, g4, g5, g6, g7, g8, g9, g10, hG.gotos _ last, rfl⟩⟩
  case stop =>
    intro pos w w' h
    obtain ⟨h1, rfl⟩ := checkStmt_stop_iff.1 h
    exact ⟨⟨fun _ h => h, fun _ h => h⟩, n1 w.pc, fun _ _ => ⟨h1, rfl⟩⟩
  case nil =>
    intro w w' h
    rw [checkStmts_nil_inv h]
    exact ⟨Sub.refl _, Nat.le_refl _, fun _ _ => rfl⟩
  case cons =>
    intro s ss ih1 ih2 w w' h
    obtain ⟨w1, h1, h2⟩ := checkStmts_cons_inv h
    obtain ⟨a1, b1, c1⟩ := ih1 _ _ h1
    obtain ⟨a2, b2, c2⟩ := ih2 _ _ h2
    exact ⟨a1.trans a2, Nat.le_trans b1 b2, fun G hG => ⟨w1.pc, c1 G (a2.trans hG), c2 G hG⟩⟩

theorem checkStmt_mono (e : VEnv) : ∀ (s : Stmt) (w w' : Walk), checkStmt e s w = some w' → Sub w w' :=
  fun s w w' h => ((check_walk e).1 s w w' h).1
theorem checkStmts_mono (e : VEnv) : ∀ (ss : Stmts) (w w' : Walk), checkStmts e ss w = some w' → Sub w w' :=
  fun ss w w' h => ((check_walk e).2 ss w w' h).1

theorem checkStmt_pc_le (e : VEnv) : ∀ (s : Stmt) (w w' : Walk), checkStmt e s w = some w' →
    w.pc ≤ w'.pc := fun s w w' h => ((check_walk e).1 s w w' h).2.1
theorem checkStmts_pc_le (e : VEnv) : ∀ (ss : Stmts) (w w' : Walk), checkStmts e ss w = some w' →
    w.pc ≤ w'.pc := fun ss w w' h => ((check_walk e).2 ss w w' h).2.1

theorem checkStmt_sat (e : VEnv) (G : Walk) : ∀ (s : Stmt) (w w' : Walk),
    checkStmt e s w = some w' → Sub w' G → SAt1 e G s w.pc w'.pc :=
  fun s w w' h => ((check_walk e).1 s w w' h).2.2 G
theorem checkStmts_sat (e : VEnv) (G : Walk) : ∀ (ss : Stmts) (w w' : Walk),
    checkStmts e ss w = some w' → Sub w' G → SAt e G ss w.pc w'.pc :=
  fun ss w w' h => ((check_walk e).2 ss w w' h).2.2 G

theorem findLabel_spec (e : VEnv) (G : Walk) (m : Name) :
    (∀ s rest K w w1 w' pcEnd, checkStmt e s w = some w1 → checkStmts e rest w1 = some w' →
      Sub w' G → KAt e G K w'.pc pcEnd →
      (∀ ss' K', findLabelStmt m s rest K = some (ss', K') →
        ∃ pm pcE, (m, pm) ∈ w1.marks ∧ SAt e G ss' pm pcE ∧ KAt e G K' pcE pcEnd) ∧
      (findLabelStmt m s rest K = none → ∀ pm, (m, pm) ∈ w1.marks → (m, pm) ∈ w.marks)) ∧
    ∀ ss K w w' pcEnd, checkStmts e ss w = some w' → Sub w' G → KAt e G K w'.pc pcEnd →
      (∀ ss' K', findLabel m ss K = some (ss', K') →
        ∃ pm pcE, (m, pm) ∈ w'.marks ∧ SAt e G ss' pm pcE ∧ KAt e G K' pcE pcEnd) ∧
      (findLabel m ss K = none → ∀ pm, (m, pm) ∈ w'.marks → (m, pm) ∈ w.marks) := by
  apply stmts_induct
  case assign =>
    intro x v pos rest K w w1 w' pcEnd h1 _ _ _
    obtain ⟨rx, pc1, _, _, rfl⟩ := checkStmt_assign_iff.1 h1
    exact ⟨fun _ _ h => (nomatch h), fun _ _ h => h⟩
  case mark =>
    intro m' pos rest K w w1 w' pcEnd h1 h2 hs hk
    have hw1 := checkStmt_mark_inv h1
    subst hw1
    simp only [findLabelStmt]
    by_cases hm : m' = m
    · subst hm
      rw [if_pos rfl]
      refine ⟨fun ss' K' h => ?_, fun h => (nomatch h)⟩
      cases h
      have hr := checkStmts_sat e G rest _ _ h2 hs
      exact ⟨w.pc, w'.pc, List.mem_append_right _ (List.mem_singleton.2 rfl), ⟨w.pc, rfl, hr⟩, hk⟩
    · rw [if_neg hm]
      refine ⟨fun _ _ h => (nomatch h), fun _ pm h => ?_⟩
      rcases List.mem_append.1 h with h | h
      · exact h
      · rw [List.mem_singleton] at h
        cases h
        exact absurd rfl hm
  case loop =>
    intro id x body pos ih rest K w w1 w' pcEnd h1 h2 hs hk
    obtain ⟨ctr, rx, offE, offL, wb, g1, g2, g3, g4, hb, g5, g6, g7, g8, rfl⟩ := checkStmt_loop_iff.1 h1
    have hsub0 := (checkStmts_mono e rest _ _ h2).trans hs
    have hsub1 : Sub wb G := ⟨hsub0.marks, hsub0.gotos⟩
    have hk' : KAt e G (.loop id body rest K) wb.pc pcEnd :=
      ⟨ctr, offE, offL, e.next w.pc, w'.pc, g1, g4, checkStmts_sat e G body _ _ hb hsub1, g5, g6,
        g7.skip, g8, checkStmts_sat e G rest _ _ h2 hs, hk⟩
    have := ih _ _ wb pcEnd hb hsub1 hk'
    exact this
  case while_ =>
    intro x body pos ih rest K w w1 w' pcEnd h1 h2 hs hk
    obtain ⟨rx, tmp, offE, offL, wb, g1, g2, g3, g4, hb, g5, g6, g7, rfl⟩ := checkStmt_while_iff.1 h1
    have hsub0 := (checkStmts_mono e rest _ _ h2).trans hs
    have hsub1 : Sub wb G := ⟨hsub0.marks, hsub0.gotos⟩
    have hk' : KAt e G (.while_ x body rest K) wb.pc pcEnd :=
      ⟨rx, tmp, offE, offL, w.pc, w'.pc, g1, g2, g3, g4, checkStmts_sat e G body _ _ hb hsub1, g5,
        g6, g7, checkStmts_sat e G rest _ _ h2 hs, hk⟩
    have := ih _ _ wb pcEnd hb hsub1 hk'
    exact this
  case goto =>
    intro m' pos rest K w w1 w' pcEnd h1 _ _ _
    obtain ⟨off, _, rfl⟩ := checkStmt_goto_iff.1 h1
    exact ⟨fun _ _ h => (nomatch h), fun _ _ h => h⟩
  case ifGoto =>
    intro x cst m' pos rest K w w1 w' pcEnd h1 _ _ _
    obtain ⟨rx, t1, t2, t0, off, _, _, _, _, _, _, _, _, _, _, rfl⟩ := checkStmt_ifGoto_iff.1 h1
    exact ⟨fun _ _ h => (nomatch h), fun _ _ h => h⟩
  case stop =>
    intro pos rest K w w1 w' pcEnd h1 _ _ _
    obtain ⟨_, rfl⟩ := checkStmt_stop_iff.1 h1
    exact ⟨fun _ _ h => (nomatch h), fun _ _ h => h⟩
  case nil =>
    intro K w w' pcEnd h _ _
    rw [checkStmts_nil_inv h]
    exact ⟨fun _ _ h => (nomatch h), fun _ _ h => h⟩
  case cons =>
    intro s rest ih1 ih2 K w w' pcEnd h hs hk
    obtain ⟨w1, h1, h2⟩ := checkStmts_cons_inv h
    have ih1 := ih1 rest K w w1 w' pcEnd h1 h2 hs hk
    have ih2 := ih2 K w1 w' pcEnd h2 hs hk
    have hm := checkStmts_mono e rest _ _ h2
    simp only [findLabel]
    cases hf : findLabelStmt m s rest K with
    | some r =>
      refine ⟨fun ss' K' h => ?_, fun h => (nomatch h)⟩
      cases h
      obtain ⟨pm, pcE, g1, g2, g3⟩ := ih1.1 _ _ hf
      exact ⟨pm, pcE, hm.marks _ g1, g2, g3⟩
    | none => exact ⟨ih2.1, fun h pm hp => ih1.2 hf pm (ih2.2 h pm hp)⟩

theorem findLabelStmt_spec (e : VEnv) (G : Walk) (m : Name) : ∀ (s : Stmt) (rest : Stmts) (K : Kont)
    (w w1 w' : Walk) (pcEnd : Nat),
    checkStmt e s w = some w1 → checkStmts e rest w1 = some w' → Sub w' G → KAt e G K w'.pc pcEnd →
    (∀ ss' K', findLabelStmt m s rest K = some (ss', K') →
      ∃ pm pcE, (m, pm) ∈ w1.marks ∧ SAt e G ss' pm pcE ∧ KAt e G K' pcE pcEnd) ∧
    (findLabelStmt m s rest K = none → ∀ pm, (m, pm) ∈ w1.marks → (m, pm) ∈ w.marks) :=
  (findLabel_spec e G m).1

/-- every recorded jump has a target in the source, and lands where that target's code starts -/
theorem goto_resolve {e : VEnv} {G : Walk} {body : Stmts} {start : Nat}
    (hchk : checkStmts e body ⟨start, [], []⟩ = some G) (hres : resolveOK e.code G = true)
    {pos : Nat} {off : Int} {m : Name} (hg : (pos, off, m) ∈ G.gotos) :
    ∃ ss' K' pm pcE, findLabel m body .done = some (ss', K') ∧ Anch e.code ((pos : Int) + off) pm ∧
      SAt e G ss' pm pcE ∧ KAt e G K' pcE G.pc := by
  have hr := List.all_eq_true.1 hres _ hg
  simp only at hr
  split at hr
  · rename_i mk hfil
    rw [sameAnchor_iff] at hr
    have hmk : ∀ pm, (m, pm) ∈ G.marks → (m, pm) = mk := by
      intro pm hp
      have : (m, pm) ∈ G.marks.filter (fun mm => mm.1 = m) := by
        rw [List.mem_filter]; exact ⟨hp, by simp⟩
      rw [hfil, List.mem_singleton] at this
      exact this
    have hk : KAt e G .done G.pc G.pc := by simp only [KAt]
    have sp := (findLabel_spec e G m).2 body .done _ G G.pc hchk (Sub.refl G) hk
    cases hf : findLabel m body .done with
    | none =>
      have hmem : mk ∈ G.marks.filter (fun mm => mm.1 = m) := by rw [hfil]; exact List.mem_singleton.2 rfl
      rw [List.mem_filter] at hmem
      have h1 : mk.1 = m := by simpa using hmem.2
      have := sp.2 hf mk.2 (by rw [← h1]; exact hmem.1)
      cases this
    | some r =>
      obtain ⟨ss', K'⟩ := r
      obtain ⟨pm, pcE, g1, g2, g3⟩ := sp.1 _ _ hf
      have := hmk pm g1
      subst this
      exact ⟨ss', K', pm, pcE, rfl, hr, g2, g3⟩
  · cases hr

/-- what the validator checked for routine `i` (with the routines `infos` defined before it) -/
def RoutOK (src : Source) (p : Program) (infos : List RInfo) (i : Nat) (pd : ProgDef) (ri : RInfo)
    (G : Walk) : Prop :=
  ri.mi = i ∧ (∃ sm, p.stackMaps[i]? = some sm ∧ ri.regs = sm.map) ∧ namesNodup ri = true ∧
  paramsOK ri pd.params = true ∧
  checkStmts ⟨p.code, src, ri, i, infos⟩ pd.body ⟨ri.entry, [], []⟩ = some G ∧
  resolveOK p.code G = true ∧
  ∃ ro, VEnv.at ⟨p.code, src, ri, i, infos⟩ G.pc = some (.ret ro) ∧ ri.regOf pd.out = some ro

theorem checkProgs_cons_iff {p : Program} {src : Source} {pd : ProgDef} {rest : List ProgDef}
    {i : Nat} {infos : List RInfo} {pc : Nat} {res : List RInfo × Nat} :
    checkProgs p src (pd :: rest) i infos pc = some res ↔
    ∃ off sm w, p.code[skipc p.code pc]? = some (.jmp off) ∧ p.stackMaps[i]? = some sm ∧
      RoutOK src p infos i pd ⟨skipc p.code pc + 1, i, sm.map⟩ w ∧
      ((skipc p.code pc : Nat) : Int) + off = ((skipc p.code w.pc + 1 : Nat) : Int) ∧
      checkProgs p src rest (i + 1) (infos ++ [⟨skipc p.code pc + 1, i, sm.map⟩])
        (skipc p.code w.pc + 1) = some res := by
  constructor
  · intro h
    simp only [checkProgs] at h
    split at h
    · rename_i off sm h1 h2
      split at h
      · cases h
      · rename_i hc1
        split at h
        · rename_i w h3
          split at h
          · rename_i r ro h4 h5
            split at h
            · rename_i hc2
              obtain ⟨rfl, hres, hoff⟩ := hc2
              simp only [Bool.not_eq_true, Bool.not_eq_false', Bool.and_eq_true] at hc1
              exact ⟨off, sm, w, h1, h2, ⟨rfl, ⟨sm, h2, rfl⟩, hc1.1, hc1.2, h3, hres, r, h4, h5⟩, hoff, h⟩
            · cases h
          · cases h
        · cases h
    · cases h
  · rintro ⟨off, sm, w, h1, h2, ⟨_, _, hn, hp, hc, hr, ro, ha, ho⟩, hoff, h⟩
    rw [checkProgs]
    simp only [h1, h2, hc, ha, ho]
    simpa [hn, hp, hr, hoff] using h

end Sim
end Theo
