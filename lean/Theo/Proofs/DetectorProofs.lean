/-
  The LR(1) theory (C13) instantiated on the macro detector grammar (C09, C12).
-/
import Theo.Spec.KnuthLR
import Theo.Proofs.ApplyProofs
import Theo.Proofs.LRComplete
import Theo.Proofs.LRSound

namespace Theo
namespace DetectorProofs
open LRSound LRComplete FirstProofs

/-! ## the detector grammar: the fixed rules (a closed grammar) plus the rule of `MACRO`

Of its `DetGen.numNT = 8` non-terminals, `0 … 6` (ID, INT, VALUE, ARGS, P, STATEMENT, ATOMIC_P) have
the fixed rules `DetGen.rules`; `DetGen.macroNT = 7` has the one rule made from the pattern. -/

def fixedG : Grammar :=
  Grammar.ofRules DetGen.numNT
    (DetGen.rules.map (fun r => (r.1, r.2.map (fun s => if s.1 then Sym.t s.2 else Sym.n s.2))))

theorem ins_append (n : Nat) (rhs : List Sym) :
    ∀ l : List (Nat × List (List Sym)), (∀ e ∈ l, e.1 < n) →
      Grammar.add.ins n rhs l = l ++ [(n, [rhs])] := by
  intro l
  induction l with
  | nil => intro _; simp [Grammar.add.ins]
  | cons e es ih =>
    intro h
    have he : e.1 < n := h e (by simp)
    have h1 : ¬ e.1 = n := by omega
    have h2 : ¬ n < e.1 := by omega
    simp only [Grammar.add.ins, h1, h2, if_false, List.cons_append]
    rw [ih (fun e' he' => h e' (by simp [he']))]

theorem ruleSym_cases (t : Token) : ruleSym t = .t t.kind ∨ ∃ j, j < 7 ∧ ruleSym t = .n j := by
  unfold ruleSym
  cases h : DetGen.slotNT.find? (fun e => e.1 = t.kind) with
  | none => exact Or.inl rfl
  | some e =>
    exact Or.inr ⟨e.2, (by decide : ∀ e ∈ DetGen.slotNT, e.2 < 7) e (List.mem_of_find?_eq_some h), rfl⟩

theorem ruleSym_ne_eps (t : Token) : ruleSym t ≠ .eps := by
  rcases ruleSym_cases t with h | ⟨j, _, h⟩ <;> rw [h] <;> simp

theorem ruleSym_lt {t : Token} {k : Nat} (h : ruleSym t = .n k) : k < 7 := by
  rcases ruleSym_cases t with h' | ⟨j, hj, h'⟩ <;> rw [h'] at h <;> cases h
  exact hj

theorem fixed_keys : ∀ e ∈ fixedG.prods, e.1 < 7 := by decide +kernel

theorem detectorGrammar_eq (m : MacroDef) :
    detectorGrammar m = ⟨8, fixedG.prods ++ [(7, [m.rule.map ruleSym])]⟩ := by
  unfold detectorGrammar Grammar.ofRules
  rw [List.foldl_append]
  simp only [List.foldl_cons, List.foldl_nil]
  have hf : (m.rule.map ruleSym).filter (fun s => decide (s ≠ Sym.eps)) = m.rule.map ruleSym := by
    rw [List.filter_eq_self]
    intro s hs
    obtain ⟨t, _, rfl⟩ := List.mem_map.mp hs
    simpa using ruleSym_ne_eps t
  show Grammar.add fixedG DetGen.macroNT _ = _
  simp only [Grammar.add, hf]
  rw [ins_append DetGen.macroNT (m.rule.map ruleSym) fixedG.prods fixed_keys]
  rfl

theorem det_numNT (m : MacroDef) : (detectorGrammar m).numNT = 8 := by rw [detectorGrammar_eq]

theorem det_prods (m : MacroDef) :
    (detectorGrammar m).prods = fixedG.prods ++ [(7, [m.rule.map ruleSym])] := by rw [detectorGrammar_eq]

theorem det_alts (m : MacroDef) (l : Nat) : (detectorGrammar m).alts l =
    if l = DetGen.macroNT then [m.rule.map ruleSym] else fixedG.alts l := by
  simp only [Grammar.alts, det_prods, List.find?_append, List.find?_singleton]
  by_cases h : l = DetGen.macroNT
  · subst h
    rw [show fixedG.prods.find? (fun e => decide (e.1 = DetGen.macroNT)) = none by decide +kernel]
    rfl
  · have h' : ¬ 7 = l := fun e => h e.symm
    simp [h, h']

theorem det_alts_macro (m : MacroDef) :
    (detectorGrammar m).alts DetGen.macroNT = [m.rule.map ruleSym] := by rw [det_alts, if_pos rfl]

theorem fixed_syms : fixedG.prods.all (fun e => e.2.all (fun a => a.all (fun s =>
    match s with | .eps => false | .t _ => true | .n k => decide (k < 7)))) = true := by decide +kernel

theorem fixed_sym (e : Nat × List (List Sym)) (he : e ∈ fixedG.prods) (a : List Sym) (ha : a ∈ e.2)
    (s : Sym) (hs : s ∈ a) : s ≠ .eps ∧ ∀ k, s = .n k → k < 7 := by
  have h := fixed_syms
  simp only [List.all_eq_true] at h
  have := h e he a ha s hs
  cases s with
  | eps => cases this
  | t i => simp
  | n k => simpa using this

theorem det_closed (m : MacroDef) : (detectorGrammar m).Closed := by
  intro e he
  rw [det_prods] at he
  rw [det_numNT]
  rcases List.mem_append.mp he with he | he
  · refine ⟨by have := fixed_keys e he; omega, ?_⟩
    intro a ha s hs
    have := fixed_sym e he a ha s hs
    exact ⟨this.1, fun k hk => by have := this.2 k hk; omega⟩
  · simp only [List.mem_singleton] at he
    subst he
    refine ⟨by omega, ?_⟩
    intro a ha s hs
    simp only [List.mem_singleton] at ha
    subst ha
    obtain ⟨t, _, rfl⟩ := List.mem_map.mp hs
    exact ⟨ruleSym_ne_eps t, fun k hk => Nat.lt_succ_of_lt (ruleSym_lt hk)⟩

theorem det_start_lt (m : MacroDef) : DetGen.macroNT < (detectorGrammar m).numNT := by
  rw [det_numNT]; decide

theorem fixed_no_eof : Tok.T_EOF ∉ fixedG.terminals := by decide +kernel

theorem det_eof_notin (m : MacroDef) (hr : ∀ t ∈ m.rule, t.kind ≠ Tok.T_EOF) :
    Tok.T_EOF ∉ (detectorGrammar m).terminals := by
  intro h
  simp only [Grammar.terminals, det_prods, List.flatMap_append, List.mem_append] at h
  rcases h with h | h
  · exact fixed_no_eof h
  · simp only [List.flatMap_cons, List.flatMap_nil, List.append_nil, List.mem_filterMap, List.mem_map] at h
    obtain ⟨s, ⟨t, ht, rfl⟩, hs⟩ := h
    rcases ruleSym_cases t with h' | ⟨j, _, h'⟩ <;> rw [h'] at hs
    · exact hr t ht (by simpa using hs)
    · simp at hs

/-- the table width: the fixed rules use `WITH` (in `VALUE → RUN ID WITH ARGS END`) -/
theorem det_maxT_ge (m : MacroDef) :
    Tok.WITH ≤ ((detectorGrammar m).augment DetGen.macroNT Tok.T_EOF).maxTerminal := by
  apply le_maxTerminal
  apply alts_terminal (n := 2) (rhs := [.t Tok.RUN, .n 0, .t Tok.WITH, .n 3, .t Tok.END])
  · rw [augment_alts_lt _ _ _ _ (by rw [det_numNT]; omega), det_alts, if_neg (by decide)]
    decide +kernel
  · simp [Tok.WITH]

theorem det_tables (m : MacroDef) :
    (mkDetector m).tables = tablesOf (detectorGrammar m) DetGen.macroNT Tok.T_EOF true detectorStateFuel := rfl

theorem alts_nodup {g : Grammar} (h : ∀ e ∈ g.prods, e.2.Nodup) (n : Nat) : (g.alts n).Nodup := by
  unfold Grammar.alts
  cases hf : g.prods.find? (fun e => e.1 = n) with
  | none => simp
  | some e => exact h e (List.mem_of_find?_eq_some hf)

theorem det_noDupAlts (m : MacroDef) : (detectorGrammar m).NoDupAlts := by
  intro n
  rw [det_alts]
  split
  · simp
  · exact alts_nodup (by decide +kernel) n

/-! ## sample derivations; the detector grammar is reduced

`.node l k` applies the `k`-th of the rules of non-terminal `l` in `DetGen.rules`. -/

def idT : Tree := .node 0 0 (.cons (.leaf Tok.ID) .nil)
def intT : Tree := .node 1 0 (.cons (.leaf Tok.INT) .nil)
def valT : Tree := .node 2 0 (.cons idT .nil)
def argsT : Tree := .node 3 0 (.cons valT .nil)
def argsT2 : Tree := .node 3 1 (.cons argsT (.cons (.leaf Tok.ARGSEP) (.cons valT .nil)))
def atomT : Tree := .node 6 5 (.cons (.leaf Tok.STOP) .nil)
def stmtT : Tree := .node 5 1 (.cons atomT .nil)
def progT : Tree := .node 4 1 (.cons stmtT .nil)
def progT2 : Tree := .node 4 0 (.cons progT (.cons (.leaf Tok.PROGSEP) (.cons stmtT .nil)))

def ntSample : Nat → Tree
  | 0 => idT | 1 => intT | 2 => valT | 3 => argsT | 4 => progT | 5 => stmtT | _ => atomT

theorem fixed_valid (m : MacroDef) {t : Tree} (h : t.Valid fixedG) : t.Valid (detectorGrammar m) := by
  refine valid_mono (fun l a r h => ?_) t h
  rw [det_alts]
  split
  · next hl => rw [hl, show fixedG.alts DetGen.macroNT = [] by decide +kernel] at h; cases h
  · exact h

theorem ntSample_ok (m : MacroDef) (k : Nat) (hk : k < 7) :
    (ntSample k).root = .n k ∧ (ntSample k).Valid (detectorGrammar m) :=
  ⟨(by decide : ∀ k < 7, (ntSample k).root = .n k) k hk,
    fixed_valid m ((by decide +kernel : ∀ k < 7, (ntSample k).Valid fixedG) k hk)⟩

def sample (t : Token) : Tree :=
  match ruleSym t with
  | .n k => ntSample k
  | _ => .leaf t.kind

theorem sample_ok (m : MacroDef) (t : Token) :
    (sample t).root = ruleSym t ∧ (sample t).Valid (detectorGrammar m) := by
  unfold sample
  rcases ruleSym_cases t with h | ⟨j, hj, h⟩ <;> rw [h]
  · exact ⟨rfl, trivial⟩
  · exact ntSample_ok m j hj

theorem macro_valid (m : MacroDef) (ts : List Tree) (hr : ts.map Tree.root = m.rule.map ruleSym)
    (hv : ∀ t ∈ ts, t.Valid (detectorGrammar m)) :
    (Tree.node DetGen.macroNT 0 (Forest.ofList ts)).Valid (detectorGrammar m) :=
  ⟨by rw [det_alts_macro, roots_ofList, hr]; rfl, valid_ofList _ ts hv⟩

theorem det_productive (m : MacroDef) : (detectorGrammar m).Productive := by
  intro n hn
  rw [det_numNT] at hn
  rcases Nat.lt_or_ge n 7 with h | h
  · exact ⟨_, ntSample n, (ntSample_ok m n h).2, (ntSample_ok m n h).1, rfl⟩
  · obtain rfl : n = DetGen.macroNT := by simp only [DetGen.macroNT]; omega
    refine ⟨_, _, macro_valid m (m.rule.map sample) ?_ ?_, rfl, rfl⟩
    · rw [List.map_map]; exact List.map_congr_left (fun t _ => (sample_ok m t).1)
    · intro t ht
      obtain ⟨x, _, rfl⟩ := List.mem_map.mp ht
      exact (sample_ok m x).2

mutual
def tval : Tree → List Token → Accum
  | .leaf _, ts => accLeaf (ts.headD default)
  | .node l a cs, ts => accAct l a (tvalRev cs ts)
/-- the accumulations of a forest, last tree first; the tokens are distributed by yield length -/
def tvalRev : Forest → List Token → List Accum
  | .nil, _ => []
  | .cons t f, ts => tvalRev f (ts.drop t.yield.length) ++ [tval t (ts.take t.yield.length)]
end

mutual
def nodes : Tree → Nat
  | .leaf _ => 1
  | .node _ _ cs => fnodes cs + 1
def fnodes : Forest → Nat
  | .nil => 0
  | .cons t f => nodes t + fnodes f
end

theorem fnodes_ofList (ts : List Tree) : fnodes (Forest.ofList ts) = (ts.map nodes).sum := by
  induction ts with
  | nil => rfl
  | cons t ts ih => simp [Forest.ofList, fnodes, ih]

theorem tvalRev_snoc (t : Tree) : ∀ (l : List Tree) (seg' seg : List Token),
    seg'.length = (Forest.ofList l).yield.length → seg.length = t.yield.length →
    tvalRev (Forest.ofList (l ++ [t])) (seg' ++ seg) = tval t seg :: tvalRev (Forest.ofList l) seg' := by
  intro l
  induction l with
  | nil =>
    intro seg' seg h1 h2
    simp only [Forest.ofList, Forest.yield, List.length_nil, List.length_eq_zero_iff] at h1
    subst h1
    simp [Forest.ofList, tvalRev, ← h2]
  | cons u l ih =>
    intro seg' seg h1 h2
    simp only [Forest.ofList, Forest.yield, List.length_append] at h1
    simp only [List.cons_append, Forest.ofList, tvalRev]
    have hd : (seg' ++ seg).drop u.yield.length = seg'.drop u.yield.length ++ seg := by
      rw [List.drop_append_of_le_length (by omega)]
    have ht : (seg' ++ seg).take u.yield.length = seg'.take u.yield.length := by
      rw [List.take_append_of_le_length (by omega)]
    rw [hd, ht, ih _ _ (by simp; omega) h2]
    simp

abbrev kindOf (t : Token) : Nat := t.kind

inductive SRel : List (Tree × Accum) → List Token → Prop
  | nil : SRel [] []
  | cons {vs : List (Tree × Accum)} {c seg : List Token} {t : Tree} :
      SRel vs c → seg.map kindOf = t.yield → SRel ((t, tval t seg) :: vs) (c ++ seg)

theorem srel_split {vs : List (Tree × Accum)} {c : List Token} (h : SRel vs c) :
    ∀ beta, beta ≤ vs.length → ∃ c0 seg, SRel (vs.drop beta) c0 ∧ c = c0 ++ seg ∧
      seg.map kindOf = (Forest.ofList ((vs.take beta).map Prod.fst).reverse).yield ∧
      tvalRev (Forest.ofList ((vs.take beta).map Prod.fst).reverse) seg = (vs.take beta).map Prod.snd := by
  induction h with
  | nil =>
    intro beta hb
    simp only [List.length_nil, Nat.le_zero] at hb
    subst hb
    exact ⟨[], [], SRel.nil, rfl, rfl, rfl⟩
  | @cons vs c seg t hprev hseg ih =>
    intro beta hb
    cases beta with
    | zero => exact ⟨c ++ seg, [], SRel.cons hprev hseg, by simp, rfl, rfl⟩
    | succ beta =>
      obtain ⟨c0, seg', h1, h2, h3, h4⟩ := ih beta (by simpa using hb)
      refine ⟨c0, seg' ++ seg, by simpa using h1, by rw [h2, List.append_assoc], ?_, ?_⟩
      · simp only [List.take_succ_cons, List.map_cons, List.reverse_cons, List.map_append, h3, hseg]
        simp [yield_ofList]
      · simp only [List.take_succ_cons, List.map_cons, List.reverse_cons]
        rw [tvalRev_snoc, h4]
        · have := congrArg List.length h3
          simpa using this
        · have := congrArg List.length hseg
          simpa using this

def pleaf (x : Token) : Tree × Accum := (Tree.leaf x.kind, accLeaf x)
def pact (l a : Nat) (popped : List (Tree × Accum)) : Tree × Accum :=
  (nodeAct l a (popped.map Prod.fst), accAct l a (popped.map Prod.snd))

abbrev prun (T : Tables) (fuel : Nat) (inp : List Token) (sts : List Nat) (vals : List (Tree × Accum)) :
    ParseOut (Tree × Accum) :=
  lrParse T kindOf pleaf pact fuel inp sts vals

theorem prun_fst (T : Tables) (fuel : Nat) (inp : List Token) :
    lrParseTree T fuel (inp.map kindOf) = pmap Prod.fst (prun T fuel inp [0] []) := by
  have := lrParse_hom T kindOf (fun (t : Nat) => t) pleaf Tree.leaf pact nodeAct kindOf Prod.fst
    (fun _ => rfl) (fun _ => rfl) (fun _ _ _ => rfl) fuel inp [0] []
  simpa [lrParseTree] using this

theorem prun_snd (T : Tables) (fuel : Nat) (inp : List Token) :
    lrParse T kindOf accLeaf accAct fuel inp [0] [] = pmap Prod.snd (prun T fuel inp [0] []) := by
  have := lrParse_hom T kindOf kindOf pleaf accLeaf pact accAct id Prod.snd
    (fun _ => rfl) (fun _ => rfl) (fun _ _ _ => rfl) fuel inp [0] []
  simpa using this

theorem pmap_eq_accept {α β : Type} {f : α → β} {r : ParseOut α} {v : β} (h : pmap f r = .accept v) :
    ∃ p, r = .accept p ∧ f p = v := by
  cases r with
  | accept p => exact ⟨p, rfl, by simpa [pmap] using h⟩
  | _ => cases h

theorem srel_single {t : Tree} {a : Accum} {c : List Token} (h : SRel [(t, a)] c) :
    c.map kindOf = t.yield ∧ a = tval t c := by
  cases h with
  | cons hprev hseg =>
    cases hprev
    exact ⟨by simpa using hseg, by simp⟩

theorem prun_accept (g : Grammar) (start eof : Nat) (pm : Bool) (sfuel : Nat)
    (hg : g.Closed) (hs : start < g.numNT) (fuel : Nat) (inp : List Token) (t : Tree) (a : Accum)
    (h : prun (genTables g start eof pm sfuel).1 fuel inp [0] [] = .accept (t, a)) :
    ∃ used x xs, inp = used ++ x :: xs ∧ used.map kindOf = t.yield ∧ a = tval t used ∧
      (∃ row ∈ (genTables g start eof pm sfuel).1.action, x.kind < row.length) ∧
      ∀ k, prun (genTables g start eof pm sfuel).1 (nodes t + 1 + k) inp [0] [] = .accept (t, a) := by
  have hS := collection_inv (g.augment start eof) (firstSets (g.augment start eof)) g.numNT eof sfuel
  have hT := genTables_ok g start eof pm sfuel
  generalize collection (g.augment start eof) (firstSets (g.augment start eof)) g.numNT eof sfuel = S
    at hS hT
  generalize (genTables g start eof pm sfuel).1 = T at hT h ⊢
  have ms := fun {a sts} {vals : List (Tree × Accum)} {m}
      (hstk : Stk S sts (vals.map (fun p => p.1.root))) =>
    move_sound g start eof pm _ S T hg hs hS hT (a := a) (m := m) hstk (List.length_map _)
  obtain ⟨k, x, xs, sts, vals', ⟨hstk, hsum, used, hrel, hinp⟩, hm, hrun⟩ :=
    lrParse_inv T kindOf pleaf pact
      (fun n inp' sts vals => Stk S sts (vals.map (fun p => p.1.root)) ∧
        (vals.map (fun p => nodes p.1)).sum = n ∧ ∃ used, SRel vals used ∧ used ++ inp' = inp)
      (fun n x xs sts vals m hm ⟨hstk, hsum, used, hrel, hinp⟩ => by
        have hms := ms hstk hm
        cases hm with
        | shift =>
          refine ⟨hms, ?_, used ++ [x], ?_, ?_⟩
          · simp only [List.map_cons, List.sum_cons, pleaf, nodes, hsum]; omega
          · have := SRel.cons (t := Tree.leaf x.kind) (seg := [x]) hrel rfl
            simpa [tval, pleaf] using this
          · rw [← hinp]; simp
        | @reduce _ _ _ l al beta _ _ _ _ _ _ hbeta =>
          refine ⟨?_, ?_, ?_⟩
          · simpa [pact, Tree.root, List.map_drop] using hms.2
          · have h1 := congrArg (fun l => (l.map (fun p : Tree × Accum => nodes p.1)).sum)
              (List.take_append_drop beta vals)
            simp only [List.map_append, List.sum_append] at h1
            simp only [List.map_cons, List.sum_cons, pact, nodes, fnodes_ofList, List.map_reverse,
              List.sum_reverse, List.map_map]
            simp only [Function.comp_def]
            omega
          · obtain ⟨c0, seg, h1, h2, h3, h4⟩ := srel_split hrel beta hbeta
            refine ⟨c0 ++ seg, ?_, by rw [← h2]; exact hinp⟩
            have := SRel.cons (t := Tree.node l al (Forest.ofList ((vals.take beta).map Prod.fst).reverse))
              (seg := seg) h1 (by simpa [Tree.yield] using h3)
            have hv : pact l al (vals.take beta) =
                (Tree.node l al (Forest.ofList ((vals.take beta).map Prod.fst).reverse),
                  tval (Tree.node l al (Forest.ofList ((vals.take beta).map Prod.fst).reverse)) seg) := by
              simp only [pact, tval, h4]
            rw [hv]; exact this
        | _ => trivial)
      fuel 0 inp [0] [] (t, a) ⟨Stk.base, rfl, [], SRel.nil, rfl⟩ h
  obtain ⟨hsyms, _⟩ := ms hstk hm
  simp only [List.map_cons, List.cons.injEq, List.map_eq_nil_iff] at hsyms
  obtain ⟨_, rfl⟩ := hsyms
  obtain ⟨hy, ha⟩ := srel_single hrel
  simp only [List.map_cons, List.map_nil, List.sum_cons, List.sum_nil, Nat.add_zero, Nat.zero_add] at hsum
  rw [hsum]
  cases hm with
  | accept hrow hx =>
    exact ⟨used, x, xs, hinp.symm, hy, ha, ⟨_, List.mem_of_getElem? hrow, hx⟩, hrun⟩

def rank : Sym → Nat
  | .n 0 => 1 | .n 1 => 1 | .n 2 => 2 | .n 3 => 3 | .n 4 => 3 | .n 5 => 2 | .n 6 => 1 | _ => 0

theorem rank_le (s : Sym) : rank s ≤ 3 := by
  unfold rank; split <;> omega

/-- the count behind `nodes_bound`: every node costs 1, every token of the yield brings 10, every
    subtree hands 9 and its rank upwards. A rule with two or more right-hand symbols pays for its
    node out of the 9s (ranks are at most 3), a unit rule out of the drop in rank. The resulting
    `nodes ≤ 10 · |yield| + 1` for a `MACRO` tree is what `detectFuel n = 32 (n + 2)` has to cover
    (`match_complete`) -/
theorem fixed_rank : ∀ e ∈ fixedG.prods, ∀ a ∈ e.2,
    10 + (a.map rank).sum ≤ 9 * a.length + rank (.n e.1) := by decide +kernel

theorem sum_rank_le (l : List Sym) : (l.map rank).sum ≤ 9 * l.length := by
  induction l with
  | nil => simp
  | cons s l ih => have := rank_le s; simp only [List.map_cons, List.sum_cons, List.length_cons]; omega

theorem det_rule_facts (m : MacroDef) (l a : Nat) (rhs : List Sym)
    (h : ((detectorGrammar m).alts l)[a]? = some rhs) :
    (∀ s ∈ rhs, s ≠ .n DetGen.macroNT) ∧
    (l ≠ DetGen.macroNT → 10 + (rhs.map rank).sum ≤ 9 * rhs.length + rank (.n l)) := by
  obtain ⟨e, he, hn, hr⟩ := alts_entry (List.mem_of_getElem? h)
  rw [det_prods] at he
  rcases List.mem_append.mp he with he | he
  · refine ⟨?_, fun _ => ?_⟩
    · intro s hs hs7
      have := (fixed_sym e he rhs hr s hs).2 7 hs7
      omega
    · rw [← hn]; exact fixed_rank e he rhs hr
  · simp only [List.mem_singleton] at he
    subst he
    simp only [List.mem_singleton] at hr
    subst hr
    refine ⟨?_, fun hl => absurd hn.symm hl⟩
    intro s hs hs7
    obtain ⟨t, _, rfl⟩ := List.mem_map.mp hs
    exact absurd (ruleSym_lt hs7) (by decide)

mutual
theorem nodes_bound (m : MacroDef) : (t : Tree) → t.Valid (detectorGrammar m) →
    t.root ≠ .n DetGen.macroNT → nodes t + 9 ≤ 10 * t.yield.length + rank t.root
  | .leaf k, _, _ => by simp [nodes, Tree.yield, Tree.root, rank]
  | .node l a cs, hv, hr => by
    have hl : l ≠ DetGen.macroNT := by intro h; apply hr; simp [Tree.root, h]
    obtain ⟨h1, h2⟩ := det_rule_facts m l a cs.roots hv.1
    have := fnodes_bound m cs hv.2 h1
    have := h2 hl
    simp only [nodes, Tree.yield, Tree.root]
    omega
theorem fnodes_bound (m : MacroDef) : (f : Forest) → f.Valid (detectorGrammar m) →
    (∀ s ∈ f.roots, s ≠ .n DetGen.macroNT) →
    fnodes f + 9 * f.roots.length ≤ 10 * f.yield.length + (f.roots.map rank).sum
  | .nil, _, _ => by simp [fnodes, Forest.roots, Forest.yield]
  | .cons t f, hv, hr => by
    have := nodes_bound m t hv.1 (hr _ (by simp [Forest.roots]))
    have := fnodes_bound m f hv.2 (fun s hs => hr s (by simp [Forest.roots, hs]))
    simp only [fnodes, Forest.roots, Forest.yield, List.length_cons, List.length_append, List.map_cons,
      List.sum_cons]
    omega
end

theorem macro_nodes_bound (m : MacroDef) (k : Nat) (cs : Forest)
    (hv : (Tree.node DetGen.macroNT k cs).Valid (detectorGrammar m)) :
    nodes (Tree.node DetGen.macroNT k cs) ≤ 10 * cs.yield.length + 1 := by
  obtain ⟨h1, _⟩ := det_rule_facts m _ k cs.roots hv.1
  have := fnodes_bound m cs hv.2 h1
  have := sum_rank_le cs.roots
  simp only [nodes]
  omega

mutual
theorem tval_total (m : MacroDef) : (t : Tree) → (seg : List Token) → t.Valid (detectorGrammar m) →
    t.root ≠ .n DetGen.macroNT → seg.map kindOf = t.yield → (tval t seg).total = seg
  | .leaf k, seg, _, _, hs => by
    match seg, hs with
    | [x], _ => simp [tval, accLeaf]
  | .node l a cs, seg, hv, hr, hs => by
    have hl : l ≠ DetGen.macroNT := by intro h; apply hr; simp [Tree.root, h]
    obtain ⟨h1, _⟩ := det_rule_facts m l a cs.roots hv.1
    have := (tvalRev_split m cs seg hv.2 h1 hs).1
    simp only [tval, accAct, if_neg hl]
    rw [List.flatMap_def, List.map_reverse]
    exact this
theorem tvalRev_split (m : MacroDef) : (f : Forest) → (seg : List Token) → f.Valid (detectorGrammar m) →
    (∀ s ∈ f.roots, s ≠ .n DetGen.macroNT) → seg.map kindOf = f.yield →
    (((tvalRev f seg).map (·.total)).reverse).flatten = seg ∧
    (((tvalRev f seg).map (·.total)).reverse).map (fun ts => ts.map kindOf) = f.toList.map Tree.yield
  | .nil, seg, _, _, hs => by
    simp only [Forest.yield, List.map_eq_nil_iff] at hs
    subst hs
    simp [tvalRev, Forest.toList]
  | .cons t f, seg, hv, hr, hs => by
    simp only [Forest.yield] at hs
    have ht : (seg.take t.yield.length).map kindOf = t.yield := by
      rw [List.map_take, hs, List.take_left']; rfl
    have hf : (seg.drop t.yield.length).map kindOf = f.yield := by
      rw [List.map_drop, hs, List.drop_left']; rfl
    have h1 := tval_total m t _ hv.1 (hr _ (by simp [Forest.roots])) ht
    obtain ⟨h2, h3⟩ := tvalRev_split m f _ hv.2 (fun s hs => hr s (by simp [Forest.roots, hs])) hf
    simp only [tvalRev, List.map_append, List.map_cons, List.map_nil, List.reverse_append,
      List.reverse_cons, List.reverse_nil, List.nil_append, List.cons_append, List.flatten_cons,
      Forest.toList, h1, h2, h3, ht, List.take_append_drop, and_self]
end

theorem macro_value (m : MacroDef) (k : Nat) (cs : Forest)
    (hv : (Tree.node DetGen.macroNT k cs).Valid (detectorGrammar m)) (seg : List Token)
    (hs : seg.map kindOf = cs.yield) :
    (tval (Tree.node DetGen.macroNT k cs) seg).split.flatten = seg ∧
    (tval (Tree.node DetGen.macroNT k cs) seg).total.length = seg.length ∧
    (tval (Tree.node DetGen.macroNT k cs) seg).split.map (fun ts => ts.map (·.kind)) =
      cs.toList.map Tree.yield := by
  obtain ⟨h1, _⟩ := det_rule_facts m _ k cs.roots hv.1
  obtain ⟨h2, h3⟩ := tvalRev_split m cs seg hv.2 h1 hs
  simp only [tval, accAct, if_pos]
  refine ⟨h2, ?_, h3⟩
  have := congrArg List.length h2
  simp only [List.length_flatten, List.map_reverse, List.sum_reverse, List.map_map] at this
  rw [← this, List.length_flatMap]
  rfl

abbrev detT (m : MacroDef) : Tables :=
  tablesOf (detectorGrammar m) DetGen.macroNT Tok.T_EOF true detectorStateFuel

theorem detectAt_some (m : MacroDef) (inp : List Token) (a : Accum) :
    detectAt (mkDetector m) inp = some a ↔
      ∃ t, prun (detT m) (detectFuel inp.length) inp [0] [] = .accept (t, a) := by
  unfold detectAt
  show (match lrParse (detT m) kindOf accLeaf accAct (detectFuel inp.length) inp [0] [] with
    | .accept v => some v
    | _ => none) = some a ↔ _
  rw [prun_snd]
  cases prun (detT m) (detectFuel inp.length) inp [0] [] <;> simp [pmap, Prod.ext_iff]

theorem match_derives (m : MacroDef) (inp : List Token) (a : Accum)
    (h : detectAt (mkDetector m) inp = some a) :
    ∃ (k : Nat) (cs : Forest),
      (Tree.node DetGen.macroNT k cs).Valid (detectorGrammar m) ∧
      cs.roots = m.rule.map ruleSym ∧
      a.split.flatten = inp.take a.total.length ∧
      a.total.length ≤ inp.length ∧
      a.split.map (fun ts => ts.map (·.kind)) = cs.toList.map Tree.yield ∧
      ∃ x, inp[a.total.length]? = some x ∧ ∃ row ∈ (mkDetector m).tables.action, x.kind < row.length := by
  obtain ⟨t, hp⟩ := (detectAt_some m inp a).mp h
  obtain ⟨used, x, xs, hinp, hy, ha, hla, _⟩ := prun_accept (detectorGrammar m) DetGen.macroNT Tok.T_EOF true
    detectorStateFuel (det_closed m) (det_start_lt m) _ inp t a hp
  have htree : lrParseTree (detT m) (detectFuel inp.length) (inp.map kindOf) = .accept t := by
    rw [prun_fst, hp]; rfl
  obtain ⟨hval, hroot, _⟩ := sound_prefix (detectorGrammar m) DetGen.macroNT Tok.T_EOF detectorStateFuel
    _ _ t (det_closed m) (det_start_lt m) htree
  cases t with
  | leaf k => cases hroot
  | node l k cs =>
    cases hroot
    have hk := hval.1
    rw [det_alts_macro] at hk
    have hroots : cs.roots = m.rule.map ruleSym := (getElem?_singleton hk).2
    obtain ⟨h1, h2, h3⟩ := macro_value m k cs hval used hy
    rw [← ha] at h1 h2 h3
    refine ⟨k, cs, hval, hroots, ?_, ?_, h3, x, ?_, hla⟩
    · rw [h2, hinp, List.take_left' rfl]; exact h1
    · rw [h2, hinp]; simp
    · rw [h2, hinp]; simp

/-- a step replaces, in place, the slot fillers laid end to end: all that the length bounds and the
    token invariants of `applyMacros` need to know of a detection -/
theorem step_splice (bs : List (List Detector)) (inp : List Token) (p : Nat) (m : MacroDef)
    (r : Response) (out : List Token) (h : applyStep bs inp p = some (mkDetector m, r, out)) :
    ∃ pre post, inp = pre ++ r.matched.flatten ++ post ∧ out = pre ++ replacement m r p ++ post := by
  obtain ⟨_, _, _, _, _, _, hdet, hout, _⟩ := applyStep_some bs inp p _ r out h
  obtain ⟨_, ⟨a, ha, _, hlen, hm⟩, _⟩ := detect_leftmost (mkDetector m) inp r hdet
  obtain ⟨_, _, _, _, hflat, _⟩ := match_derives m (inp.drop r.location) a ha
  refine ⟨inp.take r.location, inp.drop (r.location + r.length), ?_, hout⟩
  rw [hm, hflat, ← hlen, ← List.drop_drop, List.append_assoc, List.take_append_drop,
    List.take_append_drop]

/-- completeness: a prefix of the stream that derives from an accepted pattern, followed by a
    token the tables have a column for, is found, with that very split -/
theorem match_complete (m : MacroDef)
    (hf : (genTables (detectorGrammar m) DetGen.macroNT Tok.T_EOF true detectorStateFuel).2 < detectorStateFuel)
    (hc : (mkDetector m).tables.conflicts = [])
    (k : Nat) (cs : Forest) (hv : (Tree.node DetGen.macroNT k cs).Valid (detectorGrammar m))
    (inp : List Token) (n : Nat) (hn : n < inp.length)
    (hy : (inp.take n).map (·.kind) = cs.yield) (hk : (inp[n]).kind ≤ Tok.WITH) :
    ∃ a, detectAt (mkDetector m) inp = some a ∧ a.total.length = n ∧
      a.split.map (fun ts => ts.map (·.kind)) = cs.toList.map Tree.yield := by
  have hlen : cs.yield.length = n := by
    rw [← hy]; simp; omega
  have hsplit : inp.map kindOf = (Tree.node DetGen.macroNT k cs).yield ++
      (inp[n]).kind :: (inp.drop (n + 1)).map kindOf := by
    have h1 : inp = inp.take n ++ inp[n] :: inp.drop (n + 1) := by
      rw [← List.drop_eq_getElem_cons hn, List.take_append_drop]
    conv => lhs; rw [h1]
    simp only [List.map_append, List.map_cons, Tree.yield]
    rw [← hy]
  obtain ⟨fuel, hfuel⟩ := LRComplete.complete_prefix (detectorGrammar m) DetGen.macroNT Tok.T_EOF detectorStateFuel
    (Tree.node DetGen.macroNT k cs) _ ((inp.drop (n + 1)).map kindOf) (det_closed m) (det_start_lt m)
    hv rfl (Nat.le_trans hk (det_maxT_ge m)) hc hf
  -- the pair run accepts too, after `nodes t + 1` steps: within the detector's budget
  rw [← hsplit, prun_fst] at hfuel
  obtain ⟨⟨t, a⟩, hp, rfl⟩ := pmap_eq_accept hfuel
  obtain ⟨used, _, _, _, hyc, hac, _, hsteps⟩ := prun_accept (detectorGrammar m) DetGen.macroNT Tok.T_EOF
    true detectorStateFuel (det_closed m) (det_start_lt m) _ inp _ a hp
  have hbound := macro_nodes_bound m k cs hv
  simp only [Tree.yield] at hyc
  obtain ⟨_, h2, h3⟩ := macro_value m k cs hv used hyc
  rw [← hac] at h2 h3
  refine ⟨a, (detectAt_some m inp a).mpr ⟨Tree.node DetGen.macroNT k cs, ?_⟩, ?_, h3⟩
  · have := hsteps (detectFuel inp.length - (nodes (Tree.node DetGen.macroNT k cs) + 1))
    rwa [show nodes (Tree.node DetGen.macroNT k cs) + 1 + (detectFuel inp.length -
      (nodes (Tree.node DetGen.macroNT k cs) + 1)) = detectFuel inp.length by
        simp only [detectFuel]; omega] at this
  · rw [h2, ← hlen, ← hyc, List.length_map]

/-- a slot whose non-terminal has the one rule `l → k` (`ID`, `INT`) is filled by one token of kind `k` -/
theorem unit_slot (m : MacroDef) {l k : Nat} (hl : (detectorGrammar m).alts l = [[.t k]]) {t : Tree}
    (hv : t.Valid (detectorGrammar m)) (hr : t.root = .n l) : t.yield = [k] := by
  cases t with
  | leaf j => cases hr
  | node l' a cs =>
    cases hr
    have h := hv.1
    rw [hl] at h
    obtain ⟨t', f', rfl, ht', hf'⟩ := roots_cons (getElem?_singleton h).2
    rw [leaf_of_root ht', roots_nil hf']
    rfl

theorem alts_ID (m : MacroDef) : (detectorGrammar m).alts 0 = [[.t Tok.ID]] := by
  rw [det_alts, if_neg (by decide)]; decide +kernel

theorem alts_INT (m : MacroDef) : (detectorGrammar m).alts 1 = [[.t Tok.INT]] := by
  rw [det_alts, if_neg (by decide)]; decide +kernel

end DetectorProofs
end Theo
