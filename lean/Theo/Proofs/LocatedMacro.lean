/-
  Macro extraction and macro application only move tokens around.  For a predicate `Q` on tokens
  that holds for every token of the (non-empty) input stream and is kept by the two places where
  a token is rebuilt (`ClosedErr`, `ClosedTemp`): `Q` holds for every token of the output streams,
  of the rules and of the bodies, and every error is reported at the position of a token
  satisfying `Q` (`AtTok`), the pass-budget error at the placeholder.

  For C02 (located errors) `Q t` is `P t.file t.line`, with `P` a predicate on positions (end of
  this file); for the text invariant of C01 it is `TokOK`, in Proofs/CompileCorrectMacro.lean,
  whose namespace `ToksQ` and `MacQ` bear.
-/
import Theo.Proofs.DetectorProofs
import Theo.Proofs.MacroProofs
import Theo.Proofs.ExtractTT

namespace Theo

namespace CompileCorrect
section
variable (Q : Token → Prop)

def ToksQ (ts : List Token) : Prop := ∀ t ∈ ts, Q t
def MacQ (m : MacroDef) : Prop := ToksQ Q m.rule ∧ ToksQ Q m.body

variable {Q}

theorem ToksQ.append {a b : List Token} (ha : ToksQ Q a) (hb : ToksQ Q b) : ToksQ Q (a ++ b) :=
  List.forall_mem_append.2 ⟨ha, hb⟩

end
end CompileCorrect

namespace Loc
open CompileCorrect (ToksQ MacQ)

section
variable (Q : Token → Prop)

/-- closure under `checkInsertions`: a `$n` out of range becomes `ID "error"` -/
def ClosedErr : Prop :=
  ∀ t : Token, Q t → Q { t with kind := Tok.ID, text := [101, 114, 114, 111, 114] }

/-- closure under `replacement`: a temporary is renamed -/
def ClosedTemp : Prop :=
  ∀ (t : Token) (file : Bytes) (line : Int) (pass : Nat), Q t → t.kind = Tok.TEMP_VAL →
    Q { t with kind := Tok.ID, text := tempName t.text file line pass }

def AtTok (e : PErr) : Prop := ∃ t, Q t ∧ e.file = t.file ∧ e.line = t.line

structure ExInv (es : ExSt) : Prop where
  ne : es.toks ≠ []
  toks : ToksQ Q es.toks
  errs : ∀ e ∈ es.errs, AtTok Q e
  out : ToksQ Q es.out
  macros : ∀ m ∈ es.macros, MacQ Q m

variable {Q} {es : ExSt}

theorem cur_mem (es : ExSt) (h : es.toks ≠ []) : es.cur ∈ es.toks := by
  have hi : min es.pos (es.toks.length - 1) < es.toks.length :=
    Nat.lt_of_le_of_lt (Nat.min_le_right _ _) (Nat.sub_lt (List.length_pos_iff.2 h) Nat.one_pos)
  unfold ExSt.cur
  rw [List.getElem?_eq_getElem hi]
  exact List.getElem_mem hi

namespace ExInv

theorem cur (h : ExInv Q es) : Q es.cur := h.toks _ (cur_mem es h.ne)

theorem la (h : ExInv Q es) (hla : es.la ≠ Tok.T_EOF) :
    ∃ t, es.toks[es.pos]? = some t ∧ Q t := by
  unfold ExSt.la at hla
  cases ht : es.toks[es.pos]? with
  | none => rw [ht] at hla; exact absurd rfl hla
  | some t => exact ⟨t, rfl, h.toks t (List.mem_of_getElem? ht)⟩

theorem err (h : ExInv Q es) (k : Nat) : ExInv Q (es.err k) :=
  ⟨h.ne, h.toks, forall_snoc h.errs ⟨es.cur, h.cur, rfl, rfl⟩, h.out, h.macros⟩

theorem setPos (h : ExInv Q es) (n : Nat) : ExInv Q { es with pos := n } :=
  ⟨h.ne, h.toks, h.errs, h.out, h.macros⟩

theorem advance (h : ExInv Q es) : ExInv Q es.advance := h.setPos _

theorem copy (h : ExInv Q es) : ExInv Q es.copy :=
  ⟨h.ne, h.toks, h.errs, forall_snoc h.out h.cur, h.macros⟩

theorem pushMacro (h : ExInv Q es) : ExInv Q es.pushMacro :=
  ⟨h.ne, h.toks, h.errs, h.out, forall_snoc h.macros ⟨List.forall_mem_nil _, List.forall_mem_nil _⟩⟩

theorem popMacro (h : ExInv Q es) : ExInv Q es.popMacro :=
  ⟨h.ne, h.toks, h.errs, h.out, fun m hm => h.macros m (List.dropLast_subset _ hm)⟩

theorem modifyLast (h : ExInv Q es) (f : MacroDef → MacroDef)
    (hf : ∀ m, MacQ Q m → MacQ Q (f m)) : ExInv Q (es.modifyLast f) := by
  unfold ExSt.modifyLast
  split
  · next m hm =>
    exact ⟨h.ne, h.toks, h.errs, h.out, forall_snoc (fun x hx => h.macros x (List.dropLast_subset _ hx))
      (hf m (h.macros m (List.mem_of_getLast? hm)))⟩
  · exact h

theorem pushRule (h : ExInv Q es) (hla : es.la ≠ Tok.T_EOF) : ExInv Q es.pushRule := by
  obtain ⟨t, ht, hq⟩ := h.la hla
  unfold ExSt.pushRule
  rw [ht]
  refine h.modifyLast _ (fun m hm => ?_)
  have h1 : MacQ Q { m with rule := m.rule ++ [t] } := ⟨forall_snoc hm.1 hq, hm.2⟩
  exact ite_ind h1 (ite_ind h1 h1)

theorem pushBody (h : ExInv Q es) (hla : es.la ≠ Tok.T_EOF) : ExInv Q es.pushBody := by
  obtain ⟨t, ht, hq⟩ := h.la hla
  unfold ExSt.pushBody
  rw [ht]
  exact h.modifyLast _ (fun m hm => ⟨hm.1, forall_snoc hm.2 hq⟩)

theorem step : ExStep (ExInv Q) where
  err k h := h.err k
  setPos n h := h.setPos n
  copy h := h.copy
  pushMacro h := h.pushMacro
  popMacro h := h.popMacro
  pushRule hla h := h.pushRule hla
  pushBody hla h := h.pushBody hla
  setPrio _ h := h.modifyLast _ (fun _ hm => ⟨hm.1, hm.2⟩)

end ExInv

theorem ciBody_inv (hE : ClosedErr Q) {endTok : Token} (hend : Q endTok) (m : MacroDef)
    (hm : ToksQ Q m.body) (errs : List PErr) (he : ∀ e ∈ errs, AtTok Q e) :
    ToksQ Q (ciBody endTok m errs).1 ∧ ∀ e ∈ (ciBody endTok m errs).2, AtTok Q e := by
  unfold ciBody
  refine foldl_inv (fun a : List Token × List PErr => ToksQ Q a.1 ∧ ∀ e ∈ a.2, AtTok Q e)
    Q _ ?_ m.body _ ⟨List.forall_mem_nil _, he⟩ hm
  intro a t ha ht
  by_cases hk : t.kind = Tok.INSERTION
  · rw [if_pos hk]
    have he1 : ∀ e ∈ (if macroRangeBad (strtolNat (t.text.drop 1)) = true
        then a.2 ++ [⟨PErrT.RANGE, endTok.file, endTok.line, []⟩] else a.2), AtTok Q e := by
      split
      · exact forall_snoc ha.2 ⟨endTok, hend, rfl, rfl⟩
      · exact ha.2
    by_cases hr : toInt32 (strtolNat (t.text.drop 1)) < 0 ∨
        toInt32 (strtolNat (t.text.drop 1)) ≥ (m.tt.length : Int)
    · rw [if_pos hr]; exact ⟨forall_snoc ha.1 (hE t ht), forall_snoc he1 ⟨t, ht, rfl, rfl⟩⟩
    · rw [if_neg hr]; exact ⟨forall_snoc ha.1 ht, he1⟩
  · rw [if_neg hk]; exact ⟨forall_snoc ha.1 ht, ha.2⟩

theorem checkInsertions_inv (hE : ClosedErr Q) {endTok : Token} (hend : Q endTok)
    (ms : List MacroDef) (hms : ∀ m ∈ ms, MacQ Q m)
    (errs : List PErr) (he : ∀ e ∈ errs, AtTok Q e) :
    (∀ m ∈ (checkInsertions endTok ms errs).1, MacQ Q m) ∧
    ∀ e ∈ (checkInsertions endTok ms errs).2, AtTok Q e := by
  rw [checkInsertions_eq]
  refine foldl_inv (fun acc : List MacroDef × List PErr =>
      (∀ m ∈ acc.1, MacQ Q m) ∧ ∀ e ∈ acc.2, AtTok Q e)
    (fun m => MacQ Q m) _ ?_ ms _ ⟨List.forall_mem_nil _, he⟩ hms
  intro acc m hacc hm
  have hb := ciBody_inv hE hend m hm.2 acc.2 hacc.2
  exact ⟨forall_snoc hacc.1 ⟨hm.1, hb.1⟩, hb.2⟩

theorem extractMacros_keeps (hE : ClosedErr Q) (toks : List Token) (hne : toks ≠ [])
    (ht : ToksQ Q toks) :
    (∀ e ∈ (extractMacros toks).errs, AtTok Q e) ∧ ToksQ Q (extractMacros toks).toks ∧
    ∀ m ∈ (extractMacros toks).macros, MacQ Q m := by
  have h1 := ExInv.step.exS (toks.length + 2) _ (⟨hne, ht, List.forall_mem_nil _, List.forall_mem_nil _, List.forall_mem_nil _⟩ : ExInv Q ⟨toks, [], [], 0, []⟩)
  have h2 := checkInsertions_inv hE h1.cur _ h1.macros _ h1.errs
  exact ⟨h2.2, h1.out, h2.1⟩

theorem replacement_inv (hT : ClosedTemp Q) (m : MacroDef) (r : Response) (pass : Nat)
    (hm : ToksQ Q m.body) (hr : ∀ l ∈ r.matched, ToksQ Q l) :
    ToksQ Q (replacement m r pass) := by
  intro t ht
  rcases mem_replacement ht with ⟨l, hl, htl⟩ | ⟨cand, hc, hk, rfl⟩ | ⟨hb, _⟩
  · exact hr l hl t htl
  · exact hT cand _ _ _ (hm cand hc) hk
  · exact hm t hb

theorem applyMacros_keeps (hT : ClosedTemp Q) (inp : List Token) (defs : List MacroDef)
    (passes : Nat) (hi : ToksQ Q inp) (hd : ∀ m ∈ defs, MacQ Q m) :
    ToksQ Q (applyMacros inp defs passes).toks := by
  refine applyMacros_induct inp defs passes (fun x _ => ToksQ Q x) hi
    (fun {x p m r out _} hm _ hs hx => ?_)
  -- the output consists of `pre`, `post`, and body tokens and filler tokens; the fillers lie in the input
  obtain ⟨pre, post, rfl, rfl⟩ := DetectorProofs.step_splice _ x p m r out hs
  have hx' := List.forall_mem_append.1 hx
  have hx'' := List.forall_mem_append.1 hx'.1
  exact (ToksQ.append hx''.1 (replacement_inv hT m r p (hd _ hm).2
    (fun l hl t ht => hx''.2 t (List.mem_flatten_of_mem hl ht)))).append hx'.2

/-- the detector of a definition with an empty rule (`DEFINE DEFINE AS …`) has no conflict, so
    a NON_LR error always has a first rule token to take its position from -/
theorem emptyRule_usable : (mkDetector ⟨0, [], [], [], []⟩).usable = true := by decide +kernel

theorem usable_of_rule_nil (m : MacroDef) (h : m.rule = []) : (mkDetector m).usable = true := by
  have : (mkDetector m).tables = (mkDetector ⟨0, [], [], [], []⟩).tables := by
    simp only [mkDetector, detectorGrammar, h]
  unfold Detector.usable
  rw [this]
  exact emptyRule_usable

theorem nonLRErrs_inv (defs : List MacroDef) (hd : ∀ m ∈ defs, ToksQ Q m.rule) :
    ∀ e ∈ nonLRErrs defs, AtTok Q e := by
  intro e he
  simp only [nonLRErrs, List.mem_filterMap, List.mem_map] at he
  obtain ⟨d, ⟨m, hm, rfl⟩, hsome⟩ := he
  split at hsome
  · cases hsome
  · next hu =>
    cases Option.some.inj hsome
    cases hr : m.rule with
    | nil => exact absurd (usable_of_rule_nil m hr) hu
    | cons t ts =>
      have : (mkDetector m).md.rule = t :: ts := hr
      rw [this]
      exact ⟨t, hd m hm t (by rw [hr]; exact List.mem_cons_self ..), rfl, rfl⟩

theorem applyMacros_errs_at (inp : List Token) (defs : List MacroDef) (passes : Nat)
    (hd : ∀ m ∈ defs, ToksQ Q m.rule) :
    ∀ e ∈ (applyMacros inp defs passes).errs, AtTok Q e ∨ (e.file = bDash ∧ e.line = -1) := by
  obtain ⟨tl, e, htl⟩ := applyMacros_errs inp defs passes
  rw [e]
  intro x hx
  rcases List.mem_append.1 hx with h | h
  · exact .inl (nonLRErrs_inv defs hd x h)
  · rw [htl x h]; exact .inr ⟨rfl, rfl⟩

end

/-! ### positions

`ToksP P` and `MacP P` unfold to `ToksQ Q` and `MacQ Q` at `Q t = P t.file t.line`, so hypotheses
about the one are passed where the other is asked for. -/

section
variable (P : Bytes → Int → Prop)

def ToksP (ts : List Token) : Prop := ∀ t ∈ ts, P t.file t.line
def ErrsP (es : List PErr) : Prop := ∀ e ∈ es, P e.file e.line
def MacP (m : MacroDef) : Prop := ToksP P m.rule ∧ ToksP P m.body

variable {P}

theorem ToksP.append {a b : List Token} (ha : ToksP P a) (hb : ToksP P b) : ToksP P (a ++ b) :=
  List.forall_mem_append.2 ⟨ha, hb⟩

theorem ToksP.sub {a b : List Token} (hb : ToksP P b) (h : ∀ t ∈ a, t ∈ b) : ToksP P a :=
  fun t ht => hb t (h t ht)

theorem AtTok.pos {e : PErr} (h : AtTok (fun t => P t.file t.line) e) : P e.file e.line := by
  obtain ⟨t, ht, hf, hl⟩ := h
  rw [hf, hl]
  exact ht

structure EInv (P : Bytes → Int → Prop) (es : ExSt) : Prop where
  ne : es.toks ≠ []
  toks : ToksP P es.toks
  errs : ErrsP P es.errs
  out : ToksP P es.out
  macros : ∀ m ∈ es.macros, MacP P m

theorem EInv.strToInt {es : ExSt} (h : EInv P es) (text : Bytes) : EInv P (es.strToInt text).1 := by
  unfold ExSt.strToInt
  dsimp only
  exact ite_ind ⟨h.ne, h.toks, forall_snoc h.errs (h.toks _ (cur_mem es h.ne)), h.out, h.macros⟩ h

theorem extractMacros_inv (toks : List Token) (hne : toks ≠ []) (ht : ToksP P toks) :
    ErrsP P (extractMacros toks).errs ∧ ToksP P (extractMacros toks).toks ∧
    ∀ m ∈ (extractMacros toks).macros, MacP P m :=
  have h := extractMacros_keeps (Q := fun t => P t.file t.line) (fun _ h => h) toks hne ht
  ⟨fun e he => (h.1 e he).pos, h.2⟩

theorem applyMacros_inv (inp : List Token) (defs : List MacroDef) (passes : Nat)
    (hdash : P bDash (-1)) (hi : ToksP P inp) (hd : ∀ m ∈ defs, MacP P m) :
    ToksP P (applyMacros inp defs passes).toks ∧ ErrsP P (applyMacros inp defs passes).errs :=
  ⟨applyMacros_keeps (Q := fun t => P t.file t.line) (fun _ _ _ _ h _ => h) inp defs passes hi hd,
   fun e he => (applyMacros_errs_at inp defs passes (fun m hm => (hd m hm).1) e he).elim AtTok.pos
     (fun h => by rw [h.1, h.2]; exact hdash)⟩

end
end Loc
end Theo
