/-
  The scanner (`scanToksWith`, `scanFile`, `scan`): an induction principle for the token loop,
  termination within the file budget, what every token and every error of a file scan comes from,
  and `scan` split into the scan of the main file (`scanBody`) and the end marker (`scanEof`).
  Used for C15, for the scan-level part of C14 and for the located positions of C02.
-/
import Theo.Model.Scan

namespace Theo

@[simp] theorem ScanOut.append_toks (a b : ScanOut) : (a.append b).toks = a.toks ++ b.toks := rfl
@[simp] theorem ScanOut.append_errs (a b : ScanOut) : (a.append b).errs = a.errs ++ b.errs := rfl
@[simp] theorem ScanOut.append_fuelOut (a b : ScanOut) :
    (a.append b).fuelOut = (a.fuelOut || b.fuelOut) := rfl

theorem Files.mem_of_get? {files : Files} {a c : Bytes} (h : files.get? a = some c) :
    a ∈ files.map (·.1) := by
  obtain ⟨x, hx, _⟩ := Option.map_eq_some_iff.1 h
  have := List.find?_some hx
  exact List.mem_map.2 ⟨x, List.mem_of_find?_eq_some hx, of_decide_eq_true this⟩

theorem Files.has_of_get? {files : Files} {a c : Bytes} (h : files.get? a = some c) :
    files.has a = true := by
  simp [Files.has, h]

theorem filterMap_ite_eq_filter_map {α β : Type} (p : α → Prop) [DecidablePred p] (f : α → β)
    (l : List α) :
    l.filterMap (fun e => if p e then some (f e) else none) = (l.filter (fun e => p e)).map f := by
  induction l with
  | nil => rfl
  | cons x xs ih =>
    by_cases h : p x <;> simp [h, ih]

theorem countNl_append (a b : Bytes) : countNl (a ++ b) = countNl a + countNl b := by
  simp [countNl]

theorem lexFrom_mem (rules : List (Rx × Option Nat)) :
    ∀ (fuel : Nat) (inp : Bytes) (line : Nat), ∀ t ∈ lexFrom rules fuel inp line,
      ∃ (pre suf : Bytes) (i n : Nat), inp = pre ++ suf ∧
        longest (rules.map (·.1)) suf = some (i, n) ∧ (rules[i]?).bind (·.2) = some t.kind ∧
        t.text = suf.take n ∧ t.line = line + countNl (pre ++ suf.take n) := by
  intro fuel
  induction fuel with
  | zero => intro inp line t ht; rw [lexFrom] at ht; cases ht
  | succ fuel ih =>
    intro inp line t ht
    cases inp with
    | nil => rw [lexFrom] at ht; cases ht
    | cons c cs =>
      rw [lexFrom] at ht
      split at ht
      · cases ht
      · next i n hl =>
        dsimp only at ht
        have hmem : (∃ k, (rules[i]?).bind (·.2) = some k ∧
              t = ⟨k, (c :: cs).take n, line + countNl ((c :: cs).take n)⟩) ∨
            t ∈ lexFrom rules fuel ((c :: cs).drop n) (line + countNl ((c :: cs).take n)) := by
          split at ht
          · next k hk => exact (List.mem_cons.1 ht).imp (fun h => ⟨k, hk, h⟩) id
          · exact Or.inr ht
        rcases hmem with ⟨k, hk, rfl⟩ | h
        · exact ⟨[], c :: cs, i, n, rfl, hl, hk, rfl, rfl⟩
        · obtain ⟨pre, suf, i', n', e, h1, h2, h3, h4⟩ := ih _ _ t h
          refine ⟨(c :: cs).take n ++ pre, suf, i', n', ?_, h1, h2, h3, ?_⟩
          · rw [List.append_assoc, ← e, List.take_append_drop]
          · rw [h4, List.append_assoc, countNl_append ((c :: cs).take n), Nat.add_assoc]

theorem lexFrom_kind_ne (rules : List (Rx × Option Nat)) (k0 : Nat)
    (hr : ∀ r ∈ rules, r.2 ≠ some k0) (fuel : Nat) (inp : Bytes) (line : Nat) :
    ∀ t ∈ lexFrom rules fuel inp line, t.kind ≠ k0 := by
  intro t ht hk0
  obtain ⟨_, _, i, _, _, _, hk, _⟩ := lexFrom_mem rules fuel inp line t ht
  obtain ⟨r, hri, hrk⟩ := Option.bind_eq_some_iff.1 hk
  exact hr r (List.mem_of_getElem? hri) (hk0 ▸ hrk)

theorem lexRules_not_eof : ∀ r ∈ LexGen.rules, r.2 ≠ some Tok.T_EOF := by
  have h : LexGen.rules.all (fun r => r.2 != some 0) = true := by decide +kernel
  intro r hr
  have := List.all_eq_true.1 h r hr
  simpa [Tok.T_EOF] using this

theorem lexBuffer_kind_ne_eof (content : Bytes) : ∀ t ∈ lexBuffer content, t.kind ≠ Tok.T_EOF :=
  lexFrom_kind_ne _ _ lexRules_not_eof _ _ _

/-- `Q` is a property of the raw tokens being scanned: every token put out is one of them, and
    every error stands on the line of one. -/
theorem scanToksWith_ind (P : ScanOut → Prop) (Q : RawTok → Prop)
    (sub : List Bytes → Bytes → Bytes → ScanOut) (files : Files) (active : List Bytes)
    (fname : Bytes)
    (hnil : P ⟨[], [], false⟩)
    (happ : ∀ a b, P a → P b → P (a.append b))
    (htok : ∀ t : RawTok, Q t → P ⟨[⟨t.kind, t.text, fname, t.line⟩], [], false⟩)
    (hef : ∀ t : RawTok, Q t → P ⟨[], [⟨PErrT.EXPECTED_FILENAME, fname, t.line, []⟩], false⟩)
    (hnf : ∀ t : RawTok, Q t → ∀ n, files.get? n = none →
      P ⟨[], [⟨PErrT.FILE_NOT_FOUND, fname, t.line, n⟩], false⟩)
    (hrec : ∀ t : RawTok, Q t → P ⟨[], [⟨PErrT.RECURSIVE_INCLUDE, fname, t.line, []⟩], false⟩)
    (hsub : ∀ n c, files.get? n = some c → active.contains n = false → P (sub active n c)) :
    ∀ ts : List RawTok, (∀ t ∈ ts, Q t) → P (scanToksWith sub files active fname ts) := by
  intro ts
  induction ts using scanToksWith.induct with
  | case1 => intro _; simpa [scanToksWith] using hnil
  | case2 t ht => intro hq; simpa [scanToksWith, ht] using hef t (hq t (List.mem_singleton.2 rfl))
  | case3 t ht =>
    intro hq; simpa [scanToksWith, ht] using htok t (hq t (List.mem_singleton.2 rfl))
  | case4 t n rest ht hn ih =>
    intro hq
    rw [scanToksWith, if_pos ht, if_pos hn]
    exact happ _ _ (hef n (hq n (by simp))) (ih (fun x hx => hq x (by simp [hx])))
  | case5 t n rest ht hn ih =>
    intro hq
    have qn := hq n (by simp)
    rw [scanToksWith, if_pos ht, if_neg hn]
    refine happ _ _ ?_ (ih (fun x hx => hq x (by simp [hx])))
    split
    · next h => exact hnf n qn _ h
    · next c h =>
      split
      · exact hrec n qn
      · next hc => exact hsub _ _ h (by simpa using hc)
  | case6 t n rest ht ih =>
    intro hq
    rw [scanToksWith, if_neg ht]
    exact happ _ _ (htok t (hq t (by simp))) (ih (fun x hx => hq x (List.mem_cons_of_mem _ hx)))

theorem scanToks_include (files : Files) (d : Nat) (active : List Bytes) (f : Bytes)
    (inc n : RawTok) (rest : List RawTok) (hi : inc.kind = Tok.INCLUDE) (hn : n.kind = Tok.FNAME) :
    scanToks files d active f (inc :: n :: rest) =
      (match files.get? (unquote n.text) with
       | none => (ScanOut.mk [] [⟨PErrT.FILE_NOT_FOUND, f, n.line, unquote n.text⟩] false)
       | some content =>
         if active.contains (unquote n.text) then
           (ScanOut.mk [] [⟨PErrT.RECURSIVE_INCLUDE, f, n.line, []⟩] false)
         else scanFile d files active (unquote n.text) content).append
      (scanToks files d active f rest) := by
  unfold scanToks
  rw [scanToksWith]
  rw [if_pos hi, if_neg (by simp [hn])]
  rfl

/-- the files being scanned are pairwise different supplied files, so their number is at most
    `|files|` and the budget cannot run out -/
theorem scanFile_fuel (files : Files) :
    ∀ (d : Nat) (active : List Bytes) (fname content : Bytes),
      (fname :: active).Nodup → (∀ a ∈ fname :: active, a ∈ files.map (·.1)) →
      files.length ≤ active.length + d → (scanFile d files active fname content).fuelOut = false
  | 0, active, fname, _, hnd, hsub, hlen => by
    have := hnd.length_le_of_subset hsub
    rw [List.length_cons, List.length_map] at this
    omega
  | d + 1, active, fname, content, hnd, hsub, hlen => by
    rw [scanFile]
    refine scanToksWith_ind (fun o => o.fuelOut = false) (fun _ => True) _ files (fname :: active)
      fname (hnil := rfl) (happ := ?_) (htok := fun _ _ => rfl) (hef := fun _ _ => rfl)
      (hnf := fun _ _ _ _ => rfl) (hrec := fun _ _ => rfl) (hsub := ?_) _ (fun _ _ => trivial)
    · intro a b ha hb; rw [ScanOut.append_fuelOut, ha, hb]; rfl
    · intro n c hget hc
      refine scanFile_fuel files d _ n c (List.nodup_cons.2 ⟨fun hm => Bool.false_ne_true (hc.symm.trans (List.contains_iff_mem.2 hm)), hnd⟩) ?_
        (by rw [List.length_cons]; omega)
      intro a ha
      rcases List.mem_cons.1 ha with rfl | ha
      · exact Files.mem_of_get? hget
      · exact hsub a ha

/-- `R` is what is known of the files scanned and their contents (the one the scan starts with,
    and the supplied ones). -/
theorem scanFile_all (files : Files) (Qt : Token → Prop) (Qe : PErr → Prop) (R : Bytes → Bytes → Prop)
    (htok : ∀ f c, R f c → ∀ r ∈ lexBuffer c, Qt ⟨r.kind, r.text, f, r.line⟩)
    (hef : ∀ f c, R f c → ∀ r ∈ lexBuffer c, Qe ⟨PErrT.EXPECTED_FILENAME, f, r.line, []⟩)
    (hnf : ∀ f c, R f c → ∀ r ∈ lexBuffer c, ∀ n, files.get? n = none →
      Qe ⟨PErrT.FILE_NOT_FOUND, f, r.line, n⟩)
    (hrec : ∀ f c, R f c → ∀ r ∈ lexBuffer c, Qe ⟨PErrT.RECURSIVE_INCLUDE, f, r.line, []⟩)
    (hsub : ∀ n c, files.get? n = some c → R n c) :
    ∀ (d : Nat) (active : List Bytes) (fname content : Bytes), R fname content →
      (∀ t ∈ (scanFile d files active fname content).toks, Qt t) ∧
      ∀ e ∈ (scanFile d files active fname content).errs, Qe e
  | 0, _, _, _, _ => ⟨nofun, nofun⟩
  | d + 1, active, fname, content, hR => by
    rw [scanFile]
    exact scanToksWith_ind (fun o => (∀ t ∈ o.toks, Qt t) ∧ ∀ e ∈ o.errs, Qe e)
      (· ∈ lexBuffer content) _ files (fname :: active) fname
      (hnil := ⟨nofun, nofun⟩)
      (happ := fun a b ha hb =>
        ⟨List.forall_mem_append.2 ⟨ha.1, hb.1⟩, List.forall_mem_append.2 ⟨ha.2, hb.2⟩⟩)
      (htok := fun r hr => ⟨List.forall_mem_singleton.2 (htok _ _ hR r hr), nofun⟩)
      (hef := fun r hr => ⟨nofun, List.forall_mem_singleton.2 (hef _ _ hR r hr)⟩)
      (hnf := fun r hr n hn => ⟨nofun, List.forall_mem_singleton.2 (hnf _ _ hR r hr n hn)⟩)
      (hrec := fun r hr => ⟨nofun, List.forall_mem_singleton.2 (hrec _ _ hR r hr)⟩)
      (hsub := fun n c hget _ =>
        scanFile_all files Qt Qe R htok hef hnf hrec hsub d _ n c (hsub n c hget))
      _ (fun _ h => h)

theorem scanFile_err_kinds (files : Files) (d : Nat) (active : List Bytes) (fname content : Bytes) :
    ∀ e ∈ (scanFile d files active fname content).errs,
      e.kind = PErrT.EXPECTED_FILENAME ∨ e.kind = PErrT.FILE_NOT_FOUND ∨
        e.kind = PErrT.RECURSIVE_INCLUDE :=
  (scanFile_all files (fun _ => True) _ (fun _ _ => True)
    (htok := fun _ _ _ _ _ => trivial)
    (hef := fun _ _ _ _ _ => .inl rfl)
    (hnf := fun _ _ _ _ _ _ _ => .inr (.inl rfl))
    (hrec := fun _ _ _ _ _ => .inr (.inr rfl))
    (hsub := fun _ _ _ => trivial) d active fname content trivial).2

theorem scanFile_missing_absent (files : Files) (d : Nat) (active : List Bytes) (fname content : Bytes) :
    ∀ e ∈ (scanFile d files active fname content).errs,
      e.kind = PErrT.FILE_NOT_FOUND → files.get? e.req = none :=
  (scanFile_all files (fun _ => True) _ (fun _ _ => True)
    (htok := fun _ _ _ _ _ => trivial)
    (hef := fun _ _ _ _ _ h => nomatch h)
    (hnf := fun _ _ _ _ _ _ hn _ => hn)
    (hrec := fun _ _ _ _ _ h => nomatch h)
    (hsub := fun _ _ _ => trivial) d active fname content trivial).2

theorem scanFile_raw (fs : Files) (Q : Bytes → RawTok → Prop)
    (hQ : ∀ f c, fs.get? f = some c → ∀ r ∈ lexBuffer c, Q f r) :
    ∀ (d : Nat) (active : List Bytes) (fname content : Bytes), (∀ r ∈ lexBuffer content, Q fname r) →
      (∀ t ∈ (scanFile d fs active fname content).toks,
        ∃ r, Q t.file r ∧ t.kind = r.kind ∧ t.text = r.text ∧ t.line = r.line) ∧
      ∀ e ∈ (scanFile d fs active fname content).errs, ∃ r, Q e.file r ∧ e.line = r.line :=
  scanFile_all fs _ (fun e => ∃ r, Q e.file r ∧ e.line = r.line) (fun f c => ∀ r ∈ lexBuffer c, Q f r)
    (htok := fun _ _ hR r hr => ⟨r, hR r hr, rfl, rfl, rfl⟩)
    (hef := fun _ _ hR r hr => ⟨r, hR r hr, rfl⟩)
    (hnf := fun _ _ hR r hr _ _ => ⟨r, hR r hr, rfl⟩)
    (hrec := fun _ _ hR r hr => ⟨r, hR r hr, rfl⟩)
    (hsub := hQ)

def scanBody (files : Files) (main : Bytes) : ScanOut :=
  match files.get? main with
  | some content => scanFile (files.length + 1) files [] main content
  | none => ⟨[], [⟨PErrT.MAIN_FILE_NOT_FOUND, bDash, -1, main⟩], false⟩

def scanEof (files : Files) (main : Bytes) : Token :=
  match (scanBody files main).toks.getLast? with
  | some t => ⟨Tok.T_EOF, bEOF, t.file, t.line⟩
  | none =>
    if files.has main then ⟨Tok.T_EOF, bEOF, main, 1⟩
    else ⟨Tok.T_EOF, bEOF, bDash, -1⟩

theorem scan_toks (files : Files) (main : Bytes) :
    (scan files main).toks = (scanBody files main).toks ++ [scanEof files main] := rfl

theorem scan_errs (files : Files) (main : Bytes) :
    (scan files main).errs =
      match files.get? main with
      | some content => (scanFile (files.length + 1) files [] main content).errs
      | none => [⟨PErrT.MAIN_FILE_NOT_FOUND, bDash, -1, main⟩] := by
  show (scanBody files main).errs = _
  unfold scanBody
  split <;> rfl
theorem scanEof_kind (files : Files) (main : Bytes) : (scanEof files main).kind = Tok.T_EOF := by
  unfold scanEof
  split
  · rfl
  · split <;> rfl

theorem scan_toks_ind (fs : Files) (main : Bytes) (Q : Token → Prop)
    (hfile : ∀ c, fs.get? main = some c → ∀ t ∈ (scanFile (fs.length + 1) fs [] main c).toks, Q t)
    (heof : Q (scanEof fs main)) : ∀ t ∈ (scan fs main).toks, Q t := by
  intro t ht
  rw [scan_toks] at ht
  rcases List.mem_append.1 ht with h | h
  · unfold scanBody at h
    split at h
    · next c hc => exact hfile c hc t h
    · cases h
  · rw [List.mem_singleton.1 h]; exact heof

theorem scanBody_tok_kinds (files : Files) (main : Bytes) :
    ∀ t ∈ (scanBody files main).toks, t.kind ≠ Tok.T_EOF := by
  unfold scanBody
  split
  · exact (scanFile_all files _ (fun _ => True) (fun _ _ => True)
      (htok := fun _ c _ => lexBuffer_kind_ne_eof c)
      (hef := fun _ _ _ _ _ => trivial) (hnf := fun _ _ _ _ _ _ _ => trivial)
      (hrec := fun _ _ _ _ _ => trivial) (hsub := fun _ _ _ => trivial) _ _ _ _ trivial).1
  · nofun

theorem scanBody_tok_files (files : Files) (main : Bytes) :
    ∀ t ∈ (scanBody files main).toks, files.has t.file = true := by
  unfold scanBody
  split
  · next c h =>
    exact (scanFile_all files _ (fun _ => True) (fun f _ => files.has f = true)
      (htok := fun _ _ h _ _ => h)
      (hef := fun _ _ _ _ _ => trivial) (hnf := fun _ _ _ _ _ _ _ => trivial)
      (hrec := fun _ _ _ _ _ => trivial) (hsub := fun _ _ => Files.has_of_get?)
      _ _ _ _ (Files.has_of_get? h)).1
  · nofun

theorem scan_one_eof (files : Files) (main : Bytes) :
    ∃ body eof, (scan files main).toks = body ++ [eof] ∧ eof.kind = Tok.T_EOF ∧
      (∀ t ∈ body, t.kind ≠ Tok.T_EOF) ∧
      (∀ l, body.getLast? = some l → eof.file = l.file ∧ eof.line = l.line) := by
  refine ⟨(scanBody files main).toks, scanEof files main, scan_toks files main,
    scanEof_kind files main, scanBody_tok_kinds files main, ?_⟩
  intro l hl
  unfold scanEof
  rw [hl]
  exact ⟨rfl, rfl⟩

theorem scan_toks_ne_nil (fs : Files) (main : Bytes) : (scan fs main).toks ≠ [] := by
  rw [scan_toks]; simp

end Theo
