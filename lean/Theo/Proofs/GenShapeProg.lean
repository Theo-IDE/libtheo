/-
  C01 for the generator model: a whole routine body — the walk succeeds and every jump resolves —
  and one PROGRAM definition: `JMP over; body; RET out` passes one round of `checkProgs` and the
  state between definitions (`TopInv`) is re-established.  What the walk over a body assumes is
  `BodyCtx`; `Fits P L G`: the final program `P` with the label table `L` completes the state `G`.
  The site walk (GenSites*.lean) is stated on the same two.
-/
import Theo.Proofs.GenShapeStmtCorr
import Theo.Proofs.GenShapeFin

namespace Theo
namespace GenShape
open GS Sem Static

def LastNS (c : List Instr) : Prop := ∃ i, c.getLast? = some i ∧ i ≠ Instr.potBreak

theorem LastNS.snoc (c : List Instr) {i : Instr} (h : i ≠ Instr.potBreak) : LastNS (c ++ [i]) :=
  ⟨i, by simp, h⟩

structure SameBut (a b : GS) : Prop where
  stackMaps : b.stackMaps = a.stackMaps
  errors : b.errors = a.errors
  symbols : b.symbols = a.symbols
  funcAddrs : b.funcAddrs = a.funcAddrs
  labels : b.labels = a.labels
  todo : b.todo = a.todo
  loops : b.loops = a.loops

theorem removeTop_spec (gs : GS) (c : List Instr) (k : Nat)
    (hc : gs.code = c ++ List.replicate k Instr.potBreak) (hl : LastNS c) :
    gs.removeTopPotBreak.code = c ++ List.replicate (k - 1) Instr.potBreak ∧ SameBut gs gs.removeTopPotBreak := by
  unfold removeTopPotBreak
  cases k with
  | zero =>
    simp only [List.replicate_zero, List.append_nil] at hc
    have : gs.lastIsSite = false := by
      unfold lastIsSite
      obtain ⟨i, h1, h2⟩ := hl
      rw [hc, h1]
      simp
      exact h2
    rw [this]
    simp only [Bool.false_eq_true, if_false]
    exact ⟨by rw [hc]; simp, ⟨rfl, rfl, rfl, rfl, rfl, rfl, rfl⟩⟩
  | succ k =>
    have hc' : gs.code = (c ++ List.replicate k Instr.potBreak) ++ [Instr.potBreak] := by
      rw [hc, List.replicate_succ', List.append_assoc]
    have : gs.lastIsSite = true := by
      unfold lastIsSite
      rw [hc']; simp
    rw [this]
    simp only [if_true]
    have hd : gs.code.dropLast = c ++ List.replicate k Instr.potBreak := by rw [hc']; simp
    split
    · exact ⟨by simpa using hd, ⟨rfl, rfl, rfl, rfl, rfl, rfl, rfl⟩⟩
    · exact ⟨by simpa using hd, ⟨rfl, rfl, rfl, rfl, rfl, rfl, rfl⟩⟩

structure ProgPre (gs00 : GS) (nm : Bytes) (g : GS) (after : Nat) : Prop where
  afterEq : after = gs00.labels.length
  code : g.code = gs00.removeTopPotBreak.code ++ [.jmp (after : Int)]
  labels : g.labels = gs00.labels ++ [-1]
  symbols : g.symbols = ⟨nm, [], 0, []⟩ :: gs00.symbols
  stackMaps : g.stackMaps = gs00.stackMaps
  funcAddrs : g.funcAddrs = gs00.funcAddrs
  loops : g.loops = gs00.loops

theorem progPre_full (gs00 : GS) (nm : Bytes) (c : List Instr) (k : Nat)
    (hc : gs00.code = c ++ List.replicate k Instr.potBreak) (hl : LastNS c) :
    ProgPre gs00 nm (progPre gs00 nm).1 (progPre gs00 nm).2 := by
  obtain ⟨_, sb⟩ := removeTop_spec gs00 c k hc hl
  unfold progPre
  dsimp only
  refine ⟨?_, ?_, ?_, ?_, ?_, ?_, ?_⟩
  · show gs00.removeTopPotBreak.labels.length = _; rw [sb.labels]
  · rfl
  · show gs00.removeTopPotBreak.labels ++ [-1] = _; rw [sb.labels]
  · show _ :: gs00.removeTopPotBreak.symbols = _; rw [sb.symbols]
  · exact sb.stackMaps
  · exact sb.funcAddrs
  · exact sb.loops

structure ArgsSpec (gs g : GS) (names : List Bytes) : Prop where
  regs : g.top.regs = gs.top.regs ++ names.map (fun x => (⟨true, false, x⟩ : VReg))
  marks : g.top.marks = gs.top.marks
  name : g.top.name = gs.top.name
  argnum : g.top.argnum = gs.top.argnum + names.length
  outer : g.symbols.drop 1 = gs.symbols.drop 1
  code : g.code = gs.code
  labels : g.labels = gs.labels
  stackMaps : g.stackMaps = gs.stackMaps
  funcAddrs : g.funcAddrs = gs.funcAddrs
  loops : g.loops = gs.loops

theorem ArgsSpec.refl (gs : GS) : ArgsSpec gs gs [] :=
  ⟨by simp, rfl, rfl, rfl, rfl, rfl, rfl, rfl, rfl, rfl⟩

theorem ArgsSpec.trans {a b c : GS} {n1 n2 : List Bytes} (h1 : ArgsSpec a b n1) (h2 : ArgsSpec b c n2) :
    ArgsSpec a c (n1 ++ n2) :=
  ⟨by rw [h2.regs, h1.regs, List.map_append, List.append_assoc], h2.marks.trans h1.marks, h2.name.trans h1.name,
   by rw [h2.argnum, h1.argnum, List.length_append, Nat.add_assoc], h2.outer.trans h1.outer,
   h2.code.trans h1.code, h2.labels.trans h1.labels, h2.stackMaps.trans h1.stackMaps,
   h2.funcAddrs.trans h1.funcAddrs, h2.loops.trans h1.loops⟩

theorem argStep_spec (gs : GS) (x : Bytes) (hx : x ∉ regNames gs) : ArgsSpec gs (argStep gs x) [x] := by
  have hnone : findReg gs.top.regs x 0 = none := by
    cases hf' : findReg gs.top.regs x 0 with
    | none => rfl
    | some j => exact absurd ((findReg_isSome x _ 0).1 (by rw [hf']; rfl)) hx
  unfold argStep fetchVar
  rw [hnone]
  dsimp only
  have : findReg (bumpArg gs).top.regs x 0 = none := hnone
  simp only [Option.isSome_none, Bool.false_eq_true, if_false, this]
  exact ⟨rfl, rfl, rfl, rfl, rfl, rfl, rfl, rfl, rfl, rfl⟩

theorem args_spec (gs : GS) (n : Node) (hnd : (namesOf n).Nodup) (hfresh : ∀ x ∈ namesOf n, x ∉ regNames gs) :
    ArgsSpec gs (genArgs gs n) (namesOf n) := by
  rw [genArgs_fold]
  generalize namesOf n = ns at hnd hfresh ⊢
  induction ns generalizing gs with
  | nil => exact ArgsSpec.refl gs
  | cons x xs ih =>
    rw [List.nodup_cons] at hnd
    have s1 := argStep_spec gs x (hfresh x List.mem_cons_self)
    refine s1.trans (ih _ hnd.2 fun y hy hin => ?_)
    unfold regNames at hin
    rw [s1.regs, List.map_append, List.mem_append] at hin
    rcases hin with hin | hin
    · exact hfresh y (List.mem_cons_of_mem _ hy) hin
    · simp only [List.map_cons, List.map_nil, List.mem_singleton] at hin
      exact hnd.1 (hin ▸ hy)

/-- jump targets are defined at most once in the body (see Props/C01GenShape.lean) -/
def labelsOK (b : Node) : Bool := (refsOf b).all (fun m => decide ((defsOf b).count m ≤ 1))

theorem filter_fst_length {β : Type} (l : List (Bytes × β)) (m : Bytes) :
    (l.filter (fun e => e.1 = m)).length = (l.map (·.1)).count m := by
  induction l with
  | nil => rfl
  | cons x xs ih =>
    by_cases h : x.1 = m
    · simp [h, ih]
    · simp [h, ih]

theorem defs_count_one {src : Source} {rt : Nat} {r2 : Node} (hs : stmtShape r2 = true) (hlab : labelsOK r2 = true)
    {k : Nat} {ps : List ProgDef} (hst : stmtsOK src rt (stmtsOf r2 k ps).1 (stmtsOf r2 k ps).1 = true)
    {m : Bytes} (hm : m ∈ refsOf r2) : (defsOf r2).count m = 1 := by
  have hb : bodyOK (arity src rt) r2 = true := by rw [← body_link src rt r2 hs k ps]; exact hst
  have h1 : (defsOf r2).count m ≤ 1 := by
    unfold labelsOK at hlab
    rw [List.all_eq_true] at hlab
    simpa using hlab _ hm
  have h2 : 0 < (defsOf r2).count m := List.count_pos_iff.2 (((bodyOK_iff _ _).1 hb).2 _ hm)
  omega

/-- what the walk over the body `r2` of a routine needs: its statements obey the static rules, `g`
    stands at the start of a routine, and `X` completes the state behind the body, where every label
    that is set is final -/
structure BodyCtx (X : RC) (g : GS) (r2 : Node) (ps : List ProgDef) : Prop where
  ok : X.OK
  static : stmtsOK X.src X.rt (stmtsOf r2 g.loops ps).1 (stmtsOf r2 g.loops ps).1 = true
  marks : g.top.marks = []
  head : Head g
  regs : RegsExt (genS g r2).top.regs X.R
  agree : Agree X.L (genS g r2).code X.C
  func : FuncInv X g
  fin : ∀ (l : Nat) (v : Int), (genS g r2).labels[l]? = some v → v ≠ -1 → (X.L[l]?).getD (-1) = v

theorem BodyCtx.links {X : RC} {g : GS} {r2 : Node} {ps : List ProgDef} (B : BodyCtx X g r2 ps)
    (hs : stmtShape r2 = true) (hn : stmtNames r2 = true) :
    MarksWF g ∧ MarksWF (genS g r2) ∧ SLinks X (genS g r2) :=
  ⟨MarksWF.of_nil B.marks, (step_void g r2).wf (MarksWF.of_nil B.marks),
   ⟨B.regs, B.agree, B.func.congr (sq_void g r2 hs hn).gq.funcAddrs⟩, fun l v h1 h2 _ => B.fin l v h1 h2⟩

theorem body_corr {X : RC} {g : GS} {r2 : Node} {ps : List ProgDef} (B : BodyCtx X g r2 ps)
    (hs : stmtShape r2 = true) (hn : stmtNames r2 = true) (hlab : labelsOK r2 = true)
    (pc : Nat) (hat : At X pc g) :
    ∃ w, checkStmts X.e (stmtsOf r2 g.loops ps).1 ⟨pc, [], []⟩ = some w ∧ At X w.pc (genS g r2) ∧
      resolveOK X.C w = true := by
  obtain ⟨w0, wb, lk⟩ := B.links hs hn
  obtain ⟨w, cw, sr⟩ := stmt_corr B.ok g r2 hs hn ps _ B.static lk w0 B.head ⟨pc, [], []⟩ hat
  refine ⟨w, cw, sr.at_, ?_⟩
  obtain ⟨nm, a1, a2, a3⟩ := sr.marks
  obtain ⟨ng, b1, b2, b3⟩ := sr.gotos
  simp only [List.nil_append] at a1 b1
  unfold resolveOK
  rw [List.all_eq_true]
  intro gt hgt
  rw [b1] at hgt
  have hone := defs_count_one hs hlab B.static (b2 ▸ List.mem_map_of_mem (f := fun x : Nat × Int × Name => x.2.2) hgt)
  have hlen : (w.marks.filter (fun e => e.1 = gt.2.2)).length = 1 := by
    rw [a1, filter_fst_length, a2, hone]
  obtain ⟨lab, k1, k2⟩ := b3 gt hgt
  obtain ⟨x, hfl⟩ := List.length_eq_one_iff.1 hlen
  rw [hfl]
  simp only
  have hx1 : x.1 = gt.2.2 := by
    have : x ∈ w.marks.filter (fun e => e.1 = gt.2.2) := by rw [hfl]; exact List.mem_cons_self
    simpa using (List.mem_filter.1 this).2
  have hlast : (nm.filter (fun e => e.1 = gt.2.2)).getLast? = some (gt.2.2, x.2) := by
    rw [← a1, hfl, List.getLast?_singleton, ← hx1]
  obtain ⟨lab', v, c1, c2, c3, c4⟩ := a3 _ _ hlast
  obtain rfl : lab = lab' := Option.some.inj ((mlab_of_mem wb k1).symm.trans (mlab_of_mem wb c1))
  have hL := B.fin lab v c2 (by omega)
  refine sameAnchor_of (by rw [← k2, hL]; exact c3) ?_
  rw [← k2, hL]
  exact c4

def progNames (hdr : Node) : Bool := (namesOf hdr.right.left).all varOK && varOK (outNameOf hdr.right.right)

/-- the generator state between two definitions (and before the main statements) -/
structure TopInv (src : Source) (gs : GS) (i : Nat) (infos : List RInfo) : Prop where
  nprogs : gs.stackMaps.length = i
  ninfos : infos.length = i
  marks : gs.top.marks = []
  regs : gs.top.regs = []
  last : LastNS gs.code
  head : Head gs
  func : ∀ f j pd, lookupProg src f i = some (j, pd) →
    ∃ p ri, gs.lookupFunc f = some p ∧ p.argnum = pd.params.length ∧ infos[j]? = some ri ∧
      p.mi = (ri.mi : Int) ∧ p.ind = (ri.entry : Int)

structure TQ (gs G : GS) : Prop where
  code : gs.code <+: G.code
  stackMaps : gs.stackMaps <+: G.stackMaps
  labels : ∀ l, l < gs.labels.length → G.labels[l]? = gs.labels[l]?

theorem TQ.refl (gs : GS) : TQ gs gs := ⟨List.prefix_refl _, List.prefix_refl _, fun _ _ => rfl⟩
theorem TQ.trans {a b c : GS} (h1 : TQ a b) (h2 : TQ b c) (hl : a.labels.length ≤ b.labels.length) : TQ a c :=
  ⟨h1.code.trans h2.code, h1.stackMaps.trans h2.stackMaps,
   fun l h => by rw [h2.labels l (by omega), h1.labels l h]⟩

/-- the program `P` with the label table `L` completes the generator state `G`: its code is the
    backpatched code of `G`, every label `G` has set keeps its value, the stack maps of `G` come first -/
structure Fits (P : Program) (L : List Int) (G : GS) : Prop where
  agree : Agree L G.code P.code
  fin : ∀ (l : Nat) (v : Int), G.labels[l]? = some v → v ≠ -1 → (L[l]?).getD (-1) = v
  maps : G.stackMaps <+: P.stackMaps

theorem Fits.back {P : Program} {L : List Int} {gs G : GS} (h : Fits P L G) (q : TQ gs G) : Fits P L gs :=
  ⟨h.agree.of_prefix q.code,
   fun l v hl hv => h.fin l v (by rw [q.labels l (List.getElem?_eq_some_iff.1 hl).1]; exact hl) hv,
   q.stackMaps.trans h.maps⟩

theorem lookupProg_succ (src : Source) (k : Nat) (p : ProgDef) (h : src.progs[k]? = some p) (g : Bytes) :
    lookupProg src g (k + 1) = if p.name = g then some (k, p) else lookupProg src g k :=
  LoopHalts.lookupProg_succ src k p h g

theorem body_frame (g : GS) (r : Node) (hs : stmtShape r = true)
    (hn : stmtNames r = true) (hm : g.top.marks = []) :
    ∀ l, l < g.labels.length → (genS g r).labels[l]? = g.labels[l]? := by
  intro l hl
  have st := step_void g r
  refine (sq_void g r hs hn).frame l hl ?_
  intro m _ hin
  rcases st.new _ hin with h | h
  · rw [hm] at h; cases h
  · simp only at h; omega

def progRes (gs00 : GS) (l2 r2 : Node) : GS :=
  progPost (genS (genArgs (progPre gs00 l2.left.tok).1 l2.right.left) r2)
    (outNameOf l2.right.right) (genArgs (progPre gs00 l2.left.tok).1 l2.right.left).nextPos
    (progPre gs00 l2.left.tok).2

theorem dispatchVoid_program (gs0 : GS) (tok file : Bytes) (line : Int) (l2 r2 : Node) :
    genS gs0 (.mk NodeT.PROGRAM tok file line l2 r2) = progRes (gs0.advanceLine line file) l2 r2 :=
  genS_program gs0 tok file line l2 r2

theorem top_of_symbols {g : GS} {x : FGS} {t : List FGS} (h : g.symbols = x :: t) : g.top = x := by
  unfold GS.top; rw [h]; rfl

/-- the validator's record of the routine just defined.  `k0` sites stand in front of the definition
    (the two `advanceLine` of `SPLIT (PROGRAM …)`); `removeTopPotBreak` takes the last one back if
    there is one, so `k0 - 1` remain (truncated: none stays none), then the jump over the body. -/
def progRi (gs gs00 : GS) (k0 : Nat) (l2 r2 : Node) (k : Nat) : RInfo :=
  ⟨gs.code.length + (k0 - 1) + 1, k,
   smap ((genS (genArgs (progPre gs00 l2.left.tok).1 l2.right.left) r2).fetchVar
     (outNameOf l2.right.right)).1.top.regs⟩

/-- the generator state at the start of the body of a definition (`gs`: before the definition,
    `k0`: the sites `advanceLine` emitted in front of it, of which `k0 - 1` remain, see `progRi`) -/
structure BodyStart (gs : GS) (k0 : Nat) (nm : Bytes) (names : List Bytes) (g : GS) (after : Nat) : Prop where
  afterEq : after = gs.labels.length
  regs : g.top.regs = names.map (fun x => (⟨true, false, x⟩ : VReg))
  marks : g.top.marks = []
  name : g.top.name = nm
  argnum : g.top.argnum = names.length
  outer : g.symbols.drop 1 = gs.symbols
  code : g.code = (gs.code ++ List.replicate (k0 - 1) Instr.potBreak) ++ [.jmp (after : Int)]
  labels : g.labels = gs.labels ++ [-1]
  funcAddrs : g.funcAddrs = gs.funcAddrs
  stackMaps : g.stackMaps = gs.stackMaps
  loops : g.loops = gs.loops

theorem prog_start {gs gs00 : GS} {k0 : Nat} (nm : Bytes) (an : Node) (h0 : Sites gs gs00 k0)
    (hlast : LastNS gs.code) (hnd : (namesOf an).Nodup) :
    BodyStart gs k0 nm (namesOf an) (genArgs (progPre gs00 nm).1 an) (progPre gs00 nm).2 ∧
      gs00.removeTopPotBreak.code = gs.code ++ List.replicate (k0 - 1) Instr.potBreak := by
  have pp := progPre_full gs00 nm gs.code k0 h0.code hlast
  obtain ⟨rtc, _⟩ := removeTop_spec gs00 gs.code k0 h0.code hlast
  generalize (progPre gs00 nm).1 = p1 at *
  generalize (progPre gs00 nm).2 = after at *
  have hp1top : p1.top = ⟨nm, [], 0, []⟩ := top_of_symbols pp.symbols
  have as := args_spec p1 an hnd (by intro x _ h; unfold regNames at h; rw [hp1top] at h; cases h)
  generalize genArgs p1 an = g at *
  exact ⟨⟨by rw [pp.afterEq, h0.labels], by rw [as.regs, hp1top]; rfl, by rw [as.marks, hp1top], by rw [as.name, hp1top],
    by rw [as.argnum, hp1top]; simp, by rw [as.outer, pp.symbols]; exact h0.symbols, by rw [as.code, pp.code, rtc],
    by rw [as.labels, pp.labels, h0.labels], by rw [as.funcAddrs, pp.funcAddrs, h0.funcAddrs],
    by rw [as.stackMaps, pp.stackMaps, h0.stackMaps], by rw [as.loops, pp.loops, h0.loops]⟩, rtc⟩

theorem BodyStart.len {gs g : GS} {k0 after : Nat} {nm : Bytes} {names : List Bytes} (h : BodyStart gs k0 nm names g after) :
    g.code.length = gs.code.length + (k0 - 1) + 1 := by rw [h.code]; simp; omega

theorem BodyStart.pre {gs g : GS} {k0 after : Nat} {nm : Bytes} {names : List Bytes} (h : BodyStart gs k0 nm names g after) :
    gs.code <+: g.code := by rw [h.code, List.append_assoc]; exact prefix_append_self _ _

theorem BodyStart.regsOK {gs g : GS} {k0 after : Nat} {nm : Bytes} {names : List Bytes} (h : BodyStart gs k0 nm names g after)
    (hPV : ∀ x ∈ names, PV x) (hnd : names.Nodup) :
    TempNamed g.top.regs ∧ NTNodup g.top.regs ∧ CtrInv g.top.regs g.loops := by
  refine ⟨?_, ?_, ?_⟩
  · intro r hr ht
    rw [h.regs] at hr
    obtain ⟨x, _, rfl⟩ := List.mem_map.1 hr
    cases ht
  · unfold NTNodup
    rw [h.regs, List.filter_eq_self.2 (by intro r hr; obtain ⟨x, _, rfl⟩ := List.mem_map.1 hr; rfl), List.map_map]
    exact (List.map_id names).symm ▸ hnd
  · refine (CtrInv.nil g.loops).ext (fun i r h => by simp at h) ?_
    intro i r hr _ _
    rw [h.regs] at hr
    obtain ⟨x, hx, rfl⟩ := List.mem_map.1 (List.mem_iff_getElem?.2 ⟨i, hr⟩)
    exact PV_noPrefix x (hPV x hx)

theorem progNames_iff {hdr : Node} (h : progNames hdr = true) :
    (∀ x ∈ namesOf hdr.right.left, PV x) ∧ PV (outNameOf hdr.right.right) := by
  unfold progNames at h
  rw [Bool.and_eq_true, List.all_eq_true] at h
  exact h

theorem prog_gen (src : Source) {gs gs00 : GS} {k0 : Nat} (l2 r2 : Node) (k : Nat) (infos : List RInfo)
    (ps : List ProgDef) (h0 : Sites gs gs00 k0) (ti : TopInv src gs k infos)
    (hs : stmtShape r2 = true) (hn : stmtNames r2 = true)
    (hpd : src.progs[k]? = some ⟨l2.left.tok, namesOf l2.right.left, outNameOf l2.right.right, (stmtsOf r2 gs.loops ps).1⟩)
    (hnd : (namesOf l2.right.left).Nodup) :
    TopInv src (progRes gs00 l2 r2) (k + 1) (infos ++ [progRi gs gs00 k0 l2 r2 k]) ∧ TQ gs (progRes gs00 l2 r2) ∧
      gs.labels.length ≤ (progRes gs00 l2 r2).labels.length ∧
      (progRes gs00 l2 r2).loops = gs.loops + loopCount r2 := by
  unfold progRes progRi
  obtain ⟨bs, _⟩ := prog_start l2.left.tok l2.right.left h0 ti.last hnd
  generalize (progPre gs00 l2.left.tok).2 = after at *
  generalize genArgs (progPre gs00 l2.left.tok).1 l2.right.left = g at *
  have sq := sq_void g r2 hs hn
  have st := step_void g r2
  have bfr := body_frame g r2 hs hn bs.marks
  have pq := progPost_full (genS g r2) (outNameOf l2.right.right) g.nextPos after
  generalize genS g r2 = bb at *
  generalize progPost bb (outNameOf l2.right.right) g.nextPos after = res at *
  have hlen := st.lablen
  rw [bs.labels] at hlen
  simp only [List.length_append, List.length_cons, List.length_nil] at hlen
  have hpre : gs.code <+: res.code := bs.pre.trans (sq.gq.code.trans (by rw [pq.code]; exact prefix_append_self _ _))
  refine ⟨?_, ⟨hpre, by rw [pq.stackMaps, sq.gq.stackMaps, bs.stackMaps]; exact prefix_append_self _ _, ?_⟩, ?_,
    by rw [pq.loops, sq.loops, bs.loops]⟩
  · have htop : res.top = gs.top := top_congr (by rw [pq.symbols, st.outer, bs.outer])
    refine ⟨by rw [pq.stackMaps, sq.gq.stackMaps, bs.stackMaps]; simp [ti.nprogs], by simp [ti.ninfos],
      by rw [htop]; exact ti.marks, by rw [htop]; exact ti.regs, by rw [pq.code]; exact LastNS.snoc _ nofun,
      ti.head.mono hpre, ?_⟩
    intro f j pd hl
    rw [lookupProg_succ src k _ hpd f] at hl
    have hlf := lookupFunc_cons_filter bb.funcAddrs bb.top.name _ f bb res pq.funcAddrs rfl
    simp only at hl
    by_cases hf : l2.left.tok = f
    · rw [if_pos hf] at hl
      cases hl
      rw [hlf, st.name, bs.name, if_pos hf.symm]
      refine ⟨_, ⟨gs.code.length + (k0 - 1) + 1, k, smap (bb.fetchVar (outNameOf l2.right.right)).1.top.regs⟩, rfl, ?_, ?_, ?_, ?_⟩
      · simp only; rw [st.argnum, bs.argnum]
      · rw [List.getElem?_append_right (by rw [ti.ninfos]; exact Nat.le_refl _), ti.ninfos]; simp
      · simp only; rw [sq.gq.stackMaps, bs.stackMaps, ti.nprogs]
      · simp only; unfold nextPos; rw [bs.len]
    · rw [if_neg hf] at hl
      obtain ⟨p, ri, a1, a2, a3, a4⟩ := ti.func f j pd hl
      rw [hlf, st.name, bs.name, if_neg (fun h => hf h.symm)]
      refine ⟨p, ri, ?_, a2, ?_, a4⟩
      · unfold lookupFunc at a1 ⊢
        rw [sq.gq.funcAddrs, bs.funcAddrs]; exact a1
      · rw [List.getElem?_append_left ((List.getElem?_eq_some_iff.1 a3).1)]; exact a3
  · intro l hl
    rw [pq.labels, List.getElem?_set_ne (by rw [bs.afterEq]; omega), bfr l (by rw [bs.labels]; simp; omega), bs.labels,
      List.getElem?_append_left hl]
  · rw [pq.labels, List.length_set]; omega

/-- the context of the body of a definition, and what `checkProgs` reads besides the body: the stack
    map of the definition and the target of the jump over it -/
theorem prog_links {P : Program} {src : Source} {L : List Int} {gs g res : GS} {k0 after k en : Nat} {nm out : Bytes}
    {names : List Bytes} {entry : Int} {infos : List RInfo} {r2 : Node} {ps : List ProgDef} {pd : ProgDef}
    (bs : BodyStart gs k0 nm names g after) (ti : TopInv src gs k infos) (hPV : ∀ x ∈ names, PV x) (hout : PV out)
    (hnd : names.Nodup) (hs : stmtShape r2 = true) (hn : stmtNames r2 = true)
    (pq : ProgPost (genS g r2) out entry after res)
    (hpd : src.progs[k]? = some pd) (hbody : pd.body = (stmtsOf r2 gs.loops ps).1) (hst : Static.routineOK src k = true)
    (F : Fits P L res) :
    BodyCtx ⟨P.code, L, ((genS g r2).fetchVar out).1.top.regs, src, k, infos, en⟩ g r2 ps ∧
    P.stackMaps[k]? = some ⟨nm, smap ((genS g r2).fetchVar out).1.top.regs⟩ ∧
    (L[after]?).getD (-1) = (((genS g r2).code.length + 1 : Nat) : Int) := by
  have sq := sq_void g r2 hs hn
  have st := step_void g r2
  have bfr := body_frame g r2 hs hn bs.marks
  obtain ⟨tn_g, ntn_g, ctr_g⟩ := bs.regsOK hPV hnd
  have fv := fetchVar_spec PV (genS g r2) out hout
  have hlen := st.lablen
  rw [bs.labels, List.length_append, List.length_singleton, ← bs.afterEq] at hlen
  have hbafter : (genS g r2).labels[after]? = some (-1) := by
    rw [bfr after (by rw [bs.labels, List.length_append, List.length_singleton, ← bs.afterEq]; exact Nat.lt_succ_self _),
      bs.labels, bs.afterEq, getElem?_snoc_len]
  refine ⟨⟨⟨fv.vq.tn (sq.gq.tn tn_g), fv.vq.ntn (sq.gq.ntn ntn_g), ⟨_, fv.vq.ctr PV_noPrefix (sq.ctr ctr_g)⟩⟩, ?_, bs.marks,
    ti.head.mono bs.pre, fv.vq.regs, F.agree.of_prefix (by rw [pq.code]; exact prefix_append_self _ _), ?_, ?_⟩, ?_, ?_⟩
  · unfold Static.routineOK at hst
    rw [Sim.bodyOf_lt hpd, hbody] at hst
    rw [bs.loops]; exact hst
  · intro f j pd hl
    obtain ⟨p, ri, a1, a2⟩ := ti.func f j pd hl
    refine ⟨p, ri, ?_, a2⟩
    unfold lookupFunc at a1 ⊢
    rw [bs.funcAddrs]; exact a1
  · -- the label behind the definition is the only one its end piece sets
    intro l v h1 h2
    refine F.fin l v ?_ h2
    rw [pq.labels]
    by_cases hl : l = after
    · subst hl; rw [hbafter] at h1; exact absurd (Option.some.inj h1).symm h2
    · rw [List.getElem?_set_ne (fun h => hl h.symm)]; exact h1
  · refine prefix_getElem? F.maps ?_
    rw [pq.stackMaps, sq.gq.stackMaps, bs.stackMaps, st.name, bs.name, ← ti.nprogs, getElem?_snoc_len]
  · refine F.fin after _ ?_ (by omega)
    rw [pq.labels, List.getElem?_set_self hlen]

theorem prog_corr (P : Program) (src : Source) (L : List Int) {gs gs00 : GS} {k0 : Nat}
    (l2 r2 : Node) (k : Nat) (infos : List RInfo) (ps rest : List ProgDef) (h0 : Sites gs gs00 k0)
    (ti : TopInv src gs k infos)
    (hs : stmtShape r2 = true) (hn : stmtNames r2 = true) (hlab : labelsOK r2 = true) (hpn : progNames l2 = true)
    (hpd : src.progs[k]? = some ⟨l2.left.tok, namesOf l2.right.left, outNameOf l2.right.right, (stmtsOf r2 gs.loops ps).1⟩)
    (hst : Static.routineOK src k = true) (hnd : (namesOf l2.right.left).Nodup)
    (F : Fits P L (progRes gs00 l2 r2))
    (pc : Nat) (hpc : skipc P.code pc = skipc P.code gs.code.length) {out : List RInfo × Nat}
    (hrest : checkProgs P src rest (k + 1) (infos ++ [progRi gs gs00 k0 l2 r2 k]) (progRes gs00 l2 r2).code.length = some out) :
    checkProgs P src (⟨l2.left.tok, namesOf l2.right.left, outNameOf l2.right.right, (stmtsOf r2 gs.loops ps).1⟩ :: rest)
        k infos pc = some out := by
  unfold progRes progRi at *
  obtain ⟨hPV, hPVout⟩ := progNames_iff hpn
  obtain ⟨bs, rtc⟩ := prog_start l2.left.tok l2.right.left h0 ti.last hnd
  generalize (progPre gs00 l2.left.tok).2 = after at *
  generalize genArgs (progPre gs00 l2.left.tok).1 l2.right.left = g at *
  have hglen := bs.len
  have sq := sq_void g r2 hs hn
  have fv := fetchVar_spec PV (genS g r2) (outNameOf l2.right.right) hPVout
  have pq := progPost_full (genS g r2) (outNameOf l2.right.right) g.nextPos after
  obtain ⟨B, hsmap, hLafter⟩ := prog_links (en := gs.code.length + (k0 - 1) + 1) bs ti hPV hPVout hnd hs hn pq hpd rfl hst F
  have ok := B.ok
  have hbc := body_corr B hs hn hlab
  generalize genS g r2 = bb at *
  generalize progPost bb (outNameOf l2.right.right) g.nextPos after = res at *
  generalize hX : (⟨P.code, L, (bb.fetchVar (outNameOf l2.right.right)).1.top.regs, src, k, infos, gs.code.length + (k0 - 1) + 1⟩ : RC) = X at *
  have hXC : X.C = P.code := by rw [← hX]
  have hXL : X.L = L := by rw [← hX]
  have hXR : X.R = (bb.fetchVar (outNameOf l2.right.right)).1.top.regs := by rw [← hX]
  have hagX : Agree X.L res.code X.C := by rw [hXL, hXC]; exact F.agree
  have hbpre : bb.code <+: res.code := by rw [pq.code]; exact prefix_append_self _ _
  obtain ⟨w, cw, atw, rok⟩ := hbc _ (hglen ▸ At.exact (by rw [hglen]; exact Nat.succ_pos _))
  have hat : At X pc gs := ⟨by rw [hXC]; exact hpc, by obtain ⟨i, h1, _⟩ := ti.head; exact (List.getElem?_eq_some_iff.1 h1).1⟩
  have hpre1 : gs00.removeTopPotBreak.code ++ .jmp (after : Int) :: [] <+: res.code := by
    rw [rtc, ← bs.code]; exact sq.gq.code.trans hbpre
  have hat1 : At X pc gs00.removeTopPotBreak := hat.sites rtc ((prefix_append_self _ _).trans hpre1) hagX
  obtain ⟨j1, j2, j3⟩ := hat1.instr hpre1 hagX (by nofun)
  rw [patch_jmp, rtc] at j1
  rw [rtc] at j3
  simp only [List.length_append, List.length_replicate] at j1 j3
  rw [hXC] at j3
  have hparams : paramsOK ⟨gs.code.length + (k0 - 1) + 1, k, smap (bb.fetchVar (outNameOf l2.right.right)).1.top.regs⟩ (namesOf l2.right.left) = true := by
    unfold paramsOK
    rw [Bool.and_eq_true]
    refine ⟨?_, by simpa using hnd⟩
    rw [List.all_eq_true]
    intro p hp
    have hp' := List.mem_zipIdx_iff_getElem?.1 hp
    have hreg : g.top.regs[p.2]? = some ⟨true, false, p.1⟩ := by rw [bs.regs, List.getElem?_map, hp']; rfl
    have := regOf_of_links ok (by rw [hXR]; exact sq.gq.regs.trans fv.vq.regs) hreg rfl (hPV p.1 (List.mem_of_getElem? hp'))
    rw [← hX] at this
    simp only [beq_iff_eq]
    exact this
  have hpre2 : bb.code ++ .ret (bb.fetchVar (outNameOf l2.right.right)).2 :: [] <+: res.code := by rw [pq.code]; exact List.prefix_refl _
  obtain ⟨r1, _, r3⟩ := atw.instr hpre2 hagX (by nofun)
  rw [hXC] at r3
  obtain ⟨io, ro, o1, o2, o3⟩ := fv.reg
  have hout := regOf_of_links ok (regs := (bb.fetchVar (outNameOf l2.right.right)).1.top.regs)
    (by rw [hXR]; exact RegsExt.refl _) o2 o3 hPVout
  rw [show res.code.length = skipc P.code w.pc + 1 by rw [r3, pq.code]; simp, ← j3] at hrest
  refine Sim.checkProgs_cons_iff.2 ⟨(L[after]?).getD (-1) - ((gs.code.length + (k0 - 1) : Nat) : Int),
    ⟨l2.left.tok, smap (bb.fetchVar (outNameOf l2.right.right)).1.top.regs⟩, w, ?_, hsmap, ?_, ?_, hrest⟩
  · have := j1
    unfold VEnv.at at this
    rw [← hX] at this
    simp only [RC.e] at this
    rw [this]
  · rw [j3]
    refine ⟨rfl, ⟨_, hsmap, rfl⟩, namesNodup_smap _ (hXR ▸ ok.ntn) _ _, hparams, ?_, hXC ▸ rok,
      (bb.fetchVar (outNameOf l2.right.right)).2, ?_, ?_⟩
    · rw [← hX] at cw
      rw [← bs.loops]
      exact cw
    · rw [← hX] at r1
      exact r1
    · rw [← hX] at hout
      rw [o1]
      exact hout
  · rw [j3, r3, hLafter, Int.add_comm, Int.sub_add_cancel]

end GenShape
end Theo
