/-
  C03 for the generator: the invariant of the generator state while the body of one
  routine is generated (`BInv C g0 gs`, relative to the state `g0` at the start of the body):
  the code emitted since then is a sequence of complete groups over the registers and labels of
  this routine, every label created since then is unset or points to a group boundary of that
  code, every jump emitted is on the backpatch list, and nothing else moved.  Preserved by the
  primitives; Proofs/GenWFDispatch.lean carries it through the dispatch functions.
-/
import Theo.Proofs.StaticInv
import Theo.Proofs.GenShapePrim
import Theo.Proofs.GenWFGroups

namespace Theo
namespace GenWF
open GS Static
open GenShape (advanceLine_sites advanceLine_symbols markLabel_regs)

structure RegStep (gs gs' : GS) : Prop where
  code : gs'.code = gs.code
  labels : gs'.labels = gs.labels
  todo : gs'.todo = gs.todo
  marks : gs'.top.marks = gs.top.marks
  sm : gs'.stackMaps = gs.stackMaps
  fa : gs'.funcAddrs = gs.funcAddrs
  outer : gs'.symbols.drop 1 = gs.symbols.drop 1
  regs : gs.top.regs.length ≤ gs'.top.regs.length

theorem RegStep.refl (gs : GS) : RegStep gs gs := ⟨rfl, rfl, rfl, rfl, rfl, rfl, rfl, Nat.le_refl _⟩
theorem RegStep.trans {a b c : GS} (h1 : RegStep a b) (h2 : RegStep b c) : RegStep a c :=
  ⟨h2.code.trans h1.code, h2.labels.trans h1.labels, h2.todo.trans h1.todo, h2.marks.trans h1.marks,
   h2.sm.trans h1.sm, h2.fa.trans h1.fa, h2.outer.trans h1.outer, Nat.le_trans h1.regs h2.regs⟩

theorem findReg_lt (regs : List VReg) (n : Bytes) (k i : Nat) (h : findReg regs n k = some i) : i < k + regs.length := by
  obtain ⟨j, r, rfl, hr, _⟩ := GenShape.findReg_some regs n k i h
  exact Nat.add_lt_add_left (List.getElem?_eq_some_iff.1 hr).1 k

theorem firstFreeTemp_lt (regs : List VReg) (k i : Nat) (h : firstFreeTemp regs k = some i) : i < k + regs.length := by
  obtain ⟨j, r, rfl, hr, _⟩ := GenShape.firstFreeTemp_some regs k i h
  exact Nat.add_lt_add_left (List.getElem?_eq_some_iff.1 hr).1 k

theorem fetchVar_regStep (gs : GS) (n : Bytes) :
    RegStep gs (gs.fetchVar n).1 ∧ RegIn (gs.fetchVar n).2 (gs.fetchVar n).1.top.regs.length := by
  unfold fetchVar
  dsimp only
  split
  · rename_i i hi
    have hlt := findReg_lt _ _ _ _ hi
    rw [Nat.zero_add] at hlt
    exact ⟨RegStep.refl _, regIn_nat hlt⟩
  · have hl : ∀ x : VReg, (gs.top.regs ++ [x]).length = gs.top.regs.length + 1 := fun x => by
      rw [List.length_append, List.length_singleton]
    exact ⟨⟨rfl, rfl, rfl, rfl, rfl, rfl, rfl, hl _ ▸ Nat.le_succ _⟩, regIn_nat (hl _ ▸ Nat.lt_succ_self _)⟩

theorem fetchTemporary_regStep (gs : GS) :
    RegStep gs gs.fetchTemporary.1 ∧ RegIn gs.fetchTemporary.2 gs.fetchTemporary.1.top.regs.length := by
  unfold fetchTemporary
  dsimp only
  split
  · rename_i i hi
    have hl : ∀ f : VReg → VReg, (gs.top.regs.modify i f).length = gs.top.regs.length := fun f => List.length_modify ..
    have hlt := firstFreeTemp_lt _ _ _ hi
    rw [Nat.zero_add] at hlt
    exact ⟨⟨rfl, rfl, rfl, rfl, rfl, rfl, rfl, Nat.le_of_eq (hl _).symm⟩, regIn_nat ((hl _).symm ▸ hlt)⟩
  · have hl : ∀ x : VReg, (gs.top.regs ++ [x]).length = gs.top.regs.length + 1 := fun x => by
      rw [List.length_append, List.length_singleton]
    exact ⟨⟨rfl, rfl, rfl, rfl, rfl, rfl, rfl, hl _ ▸ Nat.le_succ _⟩, regIn_nat (hl _ ▸ Nat.lt_succ_self _)⟩

theorem releaseTemporary_regs (gs : GS) (i : Int) :
    (gs.releaseTemporary i).top.regs.length = gs.top.regs.length :=
  List.length_modify ..

theorem releaseTemporary_regStep (gs : GS) (i : Int) : RegStep gs (gs.releaseTemporary i) :=
  ⟨rfl, rfl, rfl, rfl, rfl, rfl, rfl, Nat.le_of_eq (releaseTemporary_regs gs i).symm⟩

structure BInvS (C : ProgRec → Prop) (g0 gs : GS) (seg : List Instr) : Prop where
  code : gs.code = g0.code ++ seg
  groups : Groups C gs.top.regs.length g0.labels.length gs.labels.length seg
  lablen : g0.labels.length ≤ gs.labels.length
  labold : ∀ l, l < g0.labels.length → gs.labels[l]? = g0.labels[l]?
  labnew : ∀ l, g0.labels.length ≤ l → l < gs.labels.length →
    gs.labels[l]? = some (-1) ∨
    ∃ k, k ≤ seg.length ∧ gs.labels[l]? = some (((g0.code.length + k : Nat)) : Int) ∧
      ∀ i, seg[k]? = some i → notAE i = true
  marks : ∀ m ∈ gs.top.marks, g0.labels.length ≤ m.2
  mwf : MarksWF gs
  todoOld : ∀ x ∈ g0.todo, x ∈ gs.todo
  todoNew : ∀ k i, seg[k]? = some i → isJump i = true → g0.code.length + k ∈ gs.todo
  sm : gs.stackMaps = g0.stackMaps
  fa : gs.funcAddrs = g0.funcAddrs
  outer : gs.symbols.drop 1 = g0.symbols.drop 1
  regs : g0.top.regs.length ≤ gs.top.regs.length
  -- the last two speak of `g0` alone (the hypotheses of `BInv.start`); they ride along so that
  -- `BInv.callee` and `BInv.setLabelMark` need no second hypothesis
  cfa : ∀ e ∈ g0.funcAddrs, C e.2
  nosite : g0.code.getLast? ≠ some Instr.potBreak

def BInv (C : ProgRec → Prop) (g0 gs : GS) : Prop := ∃ seg, BInvS C g0 gs seg

section
variable {C : ProgRec → Prop} {g0 gs gs' : GS} {seg : List Instr}

theorem BInv.start (hw : MarksWF g0) (hm : g0.top.marks = [])
    (hc : ∀ e ∈ g0.funcAddrs, C e.2) (hn : g0.code.getLast? ≠ some Instr.potBreak) : BInv C g0 g0 :=
  ⟨[], (List.append_nil _).symm, Groups.nil, Nat.le_refl _, fun _ _ => rfl,
    fun l h1 h2 => absurd h2 (Nat.not_lt.2 h1), fun m h => (by rw [hm] at h; cases h), hw, fun _ h => h,
    fun k i h => (by rw [List.getElem?_nil] at h; cases h), rfl, rfl, rfl, Nat.le_refl _, hc, hn⟩

theorem BInv.lablen (h : BInv C g0 gs) : g0.labels.length ≤ gs.labels.length := by
  obtain ⟨_, h⟩ := h; exact h.lablen

theorem BInvS.appendSeg (h : BInvS C g0 gs seg) (s : List Instr)
    (hc : gs'.code = gs.code ++ s)
    (hg : Groups C gs'.top.regs.length g0.labels.length gs'.labels.length s)
    (hl : gs'.labels = gs.labels) (hm : gs'.top.marks = gs.top.marks)
    (ht : ∀ x ∈ gs.todo, x ∈ gs'.todo)
    (htn : ∀ k i, s[k]? = some i → isJump i = true → gs.code.length + k ∈ gs'.todo)
    (hr : gs.top.regs.length ≤ gs'.top.regs.length)
    (hsm : gs'.stackMaps = gs.stackMaps) (hfa : gs'.funcAddrs = gs.funcAddrs)
    (hout : gs'.symbols.drop 1 = gs.symbols.drop 1) : BInvS C g0 gs' (seg ++ s) := by
  have hll : gs.labels.length ≤ gs'.labels.length := Nat.le_of_eq (congrArg List.length hl).symm
  refine ⟨by rw [hc, h.code, List.append_assoc], (h.groups.mono (fun _ hp => hp) hr hll).append hg,
    hl ▸ h.lablen, hl ▸ h.labold, ?_, hm ▸ h.marks, h.mwf.congr hll hm, fun x hx => ht x (h.todoOld x hx), ?_,
    hsm.trans h.sm, hfa.trans h.fa, hout.trans h.outer, Nat.le_trans h.regs hr, h.cfa, h.nosite⟩
  · intro l h1 h2
    rw [hl] at h2 ⊢
    rcases h.labnew l h1 h2 with h3 | ⟨k, hk, h3, h4⟩
    · exact Or.inl h3
    · exact Or.inr ⟨k, List.length_append ▸ Nat.le_add_right_of_le hk, h3, boundary_append hk h4 hg.head⟩
  · intro k i hk hj
    by_cases hk' : k < seg.length
    · exact ht _ (h.todoNew k i (List.getElem?_append_left hk' ▸ hk) hj)
    · have hle := Nat.le_of_not_lt hk'
      rw [List.getElem?_append_right hle] at hk
      have := htn _ i hk hj
      rwa [h.code, List.length_append, Nat.add_assoc, Nat.add_sub_cancel' hle] at this

theorem BInvS.relabel (h : BInvS C g0 gs seg) (hc : gs'.code = gs.code) (ht : gs'.todo = gs.todo)
    (hr : gs.top.regs.length ≤ gs'.top.regs.length)
    (hsm : gs'.stackMaps = gs.stackMaps) (hfa : gs'.funcAddrs = gs.funcAddrs)
    (hout : gs'.symbols.drop 1 = gs.symbols.drop 1)
    (hll : gs.labels.length ≤ gs'.labels.length)
    (hlo : ∀ l, l < g0.labels.length → gs'.labels[l]? = gs.labels[l]?)
    (hln : ∀ l, g0.labels.length ≤ l → l < gs'.labels.length →
      (l < gs.labels.length ∧ gs'.labels[l]? = gs.labels[l]?) ∨ gs'.labels[l]? = some (-1) ∨
      ∃ k, k ≤ seg.length ∧ gs'.labels[l]? = some (((g0.code.length + k : Nat)) : Int) ∧
        ∀ i, seg[k]? = some i → notAE i = true)
    (hm : ∀ m ∈ gs'.top.marks, g0.labels.length ≤ m.2) (hw : MarksWF gs') : BInvS C g0 gs' seg := by
  refine ⟨hc.trans h.code, h.groups.mono (fun _ hp => hp) hr hll, Nat.le_trans h.lablen hll,
    fun l hl => (hlo l hl).trans (h.labold l hl), ?_, hm, hw, ht ▸ h.todoOld, ht ▸ h.todoNew,
    hsm.trans h.sm, hfa.trans h.fa, hout.trans h.outer, Nat.le_trans h.regs hr, h.cfa, h.nosite⟩
  intro l hl1 hl2
  rcases hln l hl1 hl2 with ⟨h1, h2⟩ | h1 | h1
  · rw [h2]; exact h.labnew l hl1 h1
  · exact Or.inl h1
  · exact Or.inr h1

theorem BInv.regStep (h : BInv C g0 gs) (r : RegStep gs gs') : BInv C g0 gs' := by
  obtain ⟨seg, h⟩ := h
  have hll : gs.labels.length ≤ gs'.labels.length := Nat.le_of_eq (congrArg List.length r.labels).symm
  exact ⟨seg, h.relabel r.code r.todo r.regs r.sm r.fa r.outer hll (fun l _ => by rw [r.labels])
    (fun l _ h2 => Or.inl ⟨r.labels ▸ h2, by rw [r.labels]⟩) (r.marks ▸ h.marks) (h.mwf.congr hll r.marks)⟩

theorem BInv.emit (h : BInv C g0 gs) {i : Instr}
    (hs : SimpleOK gs.top.regs.length g0.labels.length gs.labels.length i) (hj : isJump i = false) :
    BInv C g0 (gs.emit i) := by
  obtain ⟨seg, h⟩ := h
  refine ⟨_, h.appendSeg [i] rfl (Groups.single hs) rfl rfl (fun _ hx => hx) ?_ (Nat.le_refl _) rfl rfl rfl⟩
  intro k x hk hjx
  rw [(getElem?_singleton hk).2, hj] at hjx
  cases hjx

theorem BInv.emitBackpatched (h : BInv C g0 gs) {i : Instr}
    (hs : SimpleOK gs.top.regs.length g0.labels.length gs.labels.length i) :
    BInv C g0 (gs.emitBackpatched i) := by
  obtain ⟨seg, h⟩ := h
  refine ⟨_, h.appendSeg [i] rfl (Groups.single hs) rfl rfl ?_ ?_ (Nat.le_refl _) rfl rfl rfl⟩
  · intro x hx; rw [emitBackpatched_todo]; exact List.mem_append_left _ hx
  · intro k x hk _
    rw [(getElem?_singleton hk).1, emitBackpatched_todo]
    exact List.mem_append_right _ (List.mem_singleton.2 rfl)

end

section
variable {C : ProgRec → Prop} {g0 gs : GS} {seg : List Instr}

theorem BInv.advanceLine {C : ProgRec → Prop} {g0 gs : GS} (h : BInv C g0 gs) (line : Int) (file : Bytes) :
    BInv C g0 (gs.advanceLine line file) := by
  obtain ⟨k, _, ⟨h1, h4, h5, h6, h2, _, h3⟩⟩ := advanceLine_sites gs line file
  have ht := top_congr (advanceLine_symbols gs line file)
  obtain ⟨seg, h⟩ := h
  refine ⟨_, h.appendSeg _ h1 (Groups.replicate_potBreak k) h2 (by rw [ht]) (fun x hx => h3 ▸ hx) ?_
    (by rw [ht]; exact Nat.le_refl _) h5 h6 (by rw [h4])⟩
  intro j x hj hjx
  rw [List.getElem?_replicate] at hj
  split at hj
  · rw [← Option.some.inj hj] at hjx; cases hjx
  · cases hj

theorem snoc_label_cases (L : List Int) (l : Nat) (h : l < (L ++ [-1]).length) :
    (l < L.length ∧ (L ++ [-1])[l]? = L[l]?) ∨ (L ++ [-1])[l]? = some (-1) := by
  by_cases hl : l < L.length
  · exact Or.inl ⟨hl, List.getElem?_append_left hl⟩
  · rw [List.length_append, List.length_singleton] at h
    rw [Nat.le_antisymm (Nat.le_of_lt_succ h) (Nat.le_of_not_lt hl), List.getElem?_append_right (Nat.le_refl _),
      Nat.sub_self]
    exact Or.inr rfl

theorem BInv.createLabel (h : BInv C g0 gs) : BInv C g0 gs.createLabel.1 := by
  obtain ⟨seg, h⟩ := h
  exact ⟨seg, h.relabel rfl rfl (Nat.le_refl _) rfl rfl rfl (List.length_append ▸ Nat.le_add_right _ _)
    (fun l hl => List.getElem?_append_left (Nat.lt_of_lt_of_le hl h.lablen))
    (fun l _ h2 => (snoc_label_cases gs.labels l h2).imp id Or.inl) h.marks (createLabel_wf gs h.mwf)⟩

theorem BInvS.setLabel (h : BInvS C g0 gs seg)
    (l : Nat) (hl : g0.labels.length ≤ l) (k : Nat) (hk : k ≤ seg.length)
    (hp : ∀ i, seg[k]? = some i → notAE i = true) :
    BInvS C g0 (gs.setLabel l (((g0.code.length + k : Nat)) : Int)) seg := by
  refine h.relabel rfl rfl (Nat.le_refl _) rfl rfl rfl (Nat.le_of_eq List.length_set.symm)
    (fun x hx => List.getElem?_set_ne (Nat.ne_of_gt (Nat.lt_of_lt_of_le hx hl))) ?_ h.marks (setLabel_wf gs _ _ h.mwf)
  intro x _ h2
  rw [setLabel_labels, List.length_set] at h2
  by_cases hx : l = x
  · exact Or.inr (Or.inr ⟨k, hk, hx ▸ List.getElem?_set_self (hx ▸ h2), hp⟩)
  · exact Or.inl ⟨h2, List.getElem?_set_ne hx⟩

theorem BInv.setLabelNext (h : BInv C g0 gs) (l : Nat)
    (hl : g0.labels.length ≤ l) : BInv C g0 (gs.setLabel l gs.nextPos) := by
  obtain ⟨seg, h⟩ := h
  have hn : gs.nextPos = (((g0.code.length + seg.length : Nat)) : Int) := by
    unfold nextPos; rw [h.code, List.length_append]
  rw [hn]
  exact ⟨seg, h.setLabel l hl seg.length (Nat.le_refl _)
    (fun i hi => by rw [List.getElem?_eq_none (Nat.le_refl _)] at hi; cases hi)⟩

theorem BInv.setLabelMark (h : BInv C g0 gs) (l : Nat)
    (hl : g0.labels.length ≤ l) : BInv C g0 (gs.setLabel l gs.markPos) := by
  by_cases hs : gs.lastIsSite = true
  · -- the mark goes in front of the site just emitted (which belongs to this body: `nosite`)
    obtain ⟨seg, h⟩ := h
    have hlast : gs.code.getLast? = some Instr.potBreak := by
      unfold lastIsSite at hs
      exact eq_of_beq hs
    rw [h.code] at hlast
    rcases List.eq_nil_or_concat seg with rfl | ⟨xs, x, rfl⟩
    · exact absurd (List.append_nil g0.code ▸ hlast) h.nosite
    · rw [List.concat_eq_append] at h hlast
      rw [← List.append_assoc, List.getLast?_concat] at hlast
      have hm : gs.markPos = (((g0.code.length + xs.length : Nat)) : Int) := by
        unfold markPos nextPos
        rw [if_pos hs, h.code, List.length_append, List.length_append, List.length_singleton, ← Nat.add_assoc,
          Int.natCast_add_one, Int.add_sub_cancel]
      rw [hm]
      refine ⟨_, h.setLabel l hl xs.length (List.length_append ▸ Nat.le_add_right _ _) ?_⟩
      intro i hi
      rw [List.getElem?_append_right (Nat.le_refl _), Nat.sub_self] at hi
      rw [← Option.some.inj hi, Option.some.inj hlast]; rfl
  · have : gs.markPos = gs.nextPos := by unfold markPos; rw [if_neg hs]
    rw [this]
    exact h.setLabelNext l hl

theorem markLabel_fields (gs : GS) (m : Bytes) : (gs.markLabel m).1.stackMaps = gs.stackMaps ∧
    ((gs.markLabel m).1.labels = gs.labels ∨ (gs.markLabel m).1.labels = gs.labels ++ [-1]) := by
  unfold markLabel
  split
  · exact ⟨rfl, Or.inl rfl⟩
  · exact ⟨rfl, Or.inr rfl⟩

theorem BInv.markLabel (h : BInv C g0 gs) (m : Bytes) :
    BInv C g0 (gs.markLabel m).1 ∧ g0.labels.length ≤ (gs.markLabel m).2 ∧
      (gs.markLabel m).2 < (gs.markLabel m).1.labels.length := by
  obtain ⟨seg, h⟩ := h
  have s := markLabel_spec gs m
  obtain ⟨f3, f7⟩ := markLabel_fields gs m
  have hmarks : ∀ e ∈ (gs.markLabel m).1.top.marks, g0.labels.length ≤ e.2 := by
    intro e he
    rcases s.new e he with h1 | h1
    · exact h.marks e h1
    · exact Nat.le_trans h.lablen h1
  refine ⟨⟨seg, h.relabel s.code s.todo (Nat.le_of_eq (congrArg List.length (markLabel_regs gs m)).symm) f3
    s.funcAddrs s.outer s.lablen ?_ ?_ hmarks
    (s.wf h.mwf)⟩, hmarks _ s.mem, s.lt h.mwf⟩
  · intro l hl
    rcases f7 with e | e
    · rw [e]
    · rw [e, List.getElem?_append_left (Nat.lt_of_lt_of_le hl h.lablen)]
  · intro l _ h2
    rcases f7 with e | e
    · rw [e] at h2 ⊢; exact Or.inl ⟨h2, rfl⟩
    · rw [e] at h2 ⊢; exact (snoc_label_cases gs.labels l h2).imp id Or.inl

end

end GenWF
end Theo
