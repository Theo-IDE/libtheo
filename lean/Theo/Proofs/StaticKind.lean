/-
  C04 (static rules): statement trees by node type.  An induction principle with one case per
  node type the statement dispatch distinguishes (`stmtInduction`; over the trees of `stmtShape`
  and `AstShape`: `stmtShape_induction`, `astShape_induction`), and the equations of `genS` and
  `stmtsOf` for each of these node types, so that a walk over a tree names its cases; beside
  `stmtShape_mk` and `stmtsOf_mk`, what `valShape`, `valueOf` and `valuesOf` are at a node.
-/
import Theo.Spec.Static
import Theo.Proofs.GenWalk

namespace Theo
namespace Static
open GS Sem

def stmtTypes : List Nat :=
  [NodeT.SPLIT, NodeT.PROGRAM, NodeT.ASSIGN, NodeT.LOOP, NodeT.WHILE, NodeT.MARK, NodeT.GOTO, NodeT.IF, NodeT.STOP]

theorem not_mem_stmtTypes {t : Nat} : t ∉ stmtTypes ↔ t ≠ NodeT.SPLIT ∧ t ≠ NodeT.PROGRAM ∧ t ≠ NodeT.ASSIGN ∧
    t ≠ NodeT.LOOP ∧ t ≠ NodeT.WHILE ∧ t ≠ NodeT.MARK ∧ t ≠ NodeT.GOTO ∧ t ≠ NodeT.IF ∧ t ≠ NodeT.STOP := by
  simp only [stmtTypes, List.mem_cons, List.not_mem_nil, or_false, not_or]

theorem stmtInduction {P : Node → Prop} (nil : P .nil)
    (split : ∀ tok file line l r, P l → P r → P (.mk NodeT.SPLIT tok file line l r))
    (program : ∀ tok file line l r, P r → P (.mk NodeT.PROGRAM tok file line l r))
    (assign : ∀ tok file line l r, P (.mk NodeT.ASSIGN tok file line l r))
    (loop : ∀ tok file line l r, P r → P (.mk NodeT.LOOP tok file line l r))
    (while_ : ∀ tok file line l r, P r → P (.mk NodeT.WHILE tok file line l r))
    (mark : ∀ tok file line l r, P (.mk NodeT.MARK tok file line l r))
    (goto : ∀ tok file line l r, P (.mk NodeT.GOTO tok file line l r))
    (if_ : ∀ tok file line l r, P (.mk NodeT.IF tok file line l r))
    (stop : ∀ tok file line l r, P (.mk NodeT.STOP tok file line l r))
    (other : ∀ t tok file line l r, t ∉ stmtTypes → P (.mk t tok file line l r)) : ∀ n, P n
  | .nil => nil
  | .mk t tok file line l r => by
    have ihl := stmtInduction nil split program assign loop while_ mark goto if_ stop other l
    have ihr := stmtInduction nil split program assign loop while_ mark goto if_ stop other r
    by_cases h : t ∈ stmtTypes
    · simp only [stmtTypes, List.mem_cons, List.not_mem_nil, or_false] at h
      rcases h with rfl | rfl | rfl | rfl | rfl | rfl | rfl | rfl | rfl
      · exact split tok file line l r ihl ihr
      · exact program tok file line l r ihr
      · exact assign tok file line l r
      · exact loop tok file line l r ihr
      · exact while_ tok file line l r ihr
      · exact mark tok file line l r
      · exact goto tok file line l r
      · exact if_ tok file line l r
      · exact stop tok file line l r
    · exact other t tok file line l r h

theorem stmtShape_mk (t : Nat) (tok file : Bytes) (line : Int) (l r : Node) :
    stmtShape (.mk t tok file line l r) =
      if t = NodeT.SPLIT then stmtShape l && stmtShape r
      else if t = NodeT.ASSIGN then valShape false r
      else if t = NodeT.LOOP ∨ t = NodeT.WHILE then nilOr NodeT.NAME l && stmtShape r
      else if t = NodeT.IF then nilOr NodeT.NAME l.left && nilOr NodeT.NUMBER l.right
      else decide (t = NodeT.MARK ∨ t = NodeT.GOTO ∨ t = NodeT.STOP) := by
  rw [stmtShape]

theorem valShape_mk (a : Bool) (t : Nat) (tok file : Bytes) (line : Int) (l r : Node) :
    valShape a (.mk t tok file line l r) =
      if a = true ∧ t = NodeT.SPLIT then valShape true l && valShape true r
      else decide (((t = NodeT.NAME ∨ t = NodeT.NUMBER) ∧ l = .nil) ∨
         (t = NodeT.CALL ∧ l.ty = NodeT.NAME ∧ valShape true r = true)) := by
  rw [valShape]

theorem stmtShape_induction {P : Node → Prop} (nil : P .nil)
    (split : ∀ tok file line l r, stmtShape l = true → stmtShape r = true → P l → P r →
      P (.mk NodeT.SPLIT tok file line l r))
    (assign : ∀ tok file line l r, valShape false r = true → P (.mk NodeT.ASSIGN tok file line l r))
    (loop : ∀ tok file line l r, nilOr NodeT.NAME l = true → stmtShape r = true → P r →
      P (.mk NodeT.LOOP tok file line l r))
    (while_ : ∀ tok file line l r, nilOr NodeT.NAME l = true → stmtShape r = true → P r →
      P (.mk NodeT.WHILE tok file line l r))
    (mark : ∀ tok file line l r, P (.mk NodeT.MARK tok file line l r))
    (goto : ∀ tok file line l r, P (.mk NodeT.GOTO tok file line l r))
    (if_ : ∀ tok file line l r, nilOr NodeT.NAME l.left = true → nilOr NodeT.NUMBER l.right = true →
      P (.mk NodeT.IF tok file line l r))
    (stop : ∀ tok file line l r, P (.mk NodeT.STOP tok file line l r)) : ∀ n, stmtShape n = true → P n := by
  intro n
  -- at a given node type `stmtShape` computes to the conjunction named in `show`
  induction n using stmtInduction with
  | nil => exact fun _ => nil
  | split tok file line l r ihl ihr =>
    intro hs
    have hs := Bool.and_eq_true_iff.1 (show (stmtShape l && stmtShape r) = true from hs)
    exact split _ _ _ _ _ hs.1 hs.2 (ihl hs.1) (ihr hs.2)
  | program => intro hs; cases hs
  | assign tok file line l r => exact assign _ _ _ _ _
  | loop tok file line l r ih =>
    intro hs
    have hs := Bool.and_eq_true_iff.1 (show (nilOr NodeT.NAME l && stmtShape r) = true from hs)
    exact loop _ _ _ _ _ hs.1 hs.2 (ih hs.2)
  | while_ tok file line l r ih =>
    intro hs
    have hs := Bool.and_eq_true_iff.1 (show (nilOr NodeT.NAME l && stmtShape r) = true from hs)
    exact while_ _ _ _ _ _ hs.1 hs.2 (ih hs.2)
  | mark => exact fun _ => mark _ _ _ _ _
  | goto => exact fun _ => goto _ _ _ _ _
  | if_ tok file line l r =>
    intro hs
    have hs := Bool.and_eq_true_iff.1 (show (nilOr NodeT.NAME l.left && nilOr NodeT.NUMBER l.right) = true from hs)
    exact if_ _ _ _ _ _ hs.1 hs.2
  | stop => exact fun _ => stop _ _ _ _ _
  | other t tok file line l r h =>
    intro hs
    obtain ⟨h1, _, h3, h4, h5, h6, h7, h8, h9⟩ := not_mem_stmtTypes.1 h
    rw [stmtShape_mk, if_neg h1, if_neg h3, if_neg (not_or.2 ⟨h4, h5⟩), if_neg h8, decide_eq_true_iff] at hs
    exact absurd hs (not_or.2 ⟨h6, not_or.2 ⟨h7, h9⟩⟩)

theorem astShape_induction {P : Node → Prop}
    (prog : ∀ tok file line tok2 file2 line2 l2 r2 r, stmtShape r2 = true → AstShape r = true → P r →
      P (.mk NodeT.SPLIT tok file line (.mk NodeT.PROGRAM tok2 file2 line2 l2 r2) r))
    (main : ∀ n, stmtShape n = true → P n) : ∀ n, AstShape n = true → P n
  | .nil, _ => main .nil rfl
  | .mk t tok file line l r, hs => by
    by_cases hpr : t = NodeT.SPLIT ∧ l.ty = NodeT.PROGRAM
    · obtain ⟨rfl, hl⟩ := hpr
      cases l with
      | nil => exact absurd hl (by decide)
      | mk t2 tok2 file2 line2 l2 r2 =>
        obtain rfl : t2 = NodeT.PROGRAM := hl
        have hs := Bool.and_eq_true_iff.1 (show (stmtShape r2 && AstShape r) = true from hs)
        exact prog _ _ _ _ _ _ _ _ _ hs.1 hs.2 (astShape_induction prog main r hs.2)
    · rw [AstShape, if_neg hpr] at hs; exact main _ hs

section
variable (gs : GS) (tok file : Bytes) (line : Int) (l r : Node)

theorem genS_split : genS gs (.mk NodeT.SPLIT tok file line l r) = genS (genS (gs.advanceLine line file) l) r := by
  rw [genS_mk]; rfl

theorem genS_program : genS gs (.mk NodeT.PROGRAM tok file line l r) =
    let p := progPre (gs.advanceLine line file) l.left.tok
    let g := genArgs p.1 l.right.left
    progPost (genS g r) (outNameOf l.right.right) g.nextPos p.2 := by
  rw [genS_mk]; rfl

theorem genS_assign : genS gs (.mk NodeT.ASSIGN tok file line l r) =
    genV ((gs.advanceLine line file).fetchVar l.tok).1 r ((gs.advanceLine line file).fetchVar l.tok).2 := by
  rw [genS_mk]; rfl

theorem genS_loop : genS gs (.mk NodeT.LOOP tok file line l r) =
    let p := loopPre (gs.advanceLine line file)
    let m := loopMid (genV p.1 l p.2) p.2
    loopPost (genS m.1 r) p.2 m.2.1 m.2.2 := by
  rw [genS_mk]; rfl

theorem genS_while : genS gs (.mk NodeT.WHILE tok file line l r) =
    let p := whilePre (gs.advanceLine line file)
    let g := (genV p.1 l p.2.2.2).emitBackpatched (.jmpc p.2.2.1 p.2.2.2)
    whilePost (genS g r) p.2.1 p.2.2.1 p.2.2.2 := by
  rw [genS_mk]; rfl

theorem genS_mark : genS gs (.mk NodeT.MARK tok file line l r) =
    let ml := (gs.advanceLine line file).markLabel l.tok
    ml.1.setLabel ml.2 ml.1.markPos := by
  rw [genS_mk]; rfl

theorem genS_goto : genS gs (.mk NodeT.GOTO tok file line l r) =
    let ml := (gs.advanceLine line file).markLabel l.tok
    ml.1.emitBackpatched (.jmp ml.2) := by
  rw [genS_mk]; rfl

theorem genS_if : genS gs (.mk NodeT.IF tok file line l r) =
    let p := ifPre (gs.advanceLine line file)
    ifPost (genV (genV p.1 l.left p.2.2.1) l.right p.2.2.2) p.2.1 p.2.2.1 p.2.2.2 r.left.tok := by
  rw [genS_mk]; rfl

theorem genS_stop : genS gs (.mk NodeT.STOP tok file line l r) = (gs.advanceLine line file).emit .halt := by
  rw [genS_mk]; rfl

theorem genS_other {t : Nat} (h : t ∉ stmtTypes) :
    genS gs (.mk t tok file line l r) = (gs.advanceLine line file).err GErrT.MALFORMED_AST := by
  obtain ⟨h1, h2, h3, h4, h5, h6, h7, h8, h9⟩ := not_mem_stmtTypes.1 h
  rw [genS_mk]; dsimp only
  rw [if_neg h1, if_neg h2, if_neg h3, if_neg h4, if_neg h5, if_neg h6, if_neg h7, if_neg h8, if_neg h9]

end

theorem valuesOf_mk (t : Nat) (tok file : Bytes) (line : Int) (l r : Node) :
    valuesOf (.mk t tok file line l r) =
      if t = NodeT.SPLIT then Values.appendV (valuesOf l) (valuesOf r)
      else .cons (valueOf (.mk t tok file line l r)) .nil := by rw [valuesOf]
theorem valueOf_mk (t : Nat) (tok file : Bytes) (line : Int) (l r : Node) :
    valueOf (.mk t tok file line l r) =
      if t = NodeT.NAME then .var tok
      else if t = NodeT.NUMBER then .num (decVal tok)
      else if t = NodeT.CALL then
        if (l.tok = bINC ∨ l.tok = bDEC) ∧ (valuesOf r).length = 2 ∧ r.left.ty = NodeT.NAME ∧ r.right.left.ty = NodeT.NUMBER then
          (if l.tok = bINC then .inc r.left.tok (decVal r.right.left.tok) else .dec r.left.tok (decVal r.right.left.tok))
        else .call l.tok (valuesOf r)
      else .num 0 := by rw [valueOf]

theorem stmtsOf_nil (k : Nat) (ps : List ProgDef) : stmtsOf .nil k ps = (.nil, k, ps) := by rw [stmtsOf]

theorem stmtsOf_mk (t : Nat) (tok file : Bytes) (line : Int) (l r : Node) (n : Nat) (ps : List ProgDef) :
    stmtsOf (.mk t tok file line l r) n ps =
      if t = NodeT.SPLIT then
        ((stmtsOf l n ps).1.append (stmtsOf r (stmtsOf l n ps).2.1 (stmtsOf l n ps).2.2).1,
         (stmtsOf r (stmtsOf l n ps).2.1 (stmtsOf l n ps).2.2).2.1,
         (stmtsOf r (stmtsOf l n ps).2.1 (stmtsOf l n ps).2.2).2.2)
      else if t = NodeT.PROGRAM then
        (.nil, (stmtsOf r n ps).2.1,
         (stmtsOf r n ps).2.2 ++ [⟨l.left.tok, namesOf l.right.left, outNameOf l.right.right, (stmtsOf r n ps).1⟩])
      else if t = NodeT.ASSIGN then (.cons (.assign l.tok (valueOf r) (file, line)) .nil, n, ps)
      else if t = NodeT.LOOP then
        (.cons (.loop (n + 1) l.tok (stmtsOf r (n + 1) ps).1 (file, line)) .nil,
         (stmtsOf r (n + 1) ps).2.1, (stmtsOf r (n + 1) ps).2.2)
      else if t = NodeT.WHILE then
        (.cons (.while_ l.tok (stmtsOf r n ps).1 (file, line)) .nil, (stmtsOf r n ps).2.1, (stmtsOf r n ps).2.2)
      else if t = NodeT.MARK then (.cons (.mark l.tok (file, line)) .nil, n, ps)
      else if t = NodeT.GOTO then (.cons (.goto l.tok (file, line)) .nil, n, ps)
      else if t = NodeT.IF then
        (.cons (.ifGoto l.left.tok (decVal l.right.tok) r.left.tok (file, line)) .nil, n, ps)
      else if t = NodeT.STOP then (.cons (.stop (file, line)) .nil, n, ps)
      else (.nil, n, ps) := by
  rw [stmtsOf]
  rfl

section
variable (tok file : Bytes) (line : Int) (l r : Node) (n : Nat) (ps : List ProgDef)

theorem stmtsOf_mk_split : stmtsOf (.mk NodeT.SPLIT tok file line l r) n ps =
    ((stmtsOf l n ps).1.append (stmtsOf r (stmtsOf l n ps).2.1 (stmtsOf l n ps).2.2).1,
     (stmtsOf r (stmtsOf l n ps).2.1 (stmtsOf l n ps).2.2).2) := by
  rw [stmtsOf_mk]; rfl

theorem stmtsOf_mk_program : stmtsOf (.mk NodeT.PROGRAM tok file line l r) n ps =
    (.nil, (stmtsOf r n ps).2.1,
     (stmtsOf r n ps).2.2 ++ [⟨l.left.tok, namesOf l.right.left, outNameOf l.right.right, (stmtsOf r n ps).1⟩]) := by
  rw [stmtsOf_mk]; rfl

theorem stmtsOf_mk_assign : stmtsOf (.mk NodeT.ASSIGN tok file line l r) n ps =
    (.cons (.assign l.tok (valueOf r) (file, line)) .nil, n, ps) := by
  rw [stmtsOf_mk]; rfl

theorem stmtsOf_mk_loop : stmtsOf (.mk NodeT.LOOP tok file line l r) n ps =
    (.cons (.loop (n + 1) l.tok (stmtsOf r (n + 1) ps).1 (file, line)) .nil, (stmtsOf r (n + 1) ps).2) := by
  rw [stmtsOf_mk]; rfl

theorem stmtsOf_mk_while : stmtsOf (.mk NodeT.WHILE tok file line l r) n ps =
    (.cons (.while_ l.tok (stmtsOf r n ps).1 (file, line)) .nil, (stmtsOf r n ps).2) := by
  rw [stmtsOf_mk]; rfl

theorem stmtsOf_mk_mark : stmtsOf (.mk NodeT.MARK tok file line l r) n ps =
    (.cons (.mark l.tok (file, line)) .nil, n, ps) := by
  rw [stmtsOf_mk]; rfl

theorem stmtsOf_mk_goto : stmtsOf (.mk NodeT.GOTO tok file line l r) n ps =
    (.cons (.goto l.tok (file, line)) .nil, n, ps) := by
  rw [stmtsOf_mk]; rfl

theorem stmtsOf_mk_if : stmtsOf (.mk NodeT.IF tok file line l r) n ps =
    (.cons (.ifGoto l.left.tok (decVal l.right.tok) r.left.tok (file, line)) .nil, n, ps) := by
  rw [stmtsOf_mk]; rfl

theorem stmtsOf_mk_stop : stmtsOf (.mk NodeT.STOP tok file line l r) n ps =
    (.cons (.stop (file, line)) .nil, n, ps) := by
  rw [stmtsOf_mk]; rfl

end

theorem stmtsOf_mk_def (tok file : Bytes) (line : Int) (tok2 file2 : Bytes) (line2 : Int) (l2 r2 r : Node) (k : Nat)
    (ps : List ProgDef) :
    stmtsOf (.mk NodeT.SPLIT tok file line (.mk NodeT.PROGRAM tok2 file2 line2 l2 r2) r) k ps =
      stmtsOf r (stmtsOf r2 k ps).2.1
        ((stmtsOf r2 k ps).2.2 ++ [⟨l2.left.tok, namesOf l2.right.left, outNameOf l2.right.right, (stmtsOf r2 k ps).1⟩]) := by
  rw [stmtsOf_mk_split, stmtsOf_mk_program]; rfl

end Static
end Theo
