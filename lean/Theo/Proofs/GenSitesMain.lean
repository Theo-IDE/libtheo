/-
  C07 for the generator model: `site_corr`, the induction over the statement tree, and a whole
  routine body: the site walk succeeds from the exact start of the body, and every jump lands
  exactly on the site of its label (`site_body`).
-/
import Theo.Proofs.GenSitesStmt
import Theo.Proofs.GenShapeProg

namespace Theo
namespace GenSites
open GS Sem Static GenShape Layout

theorem stmtLay_nil (s : LSt) : stmtLay .nil s = some s := by rw [stmtLay]

theorem stmtLay_split {tok f : Bytes} {ln : Int} {l r : Node} {s s' : LSt}
    (h : stmtLay (.mk NodeT.SPLIT tok f ln l r) s = some s') :
    splitOK s f ln l = true ∧ ∃ s1, stmtLay l s = some s1 ∧ stmtLay r s1 = some s' := by
  rw [stmtLay, if_pos rfl] at h
  by_cases hs : splitOK s f ln l = true
  · rw [if_pos hs] at h
    refine ⟨hs, ?_⟩
    cases h1 : stmtLay l s with
    | none => rw [h1] at h; cases h
    | some s1 => rw [h1] at h; exact ⟨s1, rfl, h⟩
  · rw [if_neg hs] at h; cases h

theorem stmtLay_stmt {t : Nat} {tok f : Bytes} {ln : Int} {l r : Node} {s s' : LSt} (h1 : t ≠ NodeT.SPLIT)
    (h : stmtLay (.mk t tok f ln l r) s = some s') :
    isStd f = false ∧
    (decide (f = s.file) && decide (ln = s.line) && !(decide (s.kind = LKind.mark) && t != NodeT.MARK)) = false ∧
    (if t = NodeT.ASSIGN then
        (if valLay f ln false r then some (⟨f, ln, .stmt⟩ : LSt) else none)
      else if t = NodeT.LOOP ∨ t = NodeT.WHILE then
        (if valLay f ln false l then
          (match stmtLay r ⟨f, ln, .stmt⟩ with
           | some s1 => some (⟨s1.file, s1.line, .fresh⟩ : LSt)
           | none => none)
         else none)
      else if t = NodeT.IF then
        (if valLay f ln false l.left && valLay f ln false l.right then some (⟨f, ln, .stmt⟩ : LSt) else none)
      else if t = NodeT.MARK then some (⟨f, ln, .mark⟩ : LSt)
      else some (⟨f, ln, .stmt⟩ : LSt)) = some s' := by
  rw [stmtLay, if_neg h1] at h
  by_cases hstd : isStd f = true
  · rw [if_pos hstd] at h; cases h
  · rw [if_neg hstd] at h
    simp only at h
    by_cases hc : (decide (f = s.file) && decide (ln = s.line) && !(decide (s.kind = LKind.mark) && t != NodeT.MARK)) = true
    · rw [if_pos hc] at h; cases h
    · rw [if_neg hc] at h
      exact ⟨by simpa using hstd, by simpa using hc, h⟩

theorem cond_nonmark {f : Bytes} {ln : Int} {s : LSt} {t : Nat} (ht : t ≠ NodeT.MARK)
    (h : (decide (f = s.file) && decide (ln = s.line) && !(decide (s.kind = LKind.mark) && t != NodeT.MARK)) = false) :
    (decide (f = s.file) && decide (ln = s.line) && !decide (s.kind = LKind.mark)) = false := by
  have : (t != NodeT.MARK) = true := by simpa using ht
  rw [this, Bool.and_true] at h
  exact h

theorem cond_mark {f : Bytes} {ln : Int} {s : LSt}
    (h : (decide (f = s.file) && decide (ln = s.line) && !(decide (s.kind = LKind.mark) && NodeT.MARK != NodeT.MARK)) = false) :
    (decide (f = s.file) && decide (ln = s.line)) = false := by
  simpa using h

theorem of_ite_some {α : Type} {c : Prop} [Decidable c] {a : Option α} {b : α} (h : (if c then a else none) = some b) :
    c ∧ a = some b := by
  by_cases hc : c
  · rw [if_pos hc] at h; exact ⟨hc, h⟩
  · rw [if_neg hc] at h; cases h

theorem stmtLay_frame {f : Bytes} {ln : Int} {l r : Node} {s' : LSt}
    (h : (if valLay f ln false l = true then
        (match stmtLay r ⟨f, ln, .stmt⟩ with
         | some s1 => some (⟨s1.file, s1.line, .fresh⟩ : LSt)
         | none => none)
      else none) = some s') :
    valLay f ln false l = true ∧ ∃ s1, stmtLay r ⟨f, ln, .stmt⟩ = some s1 ∧ s' = ⟨s1.file, s1.line, .fresh⟩ := by
  obtain ⟨hv, h⟩ := of_ite_some h
  refine ⟨hv, ?_⟩
  cases hb : stmtLay r ⟨f, ln, .stmt⟩ with
  | none => rw [hb] at h; cases h
  | some s1 => rw [hb] at h; exact ⟨s1, rfl, (Option.some.inj h).symm⟩

/-- clause 6: the position of a sequencing node never matters -/
theorem split_absorb (gs : GS) (s : LSt) (hctx : Ctx gs s) (file : Bytes) (line : Int) (l : Node)
    (h : splitOK s file line l = true) : genS (gs.advanceLine line file) l = genS gs l := by
  unfold splitOK at h
  rw [Bool.or_eq_true] at h
  rcases h with h | h
  · rw [advanceLine_onLine gs line file (by rw [hctx.file, hctx.line]; exact h)]
  · cases l with
    | nil => simp [nodeIsNil] at h
    | mk t' tok' f' ln' l' r' =>
      simp only [Node.file, Node.line, Bool.and_eq_true] at h
      obtain ⟨⟨_, h2⟩, h3⟩ := h
      have h2' := of_decide_eq_true h2
      have h3' := of_decide_eq_true h3
      subst h2'; subst h3'
      exact dispatchVoid_adv gs t' tok' f' ln' l' r'

theorem site_corr {X : RC} (ok : X.OK) : ∀ (gs : GS) (n : Node), stmtShape n = true →
    stmtNames n = true → ∀ (ps : List ProgDef) (body : Stmts),
    stmtsOK X.src X.rt body (stmtsOf n gs.loops ps).1 = true →
    SLinks X (genS gs n) → MarksWF gs → Head gs → TInv (fun _ => True) gs →
    ∀ (s s' : LSt), stmtLay n s = some s' → Ctx gs s →
    SiteCorr X gs (genS gs n) n (stmtsOf n gs.loops ps).1 s s' := by
  intro gs n
  induction n generalizing gs with
  | nil =>
    intro hs hn ps body hv lk w0 hd ht s s' hlay hctx
    rw [genS_nil, stmtsOf_nil]
    rw [stmtLay_nil] at hlay
    cases hlay
    intro w k hex
    exact ⟨[], w, k, [], sitesStmts_nil _ _ _ _, hex, by simp, rfl, by simp, by rw [defsOf]; rfl,
      fun m p h => by simp at h, hctx⟩
  | mk t tok file line l r ihl ihr =>
    intro hs hn ps body hv lk w0 hd ht s s' hlay hctx
    have hs0 := hs
    have hn0 := hn
    rw [stmtShape_mk] at hs
    rw [stmtNames_mk] at hn
    by_cases h1 : t = NodeT.SPLIT
    · subst h1
      obtain ⟨hso, s1, hl1, hl2⟩ := stmtLay_split hlay
      rw [genS_split, split_absorb gs s hctx file line l hso] at lk ⊢
      rw [if_pos rfl, Bool.and_eq_true] at hs hn
      rw [stmtsOf_mk_split] at hv ⊢
      rw [stmtsOK_append, Bool.and_eq_true] at hv
      have sq1 := sq_void gs l hs.1 hn.1
      have st1 := step_void gs l
      have sq2 := sq_void (genS gs l) r hs.2 hn.2
      have st2 := step_void (genS gs l) r
      have hk1 : (stmtsOf l gs.loops ps).2.1 = (genS gs l).loops := by rw [stmtsOf_loops, sq1.loops]
      rw [hk1] at hv ⊢
      have c1 := ihl gs hs.1 hn.1 ps body hv.1 (lk.back_sq sq2 st2) w0 hd ht s s1 hl1 hctx
      intro w k hex
      obtain ⟨l1, w1, k1, t1, o1⟩ := c1 w k hex
      have c2 := ihr (genS gs l) hs.2 hn.2 (stmtsOf l gs.loops ps).2.2 body hv.2 lk (st1.wf w0)
        (hd.mono sq1.gq.code) (tinv_void ht l) s1 s' hl2 o1.ctx
      obtain ⟨l2, w2, k2, t2, o2⟩ := c2 w1 k1 o1.ex
      exact ⟨l1 ++ l2, w2, k2, t1 ++ t2, SiteOut.split tok file line o1 o2 st2 sq2 (st2.wf (st1.wf w0))⟩
    obtain ⟨hstd, hcond, hrest⟩ := stmtLay_stmt h1 hlay
    rw [if_neg h1] at hs hn
    have w0' : MarksWF (gs.advanceLine line file) := (quiet_advanceLine gs line file).wf w0
    have hlo : (gs.advanceLine line file).loops = gs.loops := advanceLine_loops gs line file
    have hd' : Head (gs.advanceLine line file) := hd.advanceLine line file
    have ht' : TInv (fun _ => True) (gs.advanceLine line file) := ht.advanceLine trivial
    intro w k hex
    obtain ⟨mv, hdr⟩ := hdr_of gs s file line t hctx hstd ht w k hex hcond
    rw [← hlo] at hv ⊢
    have hsc := stmt_corr ok (gs.advanceLine line file) (.mk t tok file line l r) hs0 hn0 ps body hv (by rw [dispatchVoid_adv]; exact lk) w0' hd'
    rw [dispatchVoid_adv] at hsc
    by_cases h2 : t = NodeT.PROGRAM
    · subst h2; simp [NodeT.PROGRAM, NodeT.ASSIGN, NodeT.LOOP, NodeT.WHILE, NodeT.IF, NodeT.MARK, NodeT.GOTO, NodeT.STOP] at hs
    by_cases h3 : t = NodeT.ASSIGN
    · subst h3
      rw [if_pos rfl] at hrest
      rw [genS_assign] at lk hsc ⊢
      rw [stmtsOf_mk_assign] at hsc ⊢
      obtain ⟨hvl, hs'⟩ := of_ite_some hrest
      cases hs'
      have nf := nosite_fetchVar (gs.advanceLine line file) l.tok
      exact simple_site hdr hex rfl rfl rfl
        (nf.trans (nosite_value _ r _ (by rw [nf.fsName, nf.fsLine, hdr.fsName, hdr.fsLine]; exact hvl))) hsc lk
    rw [if_neg h3] at hs hn hrest
    by_cases h45 : t = NodeT.LOOP ∨ t = NodeT.WHILE
    · rw [if_pos h45] at hs hn hrest
      simp only [Bool.and_eq_true, Bool.not_eq_true'] at hs hn
      obtain ⟨hvl, s1, hb1, hs'⟩ := stmtLay_frame hrest
      cases hs'
      have vq := fun p c => (vk_value p l c (valNames_name hn.1.1 hs.1 hn.1.2)).vq
      rcases h45 with h4 | h5
      · subst h4
        rw [genS_loop] at lk hsc ⊢
        rw [stmtsOf_mk_loop] at hv hsc ⊢
        have hbody : stmtsOK X.src X.rt body (stmtsOf r ((gs.advanceLine line file).loops + 1) ps).1 = true := by
          simp only [stmtsOK, stmtOK, Bool.and_true] at hv; exact hv
        refine framed_site tok file line l r (loop_frame _ (vq _ _) _) id (.loop _ _ _ _) rfl hs.1 hs.2 hn.1.1
          hn.2 w0' hd' hdr hex hvl ((nosite_inv _).loopPre (.refl _)) ((nosite_inv _).loopMid (.refl _) _)
          ((nosite_inv _).loopPost (.refl _) _ _ _) lk hsc ?_
        intro hm lkb wm hdm hcm
        have := ihr _ hs.2 hn.2 ps body (by rw [hm]; exact hbody) lkb wm hdm
          ((TInv.genInv _).loopMid (tinv_value ((TInv.genInv _).loopPre ht') l _) _) _ _ hb1 hcm
        rwa [hm] at this
      · subst h5
        rw [genS_while] at lk hsc ⊢
        rw [stmtsOf_mk_while] at hv hsc ⊢
        have hbody : stmtsOK X.src X.rt body (stmtsOf r (gs.advanceLine line file).loops ps).1 = true := by
          simp only [stmtsOK, stmtOK, Bool.and_true] at hv; exact hv
        refine framed_site tok file line l r (while_frame _ (vq _ _) _) (fun _ => rfl) (.while_ _ _ _) rfl hs.1 hs.2
          hn.1.1 hn.2 w0' hd' hdr hex hvl ((nosite_inv _).whilePre (.refl _)) (nosite_emitBackpatched _ (by nofun))
          ((nosite_inv _).whilePost (.refl _) _ _ _) lk hsc ?_
        intro hm lkb wm hdm hcm
        have := ihr _ hs.2 hn.2 ps body (by rw [hm]; exact hbody) lkb wm hdm
          ((TInv.genInv _).emitBackpatched (by nofun) (by nofun)
            (tinv_value ((TInv.genInv _).whilePre ht') l _)) _ _ hb1 hcm
        rwa [hm] at this
    rw [if_neg h45] at hs hrest
    by_cases h6 : t = NodeT.MARK
    · subst h6
      rw [if_neg (by decide), if_pos rfl] at hrest
      rw [genS_mark]
      rw [stmtsOf_mk_mark]
      cases hrest
      exact mark_site tok file line l r hdr hex w0'
    by_cases h7 : t = NodeT.GOTO
    · subst h7
      rw [if_neg (by decide), if_neg (by decide)] at hrest
      rw [genS_goto] at lk hsc ⊢
      rw [stmtsOf_mk_goto] at hsc ⊢
      cases hrest
      exact simple_site hdr hex rfl rfl rfl
        ((nosite_markLabel _ _).trans (nosite_emitBackpatched _ (by nofun))) hsc lk
    by_cases h8 : t = NodeT.IF
    · subst h8
      rw [if_pos rfl] at hrest
      rw [genS_if] at lk hsc ⊢
      rw [stmtsOf_mk_if] at hsc ⊢
      obtain ⟨hvl, hs'⟩ := of_ite_some hrest
      cases hs'
      rw [Bool.and_eq_true] at hvl
      have n0 := (nosite_inv _).ifPre (.refl (gs.advanceLine line file))
      have n1 := nosite_value (ifPre (gs.advanceLine line file)).1 l.left (ifPre (gs.advanceLine line file)).2.2.1
        (by rw [n0.fsName, n0.fsLine, hdr.fsName, hdr.fsLine]; exact hvl.1)
      have n2 := nosite_value (genV (ifPre (gs.advanceLine line file)).1 l.left (ifPre (gs.advanceLine line file)).2.2.1)
        l.right (ifPre (gs.advanceLine line file)).2.2.2
        (by rw [n1.fsName, n1.fsLine, n0.fsName, n0.fsLine, hdr.fsName, hdr.fsLine]; exact hvl.2)
      exact simple_site hdr hex rfl rfl rfl (((n0.trans n1).trans n2).trans ((nosite_inv _).ifPost (.refl _) _ _ _ _)) hsc lk
    rw [if_neg h8] at hs hrest
    by_cases h9 : t = NodeT.STOP
    · subst h9
      rw [if_neg (by decide)] at hrest
      rw [genS_stop] at lk hsc ⊢
      rw [stmtsOf_mk_stop] at hsc ⊢
      cases hrest
      exact simple_site hdr hex rfl rfl rfl
        (nosite_emit _ (by nofun)) hsc lk
    · exfalso
      simp [h6, h7, h9] at hs

theorem filter_mark_length (l : List ESite) (m : Name) :
    (l.filter (fun e => decide (e.2.2 = some m))).length = (l.filterMap (·.2.2)).count m := by
  induction l with
  | nil => rfl
  | cons x xs ih =>
    cases hx : x.2.2 with
    | none => simp [hx, ih]
    | some m' =>
      by_cases h : m' = m
      · subst h
        simp [hx, ih]
      · simp [hx, ih, h]

theorem jumpsExact_ok (exp : List ESite) (w : Walk)
    (h : ∀ g ∈ w.gotos, ∃ x, exp.filter (fun e => decide (e.2.2 = some g.2.2)) = [x] ∧ (g.1 : Int) + g.2.1 = (x.1 : Int)) :
    jumpsExact exp w = true := by
  unfold jumpsExact
  rw [List.all_eq_true]
  intro g hg
  obtain ⟨x, hx, he⟩ := h g hg
  have hf : (fun (y : ESite) => y.2.2 == some g.2.2) = (fun e => decide (e.2.2 = some g.2.2)) := by
    funext y; exact Bool.beq_eq_decide_eq _ _
  rw [hf, hx]
  simpa using he

structure BodyOut (X : RC) (g bb : GS) (ss : Stmts) (s' : LSt) (l : List ESite) (w : Walk) (k : Nat) (t : List Instr) : Prop where
  walk : sitesStmts X.e ss ⟨g.code.length, [], []⟩ 0 none = some (l, w, k, prevOf s')
  ex : Ex bb w k
  code : bb.code = g.code ++ t
  pbs : pbPos t g.code.length = l.map (·.1)
  li : bb.lineInfo = g.lineInfo ++ l.map liOf
  ctx : Ctx bb s'
  jumps : jumpsExact l w = true

theorem site_body {X : RC} {g : GS} {r2 : Node} {ps : List ProgDef} (B : BodyCtx X g r2 ps)
    (hs : stmtShape r2 = true) (hn : stmtNames r2 = true) (hlab : labelsOK r2 = true)
    (ht : TInv (fun _ => True) g) (s s' : LSt) (hlay : stmtLay r2 s = some s') (hctx : Ctx g s)
    (hfresh : s.kind = LKind.fresh) :
    ∃ l w k t, BodyOut X g (genS g r2) (stmtsOf r2 g.loops ps).1 s' l w k t := by
  obtain ⟨w0, wb, lk⟩ := B.links hs hn
  have hpos := head_pos B.head
  obtain ⟨w2, cw, sr⟩ := stmt_corr B.ok g r2 hs hn ps _ B.static lk w0 B.head ⟨g.code.length, [], []⟩ (At.exact hpos)
  obtain ⟨l, w, k, t, out⟩ := site_corr B.ok g r2 hs hn ps _ B.static lk w0 B.head ht s s' hlay hctx
    ⟨g.code.length, [], []⟩ 0 (Ex.exact hpos rfl)
  have hprev : prevOf s = none := by unfold prevOf; rw [hfresh]
  have hwalk := out.walk
  rw [hprev] at hwalk
  have hww : w = w2 := by
    have := Sim.sitesStmts_walk hwalk
    rw [cw] at this
    exact (Option.some.inj this).symm
  subst hww
  refine ⟨l, w, k, t, hwalk, out.ex, out.code, out.pbs, out.li, out.ctx, ?_⟩
  obtain ⟨ng, b1, b2, b3⟩ := sr.gotos
  simp only [List.nil_append] at b1
  apply jumpsExact_ok
  intro gt hgt
  rw [b1] at hgt
  have hone := defs_count_one hs hlab B.static (b2 ▸ List.mem_map_of_mem (f := fun x : Nat × Int × Name => x.2.2) hgt)
  have hlen : (l.filter (fun e => decide (e.2.2 = some gt.2.2))).length = 1 := by
    rw [filter_mark_length, out.names, hone]
  obtain ⟨lab, k1, k2⟩ := b3 gt hgt
  obtain ⟨x, hfl⟩ := List.length_eq_one_iff.1 hlen
  refine ⟨x, hfl, ?_⟩
  obtain ⟨lab', c1, c2⟩ := out.last gt.2.2 x.1 (by rw [hfl]; rfl)
  have hll : lab = lab' := by
    have h1 := mlab_of_mem wb k1
    have h2 := mlab_of_mem wb c1
    rw [h1] at h2
    exact Option.some.inj h2
  subst hll
  have hL := B.fin lab _ c2 (by omega)
  rw [← k2, hL]

end GenSites
end Theo
