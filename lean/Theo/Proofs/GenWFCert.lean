/-
  C03 for the generator, checker side: locally well-formed code (`LocalWF`, GenWFLocal.lean)
  passes the certificate checker with the certificate `certOf`, and the callee id that the
  inference computes for a PREPARE (`calleeOf`) is the PREPARE's `idx` operand.
-/
import Theo.Proofs.GenWFLocal
import Theo.Proofs.WFProofs

namespace Theo
namespace GenWF

theorem certOf_length (code : List Instr) (fr rd : Nat → Nat) :
    (certOf code fr rd).length = code.length := by
  unfold certOf
  rw [List.length_map, List.length_range]

theorem certOf_get (code : List Instr) (fr rd : Nat → Nat) {x : Nat} (hx : x < code.length) :
    (certOf code fr rd)[x]? =
      some (if x = 0 then none else some ⟨fr x, rd x, pendOf code x⟩) := by
  unfold certOf
  rw [List.getElem?_map, List.getElem?_range hx]
  rfl

theorem info_zero (code : List Instr) (fr rd : Nat → Nat) :
    (certOf code fr rd).info 0 = none := by
  unfold Cert.info
  rw [if_neg (Int.lt_irrefl 0)]
  show ((certOf code fr rd)[0]?).join = none
  by_cases h : 0 < code.length
  · rw [certOf_get code fr rd h, if_pos rfl]; rfl
  · rw [List.getElem?_eq_none (certOf_length code fr rd ▸ Nat.le_of_not_lt h)]; rfl

theorem info_certOf (code : List Instr) (fr rd : Nat → Nat) {x : Nat} {z : Int}
    (hz : z = (x : Int)) (h1 : 1 ≤ x) (hx : x < code.length) :
    (certOf code fr rd).info z = some ⟨fr x, rd x, pendOf code x⟩ := by
  subst hz
  unfold Cert.info
  rw [if_neg (Int.not_lt.2 (Int.natCast_nonneg x)), Int.toNat_natCast, certOf_get code fr rd hx,
    if_neg (Nat.ne_of_gt h1)]
  rfl

theorem pendOf_notAE {code : List Instr} {x : Nat} {i : Instr} (h : code[x]? = some i)
    (hn : notAE i = true) : pendOf code x = none := by
  unfold pendOf
  rw [h]
  cases i <;> first | rfl | cases hn

theorem pendOf_plain {code : List Instr} {x : Nat} (h : Plain code x) : pendOf code x = none := by
  cases hc : code[x]? with
  | none => unfold pendOf; rw [hc]
  | some i => exact pendOf_notAE hc (h i hc)

theorem pendOf_inside {code : List Instr} {x : Nat} (h : Inside code x) :
    pendOf code x = (prepBefore code x).map (fun y => (y.1.toNat, y.2.toNat)) := by
  obtain ⟨i, hi, hn⟩ := h
  unfold pendOf
  rw [hi]
  cases i <;> first | rfl | cases hn

theorem prepBefore_succ_prepare {code : List Instr} {pc : Nat} {c i t : Int}
    (h : code[pc]? = some (.prepare c i t)) : prepBefore code (pc + 1) = some (c, i) := by
  rw [prepBefore, h]

theorem prepBefore_succ_arg {code : List Instr} {pc : Nat} {t s : Int}
    (h : code[pc]? = some (.arg t s)) : prepBefore code (pc + 1) = prepBefore code pc := by
  rw [prepBefore, h]

section
variable {p : Program} {fr rd : Nat → Nat}

theorem info_next {pc : Nat} (hn : Next p.code fr rd pc) :
    (certOf p.code fr rd).info ((pc : Int) + 1) = some ⟨fr pc, rd pc, pendOf p.code (pc + 1)⟩ := by
  obtain ⟨hl, hf, hr⟩ := hn
  rw [info_certOf p.code fr rd (x := pc + 1) (Int.natCast_add_one pc).symm (Nat.le_add_left 1 pc) hl, hf, hr]

theorem info_next_plain {pc : Nat} (hn : Next p.code fr rd pc)
    (hp : Plain p.code (pc + 1)) :
    (certOf p.code fr rd).info ((pc : Int) + 1) = some ⟨fr pc, rd pc, none⟩ := by
  rw [info_next hn, pendOf_plain hp]

theorem info_jump {pc : Nat} {off : Int} (hj : JumpOK p.code fr rd pc off) :
    (certOf p.code fr rd).info ((pc : Int) + off) = some ⟨fr pc, rd pc, none⟩ := by
  obtain ⟨tgt, he, h1, hl, hf, hr, hp⟩ := hj
  rw [info_certOf p.code fr rd he h1 hl, hf, hr, pendOf_plain hp]

theorem chk_of_localWF {R : Nat} (h : LocalWF p fr rd R) (pc : Nat) (ins : Instr)
    (h1 : 1 ≤ pc) (hins : p.code[pc]? = some ins) :
    WF.Chk p (certOf p.code fr rd) (rd 1) pc ⟨fr pc, rd pc, pendOf p.code pc⟩ ins := by
  have hw := h.pcs pc ins h1 hins
  have hpd : ∀ cnt idx, prepBefore p.code pc = some (cnt, idx) → notAE ins = false →
      pendOf p.code pc = some (cnt.toNat, idx.toNat) := fun cnt idx hpb hn => by
    rw [pendOf_inside ⟨_, hins, hn⟩, hpb]; rfl
  cases ins with
  | brk => exact hw.elim
  | halt => exact .halt
  | potBreak => rw [pendOf_notAE hins rfl]; exact .potBreak rfl (info_next_plain hw.1 hw.2)
  | jmp off => rw [pendOf_notAE hins rfl]; exact .jmp rfl (info_jump hw)
  | ret s => rw [pendOf_notAE hins rfl]; exact .ret rfl hw.1 (h.root.1 ▸ hw.2)
  | add t s k =>
    obtain ⟨ht, hs, hn, hp⟩ := hw
    rw [pendOf_notAE hins rfl]; exact .add rfl ht hs (info_next_plain hn hp)
  | test t a b =>
    obtain ⟨ht, ha, hb, hn, hp⟩ := hw
    rw [pendOf_notAE hins rfl]; exact .test rfl ht ha hb (info_next_plain hn hp)
  | const t k =>
    obtain ⟨ht, hn, hp⟩ := hw
    rw [pendOf_notAE hins rfl]; exact .const rfl ht (info_next_plain hn hp)
  | jmpc off s =>
    obtain ⟨hs, hj, hn, hp⟩ := hw
    rw [pendOf_notAE hins rfl]; exact .jmpc rfl hs (info_jump hj) (info_next_plain hn hp)
  | prepare cnt idx tgt =>
    obtain ⟨hc, _, ht, hm, hlt, hn, hi⟩ := hw
    rw [pendOf_notAE hins rfl]
    exact .prepare rfl hc ht hm hlt
      (by rw [info_next hn, pendOf_inside hi, prepBefore_succ_prepare hins]; rfl)
  | arg t s =>
    obtain ⟨cnt, idx, hpb, ht, hs, hn, hi⟩ := hw
    have hpd' : pendOf p.code (pc + 1) = pendOf p.code pc := by
      rw [hpd cnt idx hpb rfl, pendOf_inside hi, prepBefore_succ_arg hins, hpb]; rfl
    exact .arg (hpd cnt idx hpb rfl) ht hs (by rw [info_next hn, hpd'])
  | exec en =>
    obtain ⟨cnt, idx, hpb, hlt, ⟨e, hen, he1, hel, hef, her, hep, _⟩, hn, hp⟩ := hw
    exact .exec (hpd cnt idx hpb rfl) hlt
      (by rw [info_certOf p.code fr rd hen he1 hel, hef, her, pendOf_plain hep]) (info_next_plain hn hp)

end

theorem certOK_of_localWF {p : Program} {fr rd : Nat → Nat} {R : Nat} (h : LocalWF p fr rd R) :
    WF.CertOK p (certOf p.code fr rd) ⟨fr 1, rd 1, none⟩ := by
  obtain ⟨c0, m0, t0, rest, hcode, hc0, hm0, hf1⟩ := h.head
  have hlen2 : 2 ≤ p.code.length := by
    have hl := h.last
    rw [hcode] at hl ⊢
    cases rest with
    | nil => cases hl
    | cons a r => exact Nat.succ_le_succ (Nat.succ_pos _)
  refine ⟨certOf_length _ _ _, ⟨c0, m0, t0, by rw [hcode]; rfl, hc0, hm0, hf1⟩, info_zero _ _ _,
    (info_certOf p.code fr rd (x := 1) rfl (Nat.le_refl 1) hlen2).trans (by rw [pendOf_plain h.plain1]), rfl,
    h.root.1.trans h.root.2, h.last, fun pc I ins hI hins => ?_, WF.sitesOKb_iff.1 h.sites⟩
  cases pc with
  | zero => rw [show ((0 : Nat) : Int) = 0 from rfl, info_zero] at hI; cases hI
  | succ k =>
    rw [info_certOf p.code fr rd rfl (Nat.le_add_left 1 k) (List.getElem?_eq_some_iff.1 hins).1] at hI
    cases hI
    exact (chk_of_localWF h _ ins (Nat.le_add_left 1 k) hins).to_check

theorem checkCert_of_localWF {p : Program} {fr rd : Nat → Nat} {R : Nat}
    (h : LocalWF p fr rd R) : checkCert p (certOf p.code fr rd) = true :=
  WF.checkCert_iff.2 ⟨_, certOK_of_localWF h⟩

def isArg : Instr → Bool
  | .arg _ _ => true
  | _ => false

theorem calleeOf_eq (code : List Instr) (pc : Nat) :
    calleeOf code pc =
      (match (code.drop (pc + 1)).dropWhile isArg with
       | .exec e :: _ => retsBefore code e
       | _ => 0) := rfl

theorem exec_after_args {p : Program} {fr rd : Nat → Nat} {R : Nat} (h : LocalWF p fr rd R)
    (cnt idx : Int) :
    ∀ (n q : Nat), p.code.length - q = n → 1 ≤ q → Inside p.code q →
      prepBefore p.code q = some (cnt, idx) →
      ∃ en rest, (p.code.drop q).dropWhile isArg = Instr.exec en :: rest ∧
        retsBefore p.code en = idx.toNat := by
  intro n
  induction n with
  | zero =>
    intro q hn _ hi _
    obtain ⟨i, hi, _⟩ := hi
    exact absurd (hn ▸ Nat.sub_pos_of_lt (List.getElem?_eq_some_iff.1 hi).1) (Nat.lt_irrefl 0)
  | succ n ih =>
    intro q hn h1 hi hpb
    obtain ⟨i, hi, hne⟩ := hi
    have hl : q < p.code.length := (List.getElem?_eq_some_iff.1 hi).1
    have hd : p.code.drop q = i :: p.code.drop (q + 1) := by
      rw [List.drop_eq_getElem_cons hl]
      rw [List.getElem?_eq_getElem hl] at hi
      injection hi with hi
      rw [hi]
    have hw := h.pcs q i h1 hi
    cases i with
    | arg t s =>
      obtain ⟨_, _, _, _, _, hn', hi'⟩ := hw
      obtain ⟨en, rest, he, hr⟩ := ih (q + 1) (by rw [Nat.sub_succ, hn]; rfl) (Nat.le_add_left 1 q) hi'
        (by rw [prepBefore_succ_arg hi]; exact hpb)
      refine ⟨en, rest, ?_, hr⟩
      rw [hd, List.dropWhile_cons, if_pos (show isArg (.arg t s) = true from rfl)]
      exact he
    | exec en =>
      obtain ⟨cnt', idx', hpb', _, ⟨e, _, _, _, _, _, _, hr⟩, _, _⟩ := hw
      rw [hpb] at hpb'
      injection hpb' with hpb'
      injection hpb' with _ e2
      subst e2
      refine ⟨en, p.code.drop (q + 1), ?_, hr⟩
      rw [hd, List.dropWhile_cons, if_neg (show ¬ isArg (.exec en) = true from Bool.false_ne_true)]
    | _ => cases hne

/-- in locally well-formed code the routine id that the inference computes for a PREPARE
    (`calleeOf`: `retsBefore` of the operand of the EXEC ending the ARG run) is its `idx` operand -/
theorem calleeOf_of_localWF {p : Program} {fr rd : Nat → Nat} {R : Nat}
    (h : LocalWF p fr rd R) (pc : Nat) (cnt idx tgt : Int) (h1 : 1 ≤ pc)
    (hp : p.code[pc]? = some (Instr.prepare cnt idx tgt)) : calleeOf p.code pc = idx.toNat := by
  obtain ⟨_, _, _, _, _, _, hi⟩ := h.pcs pc _ h1 hp
  obtain ⟨en, rest, he, hr⟩ := exec_after_args h cnt idx _ (pc + 1) rfl (Nat.le_add_left 1 pc) hi (prepBefore_succ_prepare hp)
  rw [calleeOf_eq, he]
  exact hr

def CalOK (p : Program) (c : Cert) : Prop :=
  ∀ (pc : Nat) (cnt idx tgt : Int) (I N : PcInfo) (cf j : Nat),
    p.code[pc]? = some (Instr.prepare cnt idx tgt) → c.info (pc : Int) = some I →
    c.info ((pc : Int) + 1) = some N → N.pend = some (cf, j) → j = calleeOf p.code pc

theorem calOK_of_localWF {p : Program} {fr rd : Nat → Nat} {R : Nat} (h : LocalWF p fr rd R) :
    CalOK p (certOf p.code fr rd) := by
  intro pc cnt idx tgt I N cf j hp hI hN hpend
  have h1 : 1 ≤ pc := by
    cases pc with
    | zero =>
      have := info_zero p.code fr rd
      rw [show ((0 : Nat) : Int) = 0 from rfl] at hI
      rw [this] at hI
      cases hI
    | succ k => exact Nat.le_add_left 1 k
  obtain ⟨_, _, _, _, _, hn, hi⟩ := h.pcs pc _ h1 hp
  rw [info_next hn] at hN
  injection hN with hN
  subst hN
  rw [calleeOf_of_localWF h pc cnt idx tgt h1 hp]
  change pendOf p.code (pc + 1) = some (cf, j) at hpend
  rw [pendOf_inside hi, prepBefore_succ_prepare hp] at hpend
  injection hpend with hpend
  injection hpend with _ e2
  exact e2.symm

end GenWF
end Theo
