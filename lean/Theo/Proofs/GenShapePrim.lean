/-
  C01 for the generator model: the primitives of the generator state, as far as the code they emit
  and the register file are concerned (`GQ`, `VQ`): `advanceLine` as some sites more (`Sites`),
  `fetchVar` and `fetchTemporary` (`FVSpec`, `FTSpec`).
-/
import Theo.Proofs.GenShapeBase
import Theo.Proofs.StaticChar

namespace Theo
namespace GenShape
open GS Sem Static

structure GQ (gs gs' : GS) : Prop where
  code : gs.code <+: gs'.code
  stackMaps : gs'.stackMaps = gs.stackMaps
  funcAddrs : gs'.funcAddrs = gs.funcAddrs
  outer : gs'.symbols.drop 1 = gs.symbols.drop 1
  regs : RegsExt gs.top.regs gs'.top.regs
  tn : TempNamed gs.top.regs → TempNamed gs'.top.regs
  ntn : NTNodup gs.top.regs → NTNodup gs'.top.regs

theorem GQ.refl (gs : GS) : GQ gs gs := ⟨List.prefix_refl _, rfl, rfl, rfl, RegsExt.refl _, id, id⟩
theorem GQ.trans {a b c : GS} (h1 : GQ a b) (h2 : GQ b c) : GQ a c :=
  ⟨h1.code.trans h2.code, h2.stackMaps.trans h1.stackMaps, h2.funcAddrs.trans h1.funcAddrs,
   h2.outer.trans h1.outer, h1.regs.trans h2.regs, fun h => h2.tn (h1.tn h), fun h => h2.ntn (h1.ntn h)⟩

theorem GQ.of_syms {gs gs' : GS} (hc : gs.code <+: gs'.code) (hm : gs'.stackMaps = gs.stackMaps)
    (hf : gs'.funcAddrs = gs.funcAddrs) (hs : gs'.symbols = gs.symbols) : GQ gs gs' := by
  have ht : gs'.top = gs.top := top_congr hs
  exact ⟨hc, hm, hf, by rw [hs], by rw [ht]; exact RegsExt.refl _, by rw [ht]; exact id, by rw [ht]; exact id⟩

theorem GQ.of_regs (gs : GS) (f : FGS) (he : RegsExt gs.top.regs f.regs)
    (ht : TempNamed gs.top.regs → TempNamed f.regs) (hn : NTNodup gs.top.regs → NTNodup f.regs) :
    GQ gs (gs.setTop f) :=
  ⟨List.prefix_refl _, rfl, rfl, rfl, he, ht, hn⟩

structure VQ (P : Bytes → Prop) (gs gs' : GS) : Prop extends GQ gs gs' where
  labels : gs'.labels = gs.labels
  marks : gs'.top.marks = gs.top.marks
  loops : gs'.loops = gs.loops
  fresh : ∀ (i : Nat) (r : VReg), gs'.top.regs[i]? = some r → gs.top.regs.length ≤ i → r.isTemp = false → P r.name

theorem VQ.refl (P : Bytes → Prop) (gs : GS) : VQ P gs gs :=
  ⟨GQ.refl gs, rfl, rfl, rfl, fun i r h hl _ => by
    have := (List.getElem?_eq_some_iff.1 h).1
    omega⟩

theorem VQ.trans {P : Bytes → Prop} {a b c : GS} (h1 : VQ P a b) (h2 : VQ P b c) : VQ P a c := by
  refine ⟨h1.toGQ.trans h2.toGQ, h2.labels.trans h1.labels, h2.marks.trans h1.marks, h2.loops.trans h1.loops, ?_⟩
  intro i r h hl ht
  by_cases hi : i < b.top.regs.length
  · obtain ⟨r', e1, e2, e3⟩ := h2.regs i b.top.regs[i] (List.getElem?_eq_getElem hi)
    rw [h] at e1
    cases e1
    have := h1.fresh i b.top.regs[i] (List.getElem?_eq_getElem hi) hl (by rw [← e3]; exact ht)
    rw [← e2] at this; exact this
  · exact h2.fresh i r h (by omega) ht

theorem VQ.of_syms (P : Bytes → Prop) {gs gs' : GS} (hc : gs.code <+: gs'.code) (hm : gs'.stackMaps = gs.stackMaps)
    (hf : gs'.funcAddrs = gs.funcAddrs) (hs : gs'.symbols = gs.symbols) (hl : gs'.labels = gs.labels)
    (hlo : gs'.loops = gs.loops) : VQ P gs gs' := by
  have ht : gs'.top = gs.top := top_congr hs
  refine ⟨GQ.of_syms hc hm hf hs, hl, by rw [ht], hlo, ?_⟩
  intro i r h hlen _
  rw [ht] at h
  have := (List.getElem?_eq_some_iff.1 h).1
  omega

theorem VQ.ctr {P : Bytes → Prop} {gs gs' : GS} (h : VQ P gs gs')
    (hP : ∀ x, P x → bLoopVar.isPrefixOf x = false) (hc : CtrInv gs.top.regs gs.loops) :
    CtrInv gs'.top.regs gs'.loops := by
  rw [h.loops]
  exact hc.ext h.regs (fun i r h1 h2 h3 => hP _ (h.fresh i r h1 h2 h3))

theorem vq_err (P : Bytes → Prop) (gs : GS) (k : Nat) : VQ P gs (gs.err k) :=
  VQ.of_syms P (List.prefix_refl _) rfl rfl rfl rfl rfl

theorem vq_emit (P : Bytes → Prop) (gs : GS) (i : Instr) : VQ P gs (gs.emit i) :=
  VQ.of_syms P (prefix_append_self _ _) rfl rfl rfl rfl rfl

theorem gq_emitBackpatched (gs : GS) (i : Instr) : GQ gs (gs.emitBackpatched i) :=
  GQ.of_syms (prefix_append_self _ _) rfl rfl rfl

theorem gq_createLabel (gs : GS) : GQ gs gs.createLabel.1 := GQ.of_syms (List.prefix_refl _) rfl rfl rfl
theorem gq_setLabel (gs : GS) (l : Nat) (p : Int) : GQ gs (gs.setLabel l p) := GQ.of_syms (List.prefix_refl _) rfl rfl rfl

theorem top_regs_setTop_marks (gs : GS) (m : List (Bytes × Nat)) :
    (gs.setTop { gs.top with marks := m }).top.regs = gs.top.regs := rfl

theorem gq_markLabel (gs : GS) (m : Bytes) : GQ gs (gs.markLabel m).1 := by
  unfold markLabel
  split
  · exact GQ.refl _
  · exact ⟨List.prefix_refl _, rfl, rfl, rfl, RegsExt.refl _, id, id⟩

theorem markLabel_code (gs : GS) (m : Bytes) : (gs.markLabel m).1.code = gs.code := (markLabel_spec gs m).code
theorem markLabel_regs (gs : GS) (m : Bytes) : (gs.markLabel m).1.top.regs = gs.top.regs := by
  unfold markLabel
  split <;> rfl
theorem markLabel_loops (gs : GS) (m : Bytes) : (gs.markLabel m).1.loops = gs.loops := by
  unfold markLabel
  split <;> rfl

/-- what `advanceLine` does, the position and the line table aside: `k` more sites -/
structure Sites (gs gs' : GS) (k : Nat) : Prop where
  code : gs'.code = gs.code ++ List.replicate k Instr.potBreak
  symbols : gs'.symbols = gs.symbols
  stackMaps : gs'.stackMaps = gs.stackMaps
  funcAddrs : gs'.funcAddrs = gs.funcAddrs
  labels : gs'.labels = gs.labels
  loops : gs'.loops = gs.loops
  todo : gs'.todo = gs.todo

theorem Sites.trans {a b c : GS} {j k : Nat} (h1 : Sites a b j) (h2 : Sites b c k) : Sites a c (j + k) :=
  ⟨by rw [h2.code, h1.code, List.append_assoc, List.replicate_append_replicate], h2.symbols.trans h1.symbols,
   h2.stackMaps.trans h1.stackMaps, h2.funcAddrs.trans h1.funcAddrs, h2.labels.trans h1.labels,
   h2.loops.trans h1.loops, h2.todo.trans h1.todo⟩

theorem advanceLine_sites (gs : GS) (line : Int) (file : Bytes) : ∃ k, k ≤ 1 ∧ Sites gs (gs.advanceLine line file) k := by
  rcases GS.advanceLine_cases gs line file with h | ⟨_, h⟩ <;> rw [h]
  · exact ⟨0, Nat.zero_le _, (List.append_nil _).symm, rfl, rfl, rfl, rfl, rfl, rfl⟩
  · exact ⟨1, Nat.le_refl _, rfl, rfl, rfl, rfl, rfl, rfl, rfl⟩

theorem advanceLine_code (gs : GS) (line : Int) (file : Bytes) :
    ∃ k, (gs.advanceLine line file).code = gs.code ++ List.replicate k Instr.potBreak := by
  obtain ⟨k, _, s⟩ := advanceLine_sites gs line file
  exact ⟨k, s.code⟩

theorem advanceLine_symbols (gs : GS) (line : Int) (file : Bytes) : (gs.advanceLine line file).symbols = gs.symbols := by
  obtain ⟨_, _, s⟩ := advanceLine_sites gs line file
  exact s.symbols

theorem advanceLine_misc (gs : GS) (line : Int) (file : Bytes) :
    (gs.advanceLine line file).stackMaps = gs.stackMaps ∧ (gs.advanceLine line file).funcAddrs = gs.funcAddrs ∧
    (gs.advanceLine line file).labels = gs.labels ∧ (gs.advanceLine line file).loops = gs.loops ∧
    (gs.advanceLine line file).todo = gs.todo := by
  obtain ⟨_, _, s⟩ := advanceLine_sites gs line file
  exact ⟨s.stackMaps, s.funcAddrs, s.labels, s.loops, s.todo⟩

theorem advanceLine_loops (gs : GS) (line : Int) (file : Bytes) : (gs.advanceLine line file).loops = gs.loops :=
  (advanceLine_misc gs line file).2.2.2.1

theorem vq_advanceLine (P : Bytes → Prop) (gs : GS) (line : Int) (file : Bytes) : VQ P gs (gs.advanceLine line file) := by
  obtain ⟨k, _, s⟩ := advanceLine_sites gs line file
  exact VQ.of_syms P (by rw [s.code]; exact prefix_append_self _ _) s.stackMaps s.funcAddrs s.symbols s.labels s.loops

theorem vq_genStrToInt (P : Bytes → Prop) (gs : GS) (tok : Bytes) : VQ P gs (genStrToInt gs tok).1 := by
  unfold genStrToInt
  dsimp only
  split
  · exact vq_err P _ _
  · exact VQ.refl P _

theorem genStrToInt_code (gs : GS) (tok : Bytes) : (genStrToInt gs tok).1.code = gs.code := by
  unfold genStrToInt
  dsimp only
  split <;> rfl

theorem filter_map_modify {l : List VReg} {f : VReg → VReg} (hf : ∀ r, (f r).isTemp = r.isTemp ∧ (f r).name = r.name) :
    ∀ i, ((l.modify i f).filter (fun r => !r.isTemp)).map (·.name) = (l.filter (fun r => !r.isTemp)).map (·.name) := by
  induction l with
  | nil => intro i; simp
  | cons x xs ih =>
    intro i
    cases i with
    | zero =>
      simp only [List.modify_cons, if_true]
      simp only [List.filter_cons, (hf x).1]
      cases x.isTemp <;> simp [(hf x).2]
    | succ i =>
      rw [List.modify_succ_cons]
      simp only [List.filter_cons]
      split
      · simp [ih i]
      · exact ih i

theorem regsExt_modify (l : List VReg) (i : Nat) {f : VReg → VReg}
    (hf : ∀ r, (f r).isTemp = r.isTemp ∧ (f r).name = r.name) : RegsExt l (l.modify i f) := by
  intro j r hj
  rw [List.getElem?_modify, hj]
  by_cases h : i = j
  · exact ⟨f r, by simp [h], (hf r).2, (hf r).1⟩
  · exact ⟨r, by simp [h], rfl, rfl⟩

theorem tempNamed_modify {l : List VReg} (i : Nat) {f : VReg → VReg}
    (hf : ∀ r, (f r).isTemp = r.isTemp ∧ (f r).name = r.name) (h : TempNamed l) : TempNamed (l.modify i f) := by
  intro r hr ht
  obtain ⟨j, hj⟩ := List.mem_iff_getElem?.1 hr
  rw [List.getElem?_modify] at hj
  cases hl : l[j]? with
  | none => rw [hl] at hj; cases hj
  | some r0 =>
    rw [hl] at hj
    have hm : r0 ∈ l := List.mem_iff_getElem?.2 ⟨j, hl⟩
    by_cases hij : i = j
    · simp [hij] at hj
      subst hj
      rw [(hf r0).2]
      exact h r0 hm (by rw [← (hf r0).1]; exact ht)
    · simp [hij] at hj
      subst hj
      exact h r0 hm ht

theorem gq_modify (gs : GS) (i : Nat) (f : VReg → VReg) (hf : ∀ r, (f r).isTemp = r.isTemp ∧ (f r).name = r.name) :
    GQ gs (gs.setTop { gs.top with regs := gs.top.regs.modify i f }) :=
  GQ.of_regs gs _ (regsExt_modify _ _ hf) (tempNamed_modify _ hf)
    (fun h => by unfold NTNodup; rw [filter_map_modify hf]; exact h)

theorem vq_modify (P : Bytes → Prop) (gs : GS) (i : Nat) (f : VReg → VReg)
    (hf : ∀ r, (f r).isTemp = r.isTemp ∧ (f r).name = r.name) :
    VQ P gs (gs.setTop { gs.top with regs := gs.top.regs.modify i f }) := by
  refine ⟨gq_modify gs i f hf, rfl, rfl, rfl, ?_⟩
  intro j r h hl _
  have : j < (gs.top.regs.modify i f).length := (List.getElem?_eq_some_iff.1 h).1
  rw [List.length_modify] at this
  omega

theorem vq_releaseTemporary (P : Bytes → Prop) (gs : GS) (i : Int) : VQ P gs (gs.releaseTemporary i) := by
  unfold releaseTemporary
  exact vq_modify P gs _ _ (fun r => by split <;> exact ⟨rfl, rfl⟩)

theorem ntNodup_append_temp {l : List VReg} (h : NTNodup l) (n : Bytes) (u : Bool) : NTNodup (l ++ [⟨u, true, n⟩]) := by
  unfold NTNodup at *
  simpa [List.filter_append] using h

theorem ntNodup_append_var {l : List VReg} (h : NTNodup l) (n : Bytes) (u : Bool) (hn : n ∉ l.map (·.name)) :
    NTNodup (l ++ [⟨u, false, n⟩]) := by
  unfold NTNodup at *
  simp only [List.filter_append, List.map_append]
  have : List.filter (fun r : VReg => !r.isTemp) [⟨u, false, n⟩] = [⟨u, false, n⟩] := by simp
  rw [this]
  simp only [List.map_cons, List.map_nil]
  rw [List.nodup_append]
  refine ⟨h, by simp, ?_⟩
  intro a ha b hb hab
  simp at hb
  subst hb
  subst hab
  apply hn
  obtain ⟨r, hr, e⟩ := List.mem_map.1 ha
  exact List.mem_map.2 ⟨r, (List.mem_filter.1 hr).1, e⟩

theorem tempNamed_append {l : List VReg} (h : TempNamed l) (r : VReg) (hr : r.isTemp = true → r.name = bTempName) :
    TempNamed (l ++ [r]) := by
  intro x hx ht
  rcases List.mem_append.1 hx with hx | hx
  · exact h x hx ht
  · simp at hx; subst hx; exact hr ht

theorem findReg_some : ∀ (regs : List VReg) (n : Bytes) (k j : Nat), findReg regs n k = some j →
    ∃ (i : Nat) (r : VReg), j = k + i ∧ regs[i]? = some r ∧ r.name = n
  | [], _, _, _, h => by simp [findReg] at h
  | r :: rs, n, k, j, h => by
    unfold findReg at h
    by_cases hr : r.name = n
    · rw [if_pos hr] at h
      cases h
      exact ⟨0, r, rfl, rfl, hr⟩
    · rw [if_neg hr] at h
      obtain ⟨i, r', h1, h2, h3⟩ := findReg_some rs n (k + 1) j h
      exact ⟨i + 1, r', by omega, by simpa using h2, h3⟩

theorem findReg_none {regs : List VReg} {n : Bytes} (h : findReg regs n 0 = none) : n ∉ regs.map (·.name) := by
  intro hin
  have := (findReg_isSome n regs 0).2 hin
  rw [h] at this; cases this

structure FVSpec (P : Bytes → Prop) (gs : GS) (x : Bytes) (gs' : GS) (idx : Int) : Prop where
  vq : VQ P gs gs'
  keep : KeepUse gs.top.regs gs'.top.regs
  code : gs'.code = gs.code
  reg : ∃ (i : Nat) (r : VReg), idx = (i : Int) ∧ gs'.top.regs[i]? = some r ∧ r.name = x

theorem fetchVar_spec (P : Bytes → Prop) (gs : GS) (x : Bytes) (hx : P x) :
    FVSpec P gs x (gs.fetchVar x).1 (gs.fetchVar x).2 := by
  unfold fetchVar
  dsimp only
  cases hf : findReg gs.top.regs x 0 with
  | some j =>
    dsimp only
    obtain ⟨i, r, h1, h2, h3⟩ := findReg_some _ _ _ _ hf
    exact ⟨VQ.refl P _, KeepUse.refl _, rfl, i, r, by simp [h1], h2, h3⟩
  | none =>
    dsimp only
    have hn := findReg_none hf
    refine ⟨⟨GQ.of_regs gs _ (RegsExt.append _ _) (fun h => tempNamed_append h _ (fun h' => by cases h'))
      (fun h => ntNodup_append_var h _ _ hn), rfl, rfl, rfl, ?_⟩, KeepUse.append _ _, rfl, ?_⟩
    · intro i r h hl _
      have h' : (gs.top.regs ++ [(⟨true, false, x⟩ : VReg)])[i]? = some r := h
      have hlt : i < (gs.top.regs ++ [(⟨true, false, x⟩ : VReg)]).length := (List.getElem?_eq_some_iff.1 h').1
      simp at hlt
      have : i = gs.top.regs.length := by omega
      subst this
      rw [getElem?_snoc_len] at h'
      cases h'
      exact hx
    · exact ⟨gs.top.regs.length, ⟨true, false, x⟩, rfl, getElem?_snoc_len _ _, rfl⟩

theorem firstFreeTemp_some : ∀ (regs : List VReg) (k j : Nat), firstFreeTemp regs k = some j →
    ∃ (i : Nat) (r : VReg), j = k + i ∧ regs[i]? = some r ∧ r.isTemp = true ∧ r.inUse = false
  | [], _, _, h => by simp [firstFreeTemp] at h
  | r :: rs, k, j, h => by
    unfold firstFreeTemp at h
    by_cases hr : (r.isTemp && !r.inUse) = true
    · rw [if_pos hr] at h
      cases h
      simp at hr
      exact ⟨0, r, rfl, rfl, hr.1, hr.2⟩
    · rw [if_neg hr] at h
      obtain ⟨i, r', h1, h2, h3⟩ := firstFreeTemp_some rs (k + 1) j h
      exact ⟨i + 1, r', by omega, by simpa using h2, h3⟩

structure FTSpec (P : Bytes → Prop) (gs gs' : GS) (idx : Int) : Prop where
  vq : VQ P gs gs'
  keep : KeepUse gs.top.regs gs'.top.regs
  code : gs'.code = gs.code
  free : FreeAt gs.top.regs idx
  reg : ∃ (i : Nat) (r : VReg), idx = (i : Int) ∧ gs'.top.regs[i]? = some r ∧ r.isTemp = true ∧ r.inUse = true

theorem fetchTemporary_spec (P : Bytes → Prop) (gs : GS) : FTSpec P gs gs.fetchTemporary.1 gs.fetchTemporary.2 := by
  unfold fetchTemporary
  dsimp only
  cases hf : firstFreeTemp gs.top.regs 0 with
  | some j =>
    dsimp only
    obtain ⟨i, r, h1, h2, h3, h4⟩ := firstFreeTemp_some _ _ _ hf
    have hj : j = i := by omega
    subst hj
    refine ⟨vq_modify P gs j _ (fun r => ⟨rfl, rfl⟩), ?_, rfl, ⟨j, rfl, ?_⟩, j, { r with inUse := true }, rfl, ?_, h3, rfl⟩
    · intro k r' hk hu
      show (gs.top.regs.modify j _)[k]? = some r'
      rw [List.getElem?_modify, hk]
      by_cases hjk : j = k
      · subst hjk
        rw [h2] at hk
        cases hk
        rw [h4] at hu; cases hu
      · simp [hjk]
    · intro r' hr'
      rw [h2] at hr'
      cases hr'
      exact h4
    · show (gs.top.regs.modify j _)[j]? = _
      rw [List.getElem?_modify, h2]
      simp
  | none =>
    dsimp only
    refine ⟨⟨GQ.of_regs gs _ (RegsExt.append _ _) (fun h => tempNamed_append h _ (fun _ => rfl))
      (fun h => ntNodup_append_temp h _ _), rfl, rfl, rfl, ?_⟩, KeepUse.append _ _, rfl,
      ⟨gs.top.regs.length, rfl, ?_⟩, gs.top.regs.length, ⟨true, true, bTempName⟩, rfl, getElem?_snoc_len _ _, rfl, rfl⟩
    · intro i r h hl ht
      have h' : (gs.top.regs ++ [(⟨true, true, bTempName⟩ : VReg)])[i]? = some r := h
      have hlt : i < (gs.top.regs ++ [(⟨true, true, bTempName⟩ : VReg)]).length := (List.getElem?_eq_some_iff.1 h').1
      simp at hlt
      have : i = gs.top.regs.length := by omega
      subst this
      rw [getElem?_snoc_len] at h'
      cases h'
      cases ht
    · intro r hr
      rw [List.getElem?_eq_none (Nat.le_refl _)] at hr
      cases hr

end GenShape
end Theo
