/-
  C01 for the generator model: every jump the generator emits is on the backpatch list (`JT`), for
  every tree; hence `backpatch` is a map over the code (`patch` with the final label table at
  every position: `backpatch_code`, from `Static.backpatch_eq`).
-/
import Theo.Proofs.GenShapePrim
import Theo.Proofs.StaticTop

namespace Theo
namespace GenShape
open GS Sem Static

def JT (gs : GS) : Prop := ∀ (p : Nat) (i : Instr), gs.code[p]? = some i → isJmp i = true → p ∈ gs.todo

theorem JT.same {gs gs' : GS} (h : JT gs) (hc : gs'.code = gs.code) (ht : gs'.todo = gs.todo) : JT gs' := by
  intro p i hp hj
  rw [ht]; rw [hc] at hp
  exact h p i hp hj

theorem JT.append {gs gs' : GS} (h : JT gs) {xs : List Instr} (hc : gs'.code = gs.code ++ xs)
    (ht : gs'.todo = gs.todo ∧ (∀ i ∈ xs, isJmp i = false) ∨ gs'.todo = gs.todo ++ [gs.code.length] ∧ xs.length = 1) :
    JT gs' := by
  intro p i hp hj
  rw [hc] at hp
  by_cases hl : p < gs.code.length
  · rw [List.getElem?_append_left hl] at hp
    rcases ht with ⟨ht, _⟩ | ⟨ht, _⟩ <;> rw [ht]
    · exact h p i hp hj
    · exact List.mem_append_left _ (h p i hp hj)
  · rw [List.getElem?_append_right (by omega)] at hp
    rcases ht with ⟨_, hx⟩ | ⟨ht, h1⟩
    · rw [hx i (List.mem_of_getElem? hp)] at hj; cases hj
    · have := (List.getElem?_eq_some_iff.1 hp).1
      rw [ht, show p = gs.code.length by omega]
      exact List.mem_append_right _ (List.mem_singleton.2 rfl)

theorem JT.emit {gs : GS} (h : JT gs) (i : Instr) (hi : isJmp i = false) : JT (gs.emit i) :=
  h.append (xs := [i]) rfl (Or.inl ⟨rfl, fun _ hx => List.mem_singleton.1 hx ▸ hi⟩)

theorem JT.emitBackpatched {gs : GS} (h : JT gs) (i : Instr) : JT (gs.emitBackpatched i) :=
  h.append (xs := [i]) rfl (Or.inr ⟨emitBackpatched_todo gs i, rfl⟩)

theorem JT.breakpoint {gs : GS} (h : JT gs) : JT gs.breakpoint :=
  h.append (xs := [.potBreak]) rfl (Or.inl ⟨rfl, fun _ hx => List.mem_singleton.1 hx ▸ rfl⟩)

theorem JT.advanceLine {gs : GS} (h : JT gs) (line : Int) (file : Bytes) : JT (gs.advanceLine line file) := by
  obtain ⟨k, _, s⟩ := advanceLine_sites gs line file
  exact h.append s.code (Or.inl ⟨s.todo, fun _ hx => (List.eq_of_mem_replicate hx) ▸ rfl⟩)

theorem JT.removeTopPotBreak {gs : GS} (h : JT gs) : JT gs.removeTopPotBreak := by
  have key : ∀ g : GS, g.code = gs.code.dropLast → g.todo = gs.todo → JT g := by
    intro g hc ht p i hp hj
    rw [ht]
    rw [hc, List.getElem?_dropLast] at hp
    split at hp
    · exact h p i hp hj
    · cases hp
  unfold GS.removeTopPotBreak
  split
  · dsimp only
    split
    · exact key _ rfl rfl
    · exact key _ rfl rfl
  · exact h

theorem JT.release {gs : GS} (h : JT gs) (i : Int) : JT (gs.releaseTemporary i) := h.same rfl rfl
theorem JT.popSymbols {gs : GS} (h : JT gs) (a : Int) : JT (gs.popSymbols a) :=
  h.same (popSymbols_spec gs a).code (popSymbols_spec gs a).todo

theorem isJmp_of_straight {i : Instr} (h : i.straight = true) : isJmp i = false := by
  cases i <;> first | rfl | cases h

theorem JT.genInv : GenInv (fun _ _ => True) JT where
  aux _ _ _ _ _ h := h.same rfl rfl
  err _ h := h.same rfl rfl
  emit hi h := h.emit _ (isJmp_of_straight hi)
  emitBackpatched _ _ h := h.emitBackpatched _
  advanceLine _ h := h.advanceLine _ _
  removeTopPotBreak h := h.removeTopPotBreak

theorem nodeP_true : ∀ n : Node, Loc.NodeP (fun _ _ => True) n
  | .nil => trivial
  | .mk _ _ _ _ a b => ⟨trivial, nodeP_true a, nodeP_true b⟩

theorem jt_void : ∀ (f : Nat) (gs : GS) (n : Node), JT gs → JT (dispatchVoid f gs n) :=
  fun f gs n h => JT.genInv.dispatchVoid f gs n (nodeP_true n) h

theorem backpatch_code (g : GS) (ht : TodoOK g) (hj : JT g) :
    (backpatch g).labels = g.labels ∧ (backpatch g).stackMaps = g.stackMaps ∧
    (backpatch g).code.length = g.code.length ∧
    ∀ p i, g.code[p]? = some i → (backpatch g).code[p]? = some (patch g.labels p i) := by
  obtain ⟨c, es, h, hc, hp, _⟩ := backpatch_eq g ht
  rw [h]
  refine ⟨rfl, rfl, hc, fun p i hi => ?_⟩
  show c[p]? = _
  rw [hp p, hi]
  by_cases hm : p ∈ g.todo
  · rw [if_pos hm]; rfl
  -- an instruction that is not on the list is no jump
  · rw [if_neg hm, patch_of_not_jmp _ _ (Bool.eq_false_iff.2 fun hji => hm (hj p i hi hji))]

end GenShape
end Theo
