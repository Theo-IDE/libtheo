/-
  C04 (static rules): what every dispatch preserves, for arbitrary trees (`Step`): errors only
  grow, labels are only added, the enclosing functions are untouched, the backpatch list stays valid
  (`TodoOK`), every label stays accounted for (`LabAcc`), the marks of the current function stay
  well-formed and only grow.
-/
import Theo.Proofs.StaticKind
import Theo.Proofs.StaticGS

namespace Theo
namespace Static
open GS

/-- `ext`, `new`: the marks of the current function only grow, and an added one has a label that
    `gs` had not created.  `todoOK` needs `MarksWF gs` (`Quiet.todoOK` does not): a jump statement
    puts a jump to a mark's label on the list, and that the label exists is `MarksWF.lt`. -/
structure Step (gs gs' : GS) : Prop where
  errs : gs'.errors = [] → gs.errors = []
  lablen : gs.labels.length ≤ gs'.labels.length
  name : gs'.top.name = gs.top.name
  argnum : gs'.top.argnum = gs.top.argnum
  outer : gs'.symbols.drop 1 = gs.symbols.drop 1
  todoOK : MarksWF gs → TodoOK gs → TodoOK gs'
  acc : ∀ P : Nat → Prop, LabAcc P gs → LabAcc P gs'
  wf : MarksWF gs → MarksWF gs'
  ext : ∀ e ∈ gs.top.marks, e ∈ gs'.top.marks
  new : ∀ e ∈ gs'.top.marks, e ∈ gs.top.marks ∨ gs.labels.length ≤ e.2

theorem Step.refl (gs : GS) : Step gs gs :=
  ⟨id, Nat.le_refl _, rfl, rfl, rfl, fun _ h => h, fun _ h => h, id, fun _ h => h, fun _ h => Or.inl h⟩

theorem Step.trans {a b c : GS} (h1 : Step a b) (h2 : Step b c) : Step a c where
  errs h := h1.errs (h2.errs h)
  lablen := Nat.le_trans h1.lablen h2.lablen
  name := h2.name.trans h1.name
  argnum := h2.argnum.trans h1.argnum
  outer := h2.outer.trans h1.outer
  todoOK w h := h2.todoOK (h1.wf w) (h1.todoOK w h)
  acc P h := h2.acc P (h1.acc P h)
  wf h := h2.wf (h1.wf h)
  ext e h := h2.ext e (h1.ext e h)
  new e h := by
    rcases h2.new e h with h | h
    · exact h1.new e h
    · exact Or.inr (Nat.le_trans h1.lablen h)

theorem Quiet.step {gs gs' : GS} (q : Quiet gs gs') : Step gs gs' where
  errs := q.errs
  lablen := by rw [q.labels]; exact Nat.le_refl _
  name := q.name
  argnum := q.argnum
  outer := q.outer
  todoOK _ := q.todoOK
  acc _ h := q.acc h
  wf := q.wf
  ext e h := by rw [q.marks]; exact h
  new e h := by rw [q.marks] at h; exact Or.inl h

theorem MLSpec.step {gs gs' : GS} {m : Bytes} {l : Nat} (s : MLSpec gs m gs' l) : Step gs gs' where
  errs h := by rw [← s.errors]; exact h
  lablen := s.lablen
  name := s.name
  argnum := s.argnum
  outer := s.outer
  todoOK _ := s.todoOK
  acc := s.acc
  wf := s.wf
  ext := s.ext
  new := s.new

theorem setLabel_step (gs : GS) (l : Nat) (p : Int) (hp : p ≠ -1) : Step gs (gs.setLabel l p) where
  errs := id
  lablen := by simp
  name := rfl
  argnum := rfl
  outer := rfl
  todoOK _ := setLabel_todoOK gs l p
  acc _ h := setLabel_acc gs l p hp h
  wf := setLabel_wf gs l p
  ext _ h := h
  new _ h := Or.inl h

theorem step_emitBackpatched (gs : GS) (i : Instr)
    (hv : MarksWF gs → ∃ lab : Nat, lab < gs.labels.length ∧ (i = Instr.jmp (lab : Int) ∨ ∃ s, i = Instr.jmpc (lab : Int) s)) :
    Step gs (gs.emitBackpatched i) where
  errs := id
  lablen := Nat.le_refl _
  name := rfl
  argnum := rfl
  outer := rfl
  todoOK w h := by
    obtain ⟨lab, h1, h2⟩ := hv w
    exact (quiet_emitBackpatched gs i lab h1 h2).todoOK h
  acc _ h := h.congr id rfl rfl
  wf w := MarksWF.congr (gs := gs) (Nat.le_refl _) rfl w
  ext _ h := h
  new _ h := Or.inl h

theorem quiet_genStrToInt (gs : GS) (tok : Bytes) : Quiet gs (genStrToInt gs tok).1 := quiet_errIf _ _ _

theorem genStrToInt_errors (gs : GS) (tok : Bytes) :
    (genStrToInt gs tok).1.errors = [] ↔ gs.errors = [] ∧ genRangeBad (strtolNat tok) = false :=
  (errIf_errors _ _ _).trans (and_congr_right fun _ => Bool.not_eq_true _ ▸ Iff.rfl)

theorem quiet_argFold (l : List (Int × Nat)) (gs : GS) :
    Quiet gs (l.foldl (fun g a => (g.emit (.arg a.2 a.1)).releaseTemporary a.1) gs) ∧
    (l.foldl (fun g a => (g.emit (.arg a.2 a.1)).releaseTemporary a.1) gs).errors = gs.errors :=
  foldl_preserves (I := fun g => Quiet gs g ∧ g.errors = gs.errors) _
    (fun _ _ h => ⟨h.1.trans ((quiet_emit _ _).trans (quiet_releaseTemporary _ _)), h.2⟩) l gs ⟨Quiet.refl _, rfl⟩

/-- the built-in test of gen.cpp, on the number of evaluated arguments -/
def builtinP (l r : Node) (n : Nat) : Prop :=
  (l.tok = bINC ∨ l.tok = bDEC) ∧ (n = 2 ∧ r.left.ty = NodeT.NAME ∧ r.right.left.ty = NodeT.NUMBER)

theorem callTail_spec (gs : GS) (al : List Int) (l r : Node) (tgt : Int) :
    Quiet gs (callTail gs al l r tgt) ∧
    ((callTail gs al l r tgt).errors = [] ↔
      gs.errors = [] ∧ (builtinP l r al.length ∨ look gs l.tok = some al.length)) := by
  unfold callTail look
  dsimp only
  split
  · rename_i hb
    split <;> exact ⟨quiet_emit _ _, (and_iff_left (Or.inl hb)).symm⟩
  · rename_i hb
    split
    · rename_i hl
      rw [hl]
      exact ⟨quiet_err _ _, err_errors_iff _ _ fun h => h.elim hb (fun h => nomatch h)⟩
    · rename_i p hl
      rw [hl]
      split
      · rename_i hne
        exact ⟨quiet_err _ _, err_errors_iff _ _ fun h => h.elim hb (fun h => hne (Option.some.inj h))⟩
      · rename_i hne
        obtain ⟨q, he⟩ := quiet_argFold al.zipIdx (gs.emit (.prepare p.stackSize p.mi tgt))
        refine ⟨(quiet_emit _ _).trans (q.trans (quiet_emit _ _)), ?_⟩
        rw [emit_errors, he, emit_errors]
        exact (and_iff_left (Or.inr (congrArg some (Decidable.not_not.1 hne)))).symm

theorem quiet_values : ∀ n : Node,
    (∀ gs tgt, Quiet gs (genV gs n tgt)) ∧ (∀ gs acc, Quiet gs (genCA gs n acc).1)
  | .nil => ⟨fun gs tgt => by rw [genV_nil]; exact Quiet.refl _, fun gs acc => by rw [genCA_nil]; exact Quiet.refl _⟩
  | .mk t tok file line l r => by
    have ihl := (quiet_values l).2
    have ihr := (quiet_values r).2
    have hv : ∀ gs tgt, Quiet gs (genV gs (.mk t tok file line l r) tgt) := by
      intro gs tgt
      rw [genV_mk]
      refine (quiet_advanceLine gs line file).trans ?_
      by_cases h1 : t = NodeT.NAME
      · rw [if_pos h1]; exact (quiet_fetchVar _ _).trans (quiet_emit _ _)
      by_cases h2 : t = NodeT.NUMBER
      · rw [if_neg h1, if_pos h2]; exact (quiet_genStrToInt _ _).trans (quiet_emit _ _)
      by_cases h3 : t = NodeT.CALL
      · rw [if_neg h1, if_neg h2, if_pos h3]; exact (ihr _ _).trans (callTail_spec _ _ _ _ _).1
      · rw [if_neg h1, if_neg h2, if_neg h3]; exact quiet_err _ _
    refine ⟨hv, fun gs acc => ?_⟩
    rw [genCA_mk]
    split
    · exact (ihl _ _).trans (ihr _ _)
    · exact (quiet_fetchTemporary _).trans (hv _ _)

theorem quiet_value (gs : GS) (n : Node) (tgt : Int) : Quiet gs (genV gs n tgt) := (quiet_values n).1 gs tgt

/-- what `dispatchArgs` leaves alone (it changes registers, the parameter count and errors) -/
structure ArgsQuiet (gs gs' : GS) : Prop where
  errs : gs'.errors = [] → gs.errors = []
  funcAddrs : gs'.funcAddrs = gs.funcAddrs
  labels : gs'.labels = gs.labels
  marks : gs'.top.marks = gs.top.marks
  name : gs'.top.name = gs.top.name
  outer : gs'.symbols.drop 1 = gs.symbols.drop 1
  todoOK : TodoOK gs → TodoOK gs'

theorem ArgsQuiet.refl (gs : GS) : ArgsQuiet gs gs := ⟨id, rfl, rfl, rfl, rfl, rfl, id⟩
theorem ArgsQuiet.trans {a b c : GS} (h1 : ArgsQuiet a b) (h2 : ArgsQuiet b c) : ArgsQuiet a c :=
  ⟨fun h => h1.errs (h2.errs h), h2.funcAddrs.trans h1.funcAddrs, h2.labels.trans h1.labels,
   h2.marks.trans h1.marks, h2.name.trans h1.name, h2.outer.trans h1.outer, fun h => h2.todoOK (h1.todoOK h)⟩
theorem Quiet.argsQuiet {gs gs' : GS} (q : Quiet gs gs') : ArgsQuiet gs gs' :=
  ⟨q.errs, q.funcAddrs, q.labels, q.marks, q.name, q.outer, q.todoOK⟩

theorem argsQuiet_bump (gs : GS) : ArgsQuiet gs (bumpArg gs) :=
  ⟨id, rfl, rfl, rfl, rfl, rfl, TodoOK.safe rfl (Nat.le_refl _) (CodeSafe.refl _)⟩

theorem argsQuiet_step (gs : GS) (x : Bytes) : ArgsQuiet gs (argStep gs x) :=
  (quiet_errIf _ _ _).argsQuiet.trans ((argsQuiet_bump _).trans (quiet_fetchVar _ _).argsQuiet)

theorem argsQuiet_args (gs : GS) (n : Node) : ArgsQuiet gs (genArgs gs n) := by
  rw [genArgs_fold]
  exact foldl_preserves (I := ArgsQuiet gs) _ (fun g x h => h.trans (argsQuiet_step g x)) _ _ (ArgsQuiet.refl gs)

theorem quiet_loopPre (gs0 : GS) : Quiet gs0 (loopPre gs0).1 :=
  (quiet_code gs0 (CodeSafe.refl _) _ _ (gs0.loops + 1) _ _).trans (quiet_fetchVar _ _)

@[simp] theorem loopPre_errors (gs0 : GS) : (loopPre gs0).1.errors = gs0.errors := fetchVar_errors _ _

/-- opening a loop (`loopMid` for LOOP, `whilePre` for WHILE): two labels are created, `startL`
    and `endL`; only `startL` gets its position -/
structure LoopMidSpec (gs : GS) (g : GS) (startL endL : Nat) : Prop where
  startL : startL = gs.labels.length
  endL : endL = gs.labels.length + 1
  errors : g.errors = gs.errors
  funcAddrs : g.funcAddrs = gs.funcAddrs
  lablen : g.labels.length = gs.labels.length + 2
  marks : g.top.marks = gs.top.marks
  name : g.top.name = gs.top.name
  argnum : g.top.argnum = gs.top.argnum
  outer : g.symbols.drop 1 = gs.symbols.drop 1
  todoOK : TodoOK gs → TodoOK g
  isSet : ∀ x, isSet g x ↔ x = gs.labels.length ∨ isSet gs x

theorem LoopMidSpec.open {gs a : GS} (q : Quiet gs.createLabel.1.createLabel.1 a) (e : a.errors = gs.errors)
    {p : Int} (hp : p ≠ -1) :
    LoopMidSpec gs (a.setLabel gs.createLabel.2 p) gs.createLabel.2 gs.createLabel.1.createLabel.2 where
  startL := rfl
  endL := by simp
  errors := e
  funcAddrs := q.funcAddrs
  lablen := by rw [setLabel_lablen, q.labels]; simp
  marks := q.marks
  name := q.name
  argnum := q.argnum
  outer := q.outer
  todoOK h := setLabel_todoOK _ _ _ (q.todoOK (createLabel_todoOK _ (createLabel_todoOK _ h)))
  isSet x := by
    rw [setLabel_isSet _ _ _ hp, isSet_congr q.labels, q.labels, createLabel_isSet, createLabel_isSet]
    simp

theorem LoopMidSpec.quiet {gs m g : GS} {s e : Nat} (sm : LoopMidSpec gs m s e) (q : Quiet m g)
    (he : g.errors = m.errors) : LoopMidSpec gs g s e :=
  ⟨sm.startL, sm.endL, he.trans sm.errors, q.funcAddrs.trans sm.funcAddrs, by rw [q.labels, sm.lablen],
   q.marks.trans sm.marks, q.name.trans sm.name, q.argnum.trans sm.argnum, q.outer.trans sm.outer,
   fun h => q.todoOK (sm.todoOK h), fun x => by rw [isSet_congr q.labels, sm.isSet]⟩

theorem loopMid_spec (gs : GS) (counter : Int) :
    LoopMidSpec gs (loopMid gs counter).1 (loopMid gs counter).2.1 (loopMid gs counter).2.2 :=
  (LoopMidSpec.open (gs := gs) (Quiet.refl _) rfl (nextPos_ne _)).quiet
    (quiet_jmpc _ counter (by simp)) rfl

theorem whilePre_spec (gs : GS) :
    LoopMidSpec gs (whilePre gs).1 (whilePre gs).2.1 (whilePre gs).2.2.1 :=
  LoopMidSpec.open (gs := gs) (quiet_fetchTemporary _) (fetchTemporary_errors _) (nextPos_ne _)

theorem LoopMidSpec.endL_lt {gs m g : GS} {s e : Nat} (sm : LoopMidSpec gs m s e) (q : Quiet m g) :
    e < g.labels.length := by
  rw [q.labels, sm.lablen, sm.endL]; omega

theorem LoopMidSpec.mstate {gs g : GS} {a b : Nat} (s : LoopMidSpec gs g a b) (w : MarksWF gs) (m : Bytes) :
    mstate g m = mstate gs m :=
  mstate_eq_of_isSet s.marks s.isSet (fun e he => Nat.ne_of_lt (w.lt e he)) m

theorem LoopMidSpec.wf {gs g : GS} {a b : Nat} (s : LoopMidSpec gs g a b) (w : MarksWF gs) : MarksWF g :=
  w.congr (by rw [s.lablen]; omega) s.marks

theorem LoopMidSpec.acc {gs g : GS} {a b : Nat} (s : LoopMidSpec gs g a b) {P : Nat → Prop}
    (h : LabAcc P gs) : LabAcc (fun l => P l ∨ l = b) g := by
  intro h0 l hlt
  rw [s.errors] at h0
  rw [s.lablen] at hlt
  by_cases h1 : l < gs.labels.length
  · rcases h h0 l h1 with h2 | h2 | h2
    · exact Or.inl ((s.isSet l).2 (Or.inr h2))
    · exact Or.inr (Or.inl (Or.inl h2))
    · exact Or.inr (Or.inr (s.marks ▸ h2))
  · by_cases h2 : l = gs.labels.length
    · exact Or.inl ((s.isSet l).2 (Or.inl h2))
    · exact Or.inr (Or.inl (Or.inr (by rw [s.endL]; omega)))

/-- closing a loop (`loopPost`, `whilePost`): the end label gets its position -/
structure ClosesSpec (gs g : GS) (endL : Nat) : Prop where
  errors : g.errors = gs.errors
  funcAddrs : g.funcAddrs = gs.funcAddrs
  lablen : g.labels.length = gs.labels.length
  marks : g.top.marks = gs.top.marks
  name : g.top.name = gs.top.name
  argnum : g.top.argnum = gs.top.argnum
  outer : g.symbols.drop 1 = gs.symbols.drop 1
  isSet : ∀ x, isSet g x ↔ (x = endL ∧ endL < gs.labels.length) ∨ isSet gs x

theorem ClosesSpec.close {gs a g : GS} {endL : Nat} {p : Int} (q1 : Quiet gs a) (e1 : a.errors = gs.errors)
    (hp : p ≠ -1) (q2 : Quiet (a.setLabel endL p) g) (e2 : g.errors = a.errors) :
    ClosesSpec gs g endL ∧ (TodoOK gs → TodoOK g) :=
  ⟨⟨e2.trans e1, q2.funcAddrs.trans q1.funcAddrs, by rw [q2.labels, setLabel_lablen, q1.labels],
    q2.marks.trans q1.marks, q2.name.trans q1.name, q2.argnum.trans q1.argnum, q2.outer.trans q1.outer,
    fun x => by rw [isSet_congr q2.labels, setLabel_isSet _ _ _ hp, isSet_congr q1.labels, q1.labels]⟩,
   fun h => q2.todoOK (setLabel_todoOK _ _ _ (q1.todoOK h))⟩

theorem ClosesSpec.acc {gs g : GS} {e : Nat} (s : ClosesSpec gs g e) {P : Nat → Prop}
    (h : LabAcc (fun l => P l ∨ l = e) gs) : LabAcc P g :=
  LabAcc.set s.errors s.lablen s.marks s.isSet h

theorem ClosesSpec.wf {gs g : GS} {e : Nat} (s : ClosesSpec gs g e) (w : MarksWF gs) : MarksWF g :=
  w.congr (by rw [s.lablen]; exact Nat.le_refl _) s.marks

theorem ClosesSpec.mstate {gs g : GS} {e : Nat} (s : ClosesSpec gs g e)
    (hn : ∀ x ∈ gs.top.marks, x.2 ≠ e) (m : Bytes) : mstate g m = mstate gs m :=
  mstate_eq_of_isSet s.marks s.isSet (fun x hx h => hn x hx h.1) m

theorem loopPost_spec (gs : GS) (counter : Int) (startL endL : Nat) (hs : startL < gs.labels.length) :
    ClosesSpec gs (loopPost gs counter startL endL) endL ∧ (TodoOK gs → TodoOK (loopPost gs counter startL endL)) :=
  ClosesSpec.close ((quiet_emit gs _).trans (quiet_jmp _ hs)) rfl
    (nextPos_ne _) (Quiet.refl _) rfl

theorem whilePost_spec (gs : GS) (startL endL : Nat) (cond : Int) (hs : startL < gs.labels.length) :
    ClosesSpec gs (whilePost gs startL endL cond) endL ∧ (TodoOK gs → TodoOK (whilePost gs startL endL cond)) :=
  ClosesSpec.close (quiet_jmp gs hs) rfl (nextPos_ne _)
    (quiet_releaseTemporary _ _) rfl

theorem quiet_ifPre (gs : GS) : Quiet gs (ifPre gs).1 :=
  (quiet_fetchTemporary _).trans ((quiet_fetchTemporary _).trans (quiet_fetchTemporary _))
@[simp] theorem ifPre_errors (gs : GS) : (ifPre gs).1.errors = gs.errors := by
  unfold ifPre; dsimp only; simp

/-- a jump statement to mark `m` (GOTO, and the tail of IF) -/
structure JumpSpec (gs : GS) (m : Bytes) (g : GS) : Prop where
  step : Step gs g
  errors : g.errors = gs.errors
  funcAddrs : g.funcAddrs = gs.funcAddrs
  mstate : MarksWF gs → ∀ m', mstate g m' = if m' = m then some ((mstate gs m).getD false) else mstate gs m'

/-- the jump itself: the label of the mark is looked up or created, the jump is left to backpatching -/
theorem jump_spec (gs : GS) (m : Bytes) (i : Instr)
    (hi : i = .jmp (gs.markLabel m).2 ∨ ∃ s, i = .jmpc (gs.markLabel m).2 s) :
    JumpSpec gs m ((gs.markLabel m).1.emitBackpatched i) :=
  have s := markLabel_spec gs m
  ⟨s.step.trans (step_emitBackpatched _ _ (fun w => ⟨_, w.lt _ s.mem, hi⟩)), s.errors, s.funcAddrs, s.mstate⟩

theorem JumpSpec.quiet {gs a b g : GS} {m : Bytes} (q1 : Quiet gs a) (e1 : a.errors = gs.errors)
    (j : JumpSpec a m b) (q2 : Quiet b g) (e2 : g.errors = b.errors) : JumpSpec gs m g :=
  ⟨q1.step.trans (j.step.trans q2.step), by rw [e2, j.errors, e1], by rw [q2.funcAddrs, j.funcAddrs, q1.funcAddrs],
   fun w m' => by rw [q2.mstate, j.mstate (q1.wf w), q1.mstate, q1.mstate]⟩

theorem goto_spec (gs0 : GS) (m : Bytes) :
    JumpSpec gs0 m ((gs0.markLabel m).1.emitBackpatched (.jmp (gs0.markLabel m).2)) :=
  jump_spec gs0 m _ (Or.inl rfl)

theorem ifPost_spec (gs : GS) (cond op1 op2 : Int) (m : Bytes) : JumpSpec gs m (ifPost gs cond op1 op2 m) :=
  (jump_spec _ m _ (Or.inr ⟨cond, rfl⟩)).quiet (quiet_emit gs (.test cond op1 op2)) rfl
    ((quiet_releaseTemporary _ _).trans ((quiet_releaseTemporary _ _).trans (quiet_releaseTemporary _ _))) rfl

theorem mark_spec (gs0 : GS) (m : Bytes) :
    let g := (gs0.markLabel m).1.setLabel (gs0.markLabel m).2 (gs0.markLabel m).1.markPos
    Step gs0 g ∧ g.errors = gs0.errors ∧ g.funcAddrs = gs0.funcAddrs ∧
      (MarksWF gs0 → ∀ m', mstate g m' = if m' = m then some true else mstate gs0 m') := by
  have s := markLabel_spec gs0 m
  refine ⟨s.step.trans (setLabel_step _ _ _ (markPos_ne _)), s.errors, s.funcAddrs, fun w m' => ?_⟩
  rw [setLabel_mstate_mark _ (s.wf w) m _ _ (markPos_ne _) s.mem, s.mstate w]
  by_cases h : m' = m
  · simp only [if_pos h]
  · simp only [if_neg h]

theorem top_congr {a b : GS} (h : a.symbols = b.symbols) : a.top = b.top := by unfold top; rw [h]

theorem MarksWF.of_nil {gs : GS} (h : gs.top.marks = []) : MarksWF gs :=
  ⟨by rw [h]; exact List.nodup_nil, by rw [h]; exact List.nodup_nil, by rw [h]; intro e he; cases he⟩

/-- `progPre`: the label `after` (behind the definition) is created and a jump to it emitted; a
    frame for `nm` is pushed on the symbols left by `removeTopPotBreak` -/
structure ProgPreSpec (gs0 : GS) (nm : Bytes) (g : GS) (after : Nat) : Prop where
  after : after = gs0.labels.length
  errors : g.errors = gs0.errors
  funcAddrs : g.funcAddrs = gs0.funcAddrs
  lablen : g.labels.length = gs0.labels.length + 1
  top : g.top = ⟨nm, [], 0, []⟩
  outer : g.symbols.drop 1 = gs0.removeTopPotBreak.symbols
  todoOK : TodoOK gs0 → TodoOK g
  isSet : ∀ x, isSet g x ↔ isSet gs0 x

theorem progPre_spec (gs0 : GS) (nm : Bytes) : ProgPreSpec gs0 nm (progPre gs0 nm).1 (progPre gs0 nm).2 := by
  have q := quiet_removeTopPotBreak gs0
  have hlen : gs0.removeTopPotBreak.createLabel.1.labels.length = gs0.labels.length + 1 := by
    rw [createLabel_labels, q.labels, List.length_append]; rfl
  exact ⟨congrArg List.length q.labels, GS.removeTopPotBreak_errors gs0, q.funcAddrs, hlen, rfl, rfl,
    fun h => TodoOK.safe (gs := gs0.removeTopPotBreak.createLabel.1.emitBackpatched _) rfl (Nat.le_refl _) (CodeSafe.refl _)
      ((quiet_jmp _ (by rw [hlen, createLabel_snd, q.labels]; exact Nat.lt_succ_self _)).todoOK
        (createLabel_todoOK _ (q.todoOK h))),
    fun x => (createLabel_isSet _ x).trans (isSet_congr q.labels x)⟩

/-- `progPost`: the frame is popped as in `PopSpec`, then `after` gets its position -/
structure ProgPostSpec (b : GS) (after : Nat) (res : GS) : Prop where
  symbols : res.symbols = b.symbols.drop 1
  lablen : res.labels.length = b.labels.length
  errs : res.errors = [] ↔ b.errors = [] ∧ ∀ e ∈ b.top.marks, isSet b e.2
  look : ∀ f, look res f = if f = b.top.name then some b.top.argnum else look b f
  todoOK : TodoOK b → TodoOK res
  isSet : ∀ x, isSet res x ↔ (x = after ∧ after < b.labels.length) ∨ isSet b x

theorem progPost_spec (b : GS) (out : Bytes) (entry : Int) (after : Nat) :
    ProgPostSpec b after (progPost b out entry after) := by
  have q : Quiet b ((b.fetchVar out).1.emit (.ret (b.fetchVar out).2)) := (quiet_fetchVar _ _).trans (quiet_emit _ _)
  have he : ((b.fetchVar out).1.emit (.ret (b.fetchVar out).2)).errors = b.errors := fetchVar_errors _ _
  have ps := popSymbols_spec ((b.fetchVar out).1.emit (.ret (b.fetchVar out).2)) entry
  unfold progPost
  dsimp only
  generalize ((b.fetchVar out).1.emit (.ret (b.fetchVar out).2)) = c at q he ps
  refine ⟨ps.symbols.trans q.outer, (setLabel_lablen _ _ _).trans (congrArg List.length (ps.labels.trans q.labels)),
    ps.errs.trans ?_, fun f => (ps.look f).trans ?_, fun h => setLabel_todoOK _ _ _ (ps.todoOK (q.todoOK h)), fun x => ?_⟩
  · rw [he, q.marks]
    exact and_congr_right fun _ => forall₂_congr fun e _ => isSet_congr q.labels e.2
  · rw [q.name, q.argnum, look_congr q.funcAddrs]
  · rw [setLabel_isSet _ _ _ (nextPos_ne _), isSet_congr ps.labels, isSet_congr q.labels, ps.labels, q.labels]

/-- a loop: `sm` opens the start and end labels, the body runs, `sc` closes the end label -/
theorem Step.bracket {gs m b res : GS} {startL endL : Nat} (sm : LoopMidSpec gs m startL endL) (hb : Step m b)
    (sc : startL < b.labels.length → ClosesSpec b res endL ∧ (TodoOK b → TodoOK res)) : Step gs res := by
  have hlen : gs.labels.length + 2 ≤ b.labels.length := by rw [← sm.lablen]; exact hb.lablen
  obtain ⟨sc, stodo⟩ := sc (by rw [sm.startL]; omega)
  refine ⟨?_, ?_, ?_, ?_, ?_, ?_, ?_, ?_, ?_, ?_⟩
  · intro h; rw [sc.errors] at h; have := hb.errs h; rw [sm.errors] at this; exact this
  · rw [sc.lablen]; omega
  · rw [sc.name, hb.name, sm.name]
  · rw [sc.argnum, hb.argnum, sm.argnum]
  · rw [sc.outer, hb.outer, sm.outer]
  · intro w h; exact stodo (hb.todoOK (sm.wf w) (sm.todoOK h))
  · intro P a; exact sc.acc (hb.acc _ (sm.acc a))
  · intro w; exact sc.wf (hb.wf (sm.wf w))
  · intro e h; rw [sc.marks]; exact hb.ext e (sm.marks ▸ h)
  · intro e h
    rw [sc.marks] at h
    rcases hb.new e h with h | h
    · exact Or.inl (sm.marks ▸ h)
    · exact Or.inr (by rw [sm.lablen] at h; omega)

/-- a program definition: `sp` opens a frame and the label behind the definition, the parameters
    and the body are dispatched in it, `so` pops the frame (checking its marks) and closes the label -/
theorem Step.program {gs0 p1 g b res : GS} {nm : Bytes} {after : Nat} (sp : ProgPreSpec gs0 nm p1 after)
    (aq : ArgsQuiet p1 g) (hb : Step g b) (so : ProgPostSpec b after res) : Step gs0 res := by
  have q := quiet_removeTopPotBreak gs0
  have hsym : res.symbols = gs0.removeTopPotBreak.symbols := by
    rw [so.symbols, hb.outer, aq.outer, sp.outer]
  have htop : res.top = gs0.removeTopPotBreak.top := top_congr hsym
  have hmarks : res.top.marks = gs0.top.marks := by rw [htop, q.marks]
  have hgm : g.top.marks = [] := by rw [aq.marks, sp.top]
  have hlen1 : gs0.labels.length + 1 ≤ b.labels.length := by
    have := hb.lablen; rw [aq.labels, sp.lablen] at this; exact this
  have hlen : gs0.labels.length ≤ res.labels.length := by rw [so.lablen]; omega
  refine ⟨?_, hlen, ?_, ?_, ?_, ?_, ?_, ?_, ?_, ?_⟩
  · intro h
    have := aq.errs (hb.errs (so.errs.1 h).1)
    rw [sp.errors] at this; exact this
  · rw [htop, q.name]
  · rw [htop, q.argnum]
  · rw [hsym, q.outer]
  · intro _ h
    exact so.todoOK (hb.todoOK (MarksWF.of_nil hgm) (aq.todoOK (sp.todoOK h)))
  · intro P a
    -- inside the definition the label behind it and the labels of the enclosing marks are excused
    have a1 : LabAcc (fun l => P l ∨ l = after ∨ ∃ e ∈ gs0.top.marks, e.2 = l) p1 := by
      intro h0 x hlt
      rw [sp.errors] at h0
      rw [sp.lablen] at hlt
      by_cases hx : x < gs0.labels.length
      · rcases a h0 x hx with h1 | h1 | h1
        · exact Or.inl ((sp.isSet x).2 h1)
        · exact Or.inr (Or.inl (Or.inl h1))
        · exact Or.inr (Or.inl (Or.inr (Or.inr h1)))
      · exact Or.inr (Or.inl (Or.inr (Or.inl (by rw [sp.after]; omega))))
    have a3 := hb.acc _ (a1.congr aq.errs aq.labels aq.marks)
    intro h0 x hlt
    rw [so.lablen] at hlt
    obtain ⟨hb0, hall⟩ := so.errs.1 h0
    rcases a3 hb0 x hlt with h1 | (h1 | h1 | h1) | ⟨e, he, hex⟩
    · exact Or.inl ((so.isSet x).2 (Or.inr h1))
    · exact Or.inr (Or.inl h1)
    · exact Or.inl ((so.isSet x).2 (Or.inl ⟨h1, by rw [sp.after]; omega⟩))
    · exact Or.inr (Or.inr (hmarks ▸ h1))
    · exact Or.inl ((so.isSet x).2 (Or.inr (hex ▸ hall e he)))
  · intro w
    exact w.congr hlen hmarks
  · intro e he; rw [hmarks]; exact he
  · intro e he; rw [hmarks] at he; exact Or.inl he

theorem step_void (gs : GS) (n : Node) : Step gs (genS gs n) := by
  have q0 (gs : GS) (line file) := (quiet_advanceLine gs line file).step
  induction n using stmtInduction generalizing gs with
  | nil => rw [genS_nil]; exact Step.refl _
  | split tok file line l r ihl ihr =>
    rw [genS_split]
    exact (q0 gs line file).trans ((ihl _).trans (ihr _))
  | program tok file line l r ih =>
    rw [genS_program]
    exact (q0 gs line file).trans
      (Step.program (progPre_spec _ _) (argsQuiet_args _ _) (ih _) (progPost_spec _ _ _ _))
  | assign tok file line l r =>
    rw [genS_assign]
    exact (q0 gs line file).trans ((quiet_fetchVar _ _).trans (quiet_value _ _ _)).step
  | loop tok file line l r ih =>
    rw [genS_loop]
    exact (q0 gs line file).trans (((quiet_loopPre _).trans (quiet_value _ _ _)).step.trans
      (Step.bracket (loopMid_spec _ _) (ih _) (loopPost_spec _ _ _ _)))
  | while_ tok file line l r ih =>
    rw [genS_while]
    have sm := whilePre_spec (gs.advanceLine line file)
    have qv := quiet_value (whilePre (gs.advanceLine line file)).1 l (whilePre (gs.advanceLine line file)).2.2.2
    exact (q0 gs line file).trans (Step.bracket sm
      ((qv.trans (quiet_jmpc _ _ (sm.endL_lt qv))).step.trans (ih _)) (whilePost_spec _ _ _ _))
  | mark tok file line l r =>
    rw [genS_mark]
    exact (q0 gs line file).trans (mark_spec _ _).1
  | goto tok file line l r =>
    rw [genS_goto]
    exact (q0 gs line file).trans (goto_spec _ _).step
  | if_ tok file line l r =>
    rw [genS_if]
    exact (q0 gs line file).trans (((quiet_ifPre _).trans ((quiet_value _ _ _).trans (quiet_value _ _ _))).step.trans
      (ifPost_spec _ _ _ _ _).step)
  | stop tok file line l r =>
    rw [genS_stop]
    exact (q0 gs line file).trans (quiet_emit _ _).step
  | other t tok file line l r h =>
    rw [genS_other _ _ _ _ _ _ h]
    exact (q0 gs line file).trans (quiet_err _ _).step

end Static
end Theo
