/-
  C04 (sugar) — macro extraction in front of a source without definitions: general lemmas on
  the S/D/MD/A descent for a well-formed `DEFINE PRIO n rule AS body END DEFINE` and for a stretch
  without `DEFINE`, then the two definitions of the standard file in front of such a stretch
  (`extract_defBlocks`).
-/
import Theo.Proofs.SugarDetect
import Theo.Proofs.ExtractTT

namespace Theo.Sugar

theorem getElem?_mid {α} (pre : List α) (x : α) (post : List α) : (pre ++ x :: post)[pre.length]? = some x :=
  Theo.getElem?_mid pre x post

def rest (es : ExSt) : List Token := es.toks.drop es.pos

theorem rest_cons {es : ExSt} {x : Token} {r : List Token} (h : rest es = x :: r) :
    es.la = x.kind ∧ es.toks[es.pos]? = some x ∧ es.cur = x ∧ es.toks.drop (es.pos + 1) = r := by
  obtain ⟨h0, hd⟩ := drop_cons_get es.toks es.pos x r h
  obtain ⟨hlt, _⟩ := List.getElem?_eq_some_iff.1 h0
  refine ⟨by simp [ExSt.la, h0], h0, ?_, hd⟩
  simp [ExSt.cur, Nat.min_eq_left (Nat.le_sub_one_of_lt hlt), h0]

def BodyTok (t : Token) : Prop :=
  t.kind ≠ Tok.T_EOF ∧ t.kind ≠ Tok.END_DEFINE ∧ t.kind ≠ Tok.DEFINE ∧ t.kind ≠ Tok.AS

theorem exA_run : ∀ (body : List Token) {f : Nat} {es : ExSt} {post : List Token} {ed : Token}
    {ms : List MacroDef} {m : MacroDef},
    rest es = body ++ ed :: post → (∀ t ∈ body, BodyTok t) →
    ed.kind = Tok.END_DEFINE → body.length < f → es.macros = ms ++ [m] →
    exA f es = { es with pos := es.pos + body.length + 1,
                         macros := ms ++ [{ m with body := m.body ++ body }] } := by
  intro body
  induction body with
  | nil =>
    intro f es post ed ms m ht _ hed hf hm
    obtain ⟨f, rfl⟩ := pos_fuel hf
    rw [exA]
    simp only [(rest_cons ht).1, hed]
    rw [if_neg (by decide), if_pos trivial]
    cases es
    simp only [ExSt.advance] at *
    subst hm
    simp
  | cons t body ih =>
    intro f es post ed ms m ht hb hed hf hm
    obtain ⟨f, rfl⟩ := pos_fuel hf
    obtain ⟨hla, htok, _, hr⟩ := rest_cons ht
    have hbt := hb t (by simp)
    rw [exA]
    simp only [hla]
    rw [if_neg hbt.1, if_neg hbt.2.1, if_neg (by rintro (h | h); exact hbt.2.2.1 h; exact hbt.2.2.2 h)]
    have hpush : es.pushBody.advance =
        { es with pos := es.pos + 1, macros := ms ++ [{ m with body := m.body ++ [t] }] } := by
      simp [ExSt.pushBody, ExSt.advance, ExSt.modifyLast, hm, htok]
    rw [hpush, ih (es := ⟨es.toks, _, es.errs, es.pos + 1, es.out⟩) hr
      (fun x hx => hb x (by simp [hx])) hed (by simp at hf; omega) rfl]
    simp [Nat.add_assoc, Nat.add_comm 1]

def RuleTok (t : Token) : Prop := t.kind ≠ Tok.T_EOF ∧ t.kind ≠ Tok.AS ∧ t.kind ≠ Tok.DEFINE

def addRule (m : MacroDef) (l : Token) : MacroDef :=
  let m1 := { m with rule := m.rule ++ [l] }
  if DetGen.textKinds.contains l.kind then { m1 with cc := m1.cc ++ [m1.rule.length - 1] }
  else if DetGen.slotKinds.contains l.kind then { m1 with tt := m1.tt ++ [m1.rule.length - 1] }
  else m1

theorem exMD_run : ∀ (rule : List Token) {f : Nat} {first : Bool} {es : ExSt} {post : List Token}
    {as : Token} {ms : List MacroDef} {m : MacroDef},
    rest es = rule ++ as :: post → (∀ t ∈ rule, RuleTok t) →
    as.kind = Tok.AS → rule.length < f → es.macros = ms ++ [m] → (first = true → rule ≠ []) →
    exMD f first es =
      exA (f - rule.length - 1)
        { es with pos := es.pos + rule.length + 1, macros := ms ++ [rule.foldl addRule m] } := by
  intro rule
  induction rule with
  | nil =>
    intro f first es post as ms m ht _ has hf hm hfirst
    obtain ⟨f, rfl⟩ := pos_fuel hf
    have hff : first = false := by
      cases first with
      | false => rfl
      | true => exact absurd rfl (hfirst rfl)
    subst hff
    rw [exMD]
    simp only [(rest_cons ht).1, has]
    rw [if_neg (by decide), if_pos trivial]
    cases es
    simp only [ExSt.advance] at *
    subst hm
    simp
  | cons t rule ih =>
    intro f first es post as ms m ht hb has hf hm _
    obtain ⟨f, rfl⟩ := pos_fuel hf
    obtain ⟨hla, htok, _, hr⟩ := rest_cons ht
    have hbt := hb t (by simp)
    rw [exMD]
    simp only [hla]
    rw [if_neg hbt.1, if_neg hbt.2.1, if_neg hbt.2.2]
    have hpush : es.pushRule.advance =
        { es with pos := es.pos + 1, macros := ms ++ [addRule m t] } := by
      simp [ExSt.pushRule, ExSt.advance, ExSt.modifyLast, hm, htok, addRule]
    rw [hpush, ih (first := false) (es := ⟨es.toks, _, es.errs, es.pos + 1, es.out⟩) hr
      (fun x hx => hb x (by simp [hx])) has (by simp at hf; omega) rfl (fun h => by cases h)]
    simp only [List.length_cons, List.foldl_cons]
    congr 2
    · omega
    · omega

theorem exS_define {f : Nat} {es : ExSt} {post : List Token} (rule body : List Token)
    {dT pT iT as ed : Token}
    (ht : rest es = dT :: pT :: iT :: (rule ++ as :: (body ++ ed :: post)))
    (hd : dT.kind = Tok.DEFINE) (hpr : pT.kind = Tok.PRIORITY) (hi : iT.kind = Tok.INT)
    (hrange : macroRangeBad (strtolNat iT.text) = false)
    (hrule : ∀ t ∈ rule, RuleTok t) (hne : rule ≠ []) (has : as.kind = Tok.AS)
    (hbody : ∀ t ∈ body, BodyTok t) (hed : ed.kind = Tok.END_DEFINE) :
    exS (f + 1) es =
      exS f { es with
        pos := es.pos + 3 + rule.length + 1 + body.length + 1,
        macros := es.macros ++
          [{ (rule.foldl addRule ⟨toInt32 (strtolNat iT.text), [], [], [], []⟩) with
              body := (rule.foldl addRule ⟨toInt32 (strtolNat iT.text), [], [], [], []⟩).body ++ body }] } := by
  obtain ⟨hla, _, _, h1⟩ := rest_cons ht
  obtain ⟨hla1, _, _, h2⟩ := rest_cons (es := es.advance.pushMacro) h1
  obtain ⟨hla2, htok2, _, h3⟩ := rest_cons (es := es.advance.pushMacro.advance) h2
  have hlen : rule.length + body.length + 5 ≤ es.toks.length := by
    have := congrArg List.length ht
    simp only [rest, List.length_drop, List.length_cons, List.length_append] at this
    omega
  rw [exS_succ, hla, hd, if_neg (by decide), if_pos rfl]
  have hes2 : prioPart es.advance.pushMacro =
      { es with pos := es.pos + 3,
                macros := es.macros ++ [⟨toInt32 (strtolNat iT.text), [], [], [], []⟩] } := by
    unfold prioPart
    rw [if_pos (by rw [hla1, hpr])]
    simp only [ExSt.matchK, hla2, hi, ne_eq, not_true_eq_false, if_false]
    have htok2' : es.toks[es.pos + 1 + 1]? = some iT := htok2
    simp only [ExSt.advance, ExSt.pushMacro, ExSt.strToInt, ExSt.modifyLast, Nat.add_sub_cancel, htok2',
      Option.getD_some, hrange]
    simp
  rw [hes2, exMD_run rule (es := ⟨es.toks, _, es.errs, es.pos + 3, es.out⟩) h3 hrule has (by omega) rfl
      (fun _ => hne),
    exA_run body (es := ⟨es.toks, _, es.errs, es.pos + 3 + rule.length + 1, es.out⟩) (post := post) (ed := ed)
      (by show List.drop _ es.toks = _
          rw [show es.pos + 3 + rule.length + 1 = es.pos + 1 + 1 + 1 + (rule.length + 1) by omega,
            ← List.drop_drop, show List.drop (es.pos + 1 + 1 + 1) es.toks = _ from h3]
          simp)
      hbody hed (by omega) rfl]

theorem exS_copy : ∀ (body : List Token) {f : Nat} {es : ExSt} {eof : Token},
    rest es = body ++ [eof] →
    (∀ t ∈ body, t.kind ≠ Tok.T_EOF ∧ t.kind ≠ Tok.DEFINE) → eof.kind = Tok.T_EOF → body.length < f →
    exS f es = { es with pos := es.pos + body.length + 1, out := es.out ++ body ++ [eof] } := by
  intro body
  induction body with
  | nil =>
    intro f es eof ht _ he hf
    obtain ⟨f, rfl⟩ := pos_fuel hf
    obtain ⟨hla, _, hcur, _⟩ := rest_cons ht
    rw [exS]
    simp only [hla, he]
    rw [if_pos trivial]
    simp [ExSt.copy, ExSt.advance, hcur]
  | cons t body ih =>
    intro f es eof ht hb he hf
    obtain ⟨f, rfl⟩ := pos_fuel hf
    obtain ⟨hla, _, hcur, hr⟩ := rest_cons ht
    have hbt := hb t (by simp)
    rw [exS]
    simp only [hla]
    rw [if_neg hbt.1, if_neg hbt.2, ih (es := es.copy.advance) hr (fun x hx => hb x (by simp [hx])) he
      (by simp at hf; omega)]
    simp [ExSt.copy, ExSt.advance, hcur]
    omega

/-- one line of the standard file: `DEFINE PRIO 1000000 <ID> op <INT> AS RUN name WITH $0, $1 END END DEFINE` -/
def defBlock (op name : Bytes) (line : Int) : List Token :=
  stdTok Tok.DEFINE [68, 69, 70, 73, 78, 69] line :: stdTok Tok.PRIORITY [80, 82, 73, 79] line ::
    stdTok Tok.INT [49, 48, 48, 48, 48, 48, 48] line ::
    ([stdTok Tok.ID_TEMP [60, 73, 68, 62] line, stdTok Tok.NV_ID op line, stdTok Tok.INT_TEMP [60, 73, 78, 84, 62] line] ++
      stdTok Tok.AS [65, 83] line ::
      (bodyOf name line ++ [stdTok Tok.END_DEFINE [69, 78, 68, 32, 68, 69, 70, 73, 78, 69] line]))

/-- the definition `exS_define` builds from a `defBlock`, before the `$n` check -/
def rawDef (op name : Bytes) (line : Int) : MacroDef :=
  let m := [stdTok Tok.ID_TEMP [60, 73, 68, 62] line, stdTok Tok.NV_ID op line,
      stdTok Tok.INT_TEMP [60, 73, 78, 84, 62] line].foldl addRule
    ⟨toInt32 (strtolNat [49, 48, 48, 48, 48, 48, 48]), [], [], [], []⟩
  { m with body := m.body ++ bodyOf name line }

theorem exS_defBlock {f : Nat} {es : ExSt} {post : List Token} (op name : Bytes) (line : Int)
    (ht : rest es = defBlock op name line ++ post) :
    exS (f + 1) es =
      exS f { es with pos := es.pos + (defBlock op name line).length,
                      macros := es.macros ++ [rawDef op name line] } := by
  rw [exS_define
    [stdTok Tok.ID_TEMP [60, 73, 68, 62] line, stdTok Tok.NV_ID op line, stdTok Tok.INT_TEMP [60, 73, 78, 84, 62] line]
    (bodyOf name line) (post := post) ht rfl rfl rfl
    (by show macroRangeBad (strtolNat [49, 48, 48, 48, 48, 48, 48]) = false; decide)
    (by intro t ht; simp at ht; rcases ht with rfl | rfl | rfl <;> simp [RuleTok, stdTok, Tok.ID_TEMP, Tok.NV_ID, Tok.INT_TEMP, Tok.T_EOF, Tok.AS, Tok.DEFINE])
    (by simp) rfl
    (by intro t ht; simp [bodyOf] at ht; rcases ht with rfl | rfl | rfl | rfl | rfl | rfl | rfl <;>
      simp [BodyTok, stdTok, Tok.RUN, Tok.ID, Tok.WITH, Tok.INSERTION, Tok.ARGSEP, Tok.END, Tok.T_EOF, Tok.AS, Tok.DEFINE, Tok.END_DEFINE])
    rfl]
  rfl

/-- the definition after the `$n` check -/
def finalDef (op name : Bytes) (line : Int) : MacroDef :=
  ⟨1000000, [stdTok Tok.ID_TEMP [60, 73, 68, 62] line, stdTok Tok.NV_ID op line,
      stdTok Tok.INT_TEMP [60, 73, 78, 84, 62] line], [1], [0, 2], bodyOf name line⟩

theorem checkInsertions_std (e : Token) :
    checkInsertions e [rawDef plus incName 1, rawDef minus decName 2] [] =
      ([finalDef plus incName 1, finalDef minus decName 2], []) := by
  rfl

theorem extract_defBlocks (body : List Token) (eof : Token)
    (hb : ∀ t ∈ body, t.kind ≠ Tok.T_EOF ∧ t.kind ≠ Tok.DEFINE) (he : eof.kind = Tok.T_EOF) :
    extractMacros ((defBlock plus incName 1 ++ defBlock minus decName 2) ++ (body ++ [eof])) =
      ⟨[], body ++ [eof], [finalDef plus incName 1, finalDef minus decName 2]⟩ := by
  unfold extractMacros
  have hlen : ((defBlock plus incName 1 ++ defBlock minus decName 2) ++ (body ++ [eof])).length + 2 =
      (body.length + 31) + 1 + 1 := by
    simp only [List.length_append, List.length_cons, List.length_nil, defBlock, bodyOf]; omega
  simp only []
  rw [hlen, exS_defBlock plus incName 1 (post := defBlock minus decName 2 ++ (body ++ [eof]))
      (by rw [rest, List.append_assoc]; rfl)]
  simp only []
  rw [exS_defBlock minus decName 2 (post := body ++ [eof])
      (by rw [rest, Nat.zero_add, List.append_assoc]; exact List.drop_left' rfl)]
  simp only []
  rw [exS_copy body (eof := eof)
      (by rw [rest, Nat.zero_add, ← List.length_append]; exact List.drop_left' rfl) hb he (by omega)]
  simp only [List.nil_append, List.cons_append, checkInsertions_std]

end Theo.Sugar
