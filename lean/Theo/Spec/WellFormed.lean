/-
  Structural validity of bytecode (C03, C16) as a *checkable certificate*: every reachable
  program counter is annotated with the frame size of the activation executing it, the id of
  the routine it belongs to, and — inside a call sequence — the frame size and id of the callee
  being prepared.  `checkCert` verifies the annotation locally, instruction by instruction;
  `inferCert` computes it by forward propagation; `wfCheck` = infer, then check.
  Soundness (`checkCert p c = true` ⇒ no execution and no debugger history of `p` ever leaves
  the VM's memory) is proved in Theo/Proofs/WFProofs.lean; soundness does not depend on `inferCert`
  (if it produced a wrong annotation the check would fail); its completeness for valid
  certificates is Theo/Proofs/GenWFInfer.lean.
-/
import Theo.Spec.VMSpec

namespace Theo

structure PcInfo where
  frame : Nat                      -- size of the frame of the activation executing this pc
  rid : Nat                        -- routine id (number of RETs before the routine's entry; root = #RETs)
  pend : Option (Nat × Nat)        -- inside a call sequence: (callee frame size, callee routine id)
  deriving Repr, DecidableEq, Inhabited

abbrev Cert := List (Option PcInfo)

def Cert.info (c : Cert) (pc : Int) : Option PcInfo :=
  if pc < 0 then none else (c[pc.toNat]?).join

def regOK (r : Int) (frame : Nat) : Bool := decide (0 ≤ r) && decide (r < (frame : Int))

/-- stack-map index valid, and every mapped register inside a frame of `cnt` words -/
def mapOK (p : Program) (idx : Int) (cnt : Nat) : Bool :=
  decide (0 ≤ idx) &&
  match p.stackMaps[idx.toNat]? with
  | some sm => sm.map.all (fun e => regOK e.1 cnt)
  | none => false

/-- local check of one annotated instruction (`pc ≥ 1`) -/
def checkPc (p : Program) (c : Cert) (rootRid : Nat) (pc : Nat) (ins : Instr) (I : PcInfo) : Bool :=
  let next := c.info ((pc : Int) + 1)
  match ins with
  | .potBreak => I.pend.isNone && next == some I
  | .brk => I.pend.isNone && next == some I
  | .halt => true
  | .add t s _ => I.pend.isNone && regOK t I.frame && regOK s I.frame && next == some I
  | .test t a b => I.pend.isNone && regOK t I.frame && regOK a I.frame && regOK b I.frame && next == some I
  | .const t _ => I.pend.isNone && regOK t I.frame && next == some I
  | .jmp off => I.pend.isNone && c.info ((pc : Int) + off) == some I
  | .jmpc off s => I.pend.isNone && regOK s I.frame && c.info ((pc : Int) + off) == some I && next == some I
  | .prepare cnt idx tgt =>
    I.pend.isNone && decide (0 ≤ cnt) && regOK tgt I.frame && mapOK p idx cnt.toNat &&
    (match next with
     | some N => N.frame == I.frame && N.rid == I.rid &&
                 (match N.pend with | some (cf, j) => cf == cnt.toNat && decide (j < I.rid) | none => false)
     | none => false)
  | .arg t s =>
    (match I.pend with
     | some (cf, _) => regOK t cf && regOK s I.frame && next == some I
     | none => false)
  | .exec entry =>
    (match I.pend with
     | some (cf, j) => decide (j < I.rid) && c.info entry == some ⟨cf, j, none⟩ &&
                       next == some { I with pend := none }
     | none => false)
  | .ret s => I.pend.isNone && regOK s I.frame && decide (I.rid < rootRid)

def retsBefore (code : List Instr) (entry : Int) : Nat :=
  ((code.zipIdx.filter (fun x => (match x.1 with | .ret _ => true | _ => false) && decide ((x.2 : Int) < entry))).length)

/-- the whole certificate: root PREPARE at 0 (never a jump target), final HALT, every annotated
    pc locally consistent, breakpoint tables naming only POTENTIAL_BREAK sites -/
def checkCert (p : Program) (c : Cert) : Bool :=
  c.length == p.code.length &&
  (match p.code, c with
   | .prepare fr mi _ :: _, none :: some R :: _ =>
     decide (0 ≤ fr) && mapOK p mi fr.toNat && R.frame == fr.toNat && R.pend.isNone &&
     R.rid == retsBefore p.code p.code.length &&
     (p.code.getLast? == some Instr.halt) &&
     (p.code.zipIdx.zip c).all (fun x =>
       match x.2 with
       | some I => x.1.2 != 0 && checkPc p c R.rid x.1.2 x.1.1 I
       | none => true)
   | _, _ => false) &&
  sitesOKb p

/-! ### inference (soundness does not rest on it) -/

/-- id of the callee prepared at `pc`: the EXEC that ends the ARG run after `pc` names the entry -/
def calleeOf (code : List Instr) (pc : Nat) : Nat :=
  let rest := (code.drop (pc + 1)).dropWhile (fun i => match i with | .arg _ _ => true | _ => false)
  match rest with
  | .exec e :: _ => retsBefore code e
  | _ => 0

def succsOf (code : List Instr) (pc : Nat) (ins : Instr) (I : PcInfo) : List (Int × PcInfo) :=
  match ins with
  | .potBreak | .brk | .add _ _ _ | .test _ _ _ | .const _ _ | .arg _ _ => [((pc : Int) + 1, I)]
  | .jmp off => [((pc : Int) + off, I)]
  | .jmpc off _ => [((pc : Int) + off, I), ((pc : Int) + 1, I)]
  | .prepare cnt _ _ => [((pc : Int) + 1, { I with pend := some (cnt.toNat, calleeOf code pc) })]
  | .exec entry =>
    (match I.pend with
     | some (cf, j) => [(entry, ⟨cf, j, none⟩), ((pc : Int) + 1, { I with pend := none })]
     | none => [])
  | .ret _ | .halt => []

def inferLoop (code : List Instr) : Nat → List Nat → Cert → Cert
  | 0, _, c => c
  | _, [], c => c
  | fuel + 1, pc :: work, c =>
    match code[pc]?, (c[pc]?).join with
    | some ins, some I =>
      let (c', new) := (succsOf code pc ins I).foldl
        (fun (acc : Cert × List Nat) s =>
          if s.1 < 1 then acc else
          match acc.1[s.1.toNat]? with
          | some none => (acc.1.set s.1.toNat (some s.2), acc.2 ++ [s.1.toNat])
          | _ => acc) (c, [])
      inferLoop code fuel (work ++ new) c'
    | _, _ => inferLoop code fuel work c

def inferCert (p : Program) : Cert :=
  let n := p.code.length
  let rootRid := retsBefore p.code n
  match p.code with
  | .prepare fr _ _ :: _ :: _ =>
    let c0 : Cert := (List.replicate n none).set 1 (some ⟨fr.toNat, rootRid, none⟩)
    inferLoop p.code (n + 1) [1] c0
  | _ => List.replicate n none

def wfCheck (p : Program) : Bool := checkCert p (inferCert p)

/-- number of routines (= number of RET instructions) -/
def numRoutines (p : Program) : Nat := retsBefore p.code p.code.length

end Theo
