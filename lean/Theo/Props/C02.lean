/-
  C02 — compilation is total: every input yields a result.
  The model `compile : Files → Bytes → CodegenResult` is a total Lean function; what makes that
  meaningful is that none of its internal fuels can run out (each stage's bound is proved
  sufficient) and that the verdict is always exactly one of "correct without errors" /
  "incorrect with at least one error".  Undefined behaviour, leaks and wall time of the C++ are
  runtime facts no model can exhibit: they are observed by the sanitizer build of the harness.
-/
import Theo.Props.C04
import Theo.Props.C11
import Theo.Props.C14
import Theo.Props.C15

namespace Theo

/-- the verdict is never "both" and never "neither" -/
theorem C02_verdict (files : Files) (main : Bytes) :
    ((compile files main).ok = true ∧ (compile files main).errors = []) ∨
    ((compile files main).ok = false ∧ (compile files main).errors ≠ []) := by
  have h : (compile files main).ok = (compile files main).errors.isEmpty := by
    simp only [compile, gen]
  cases he : (compile files main).errors with
  | nil => left; rw [h, he]; exact ⟨rfl, rfl⟩
  | cons e es => right; rw [h, he]; exact ⟨rfl, by simp⟩

/-- scanning terminates for every include graph (the depth budget is never exhausted) -/
theorem C02_scan_terminates (files : Files) (main : Bytes) : (scan files main).fuelOut = false :=
  C15_terminates files main

/-- the scanner always makes progress: every non-empty buffer has a maximal munch -/
theorem C02_lexer_progress (inp : Bytes) (h : inp ≠ []) :
    (longest (LexGen.rules.map (·.1)) inp).isSome = true := C14_total inp h

/-- macro expansion performs at most `passes` rewriting steps, by structural recursion -/
theorem C02_macro_budget (inp : List Token) (defs : List MacroDef) (passes : Nat) :
    (applyMacros inp defs passes).rewrites ≤ passes := C11_rewrites_le_budget inp defs passes

/-- the descent never runs out of fuel (on any token list: `h` is not used) -/
theorem C02_parse_fuel_ok (ts : List Token) (h : EndMarked ts) :
    ∀ e ∈ (parseTokens ts).2, e.kind ≠ SynKind.fuel := C04_parse_fuel_ok ts h

/-- errors of every stage reach the result: an incorrect parse gives an incorrect compilation
    with at least one error -/
theorem C02_errors_forwarded (files : Files) (main : Bytes) :
    (parseFiles files main).ast.ok = false →
      (compile files main).ok = false ∧ (compile files main).errors ≠ [] :=
  (C04_errors_not_lost files main).2

end Theo
