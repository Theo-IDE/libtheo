/-
  C16 — programs cannot recurse; the call stack is bounded.
  (The VM-level part: for certified bytecode.  The source-level part — a RUN of a name without
  a complete earlier definition is rejected — is the static rule of Props/C04Static.lean; that
  every accepted compilation is certified is Props/C03GenWF.lean.)
-/
import Theo.Proofs.WFProofs

namespace Theo

/-- every EXEC of a certified program enters a routine with a strictly smaller id than the
    routine it is executed in: the call graph is acyclic -/
theorem C16_calls_go_down (p : Program) (c : Cert) (h : checkCert p c = true)
    (pc : Nat) (I : PcInfo) (e : Int) (hi : c.info pc = some I) (hx : p.code[pc]? = some (Instr.exec e)) :
    ∃ cf j, I.pend = some (cf, j) ∧ j < I.rid ∧ c.info e = some ⟨cf, j, none⟩ := by
  obtain ⟨R, hc⟩ := WF.checkCert_iff.1 h
  cases hc.rule pc I _ hi hx with
  | exec hp hj he _ => exact ⟨_, _, hp, hj, he⟩

/-- the activation stack never grows beyond the number of routines plus one (the root) -/
theorem C16_stack_bounded (p : Program) (c : Cert) (h : checkCert p c = true)
    (vm : VM) (hr : Reach p vm) : vm.stack.length ≤ numRoutines p + 1 :=
  WF.stack_bounded h hr

theorem C16_stack_bounded_wf (p : Program) (h : wfCheck p = true)
    (vm : VM) (hr : Reach p vm) : vm.stack.length ≤ numRoutines p + 1 :=
  WF.stack_bounded (c := inferCert p) h hr

end Theo
