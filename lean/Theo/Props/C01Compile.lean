/-
  C01, end to end — every accepted compilation computes the reference semantics of its source.

  No validator verdict is assumed: for every set of files and every main file that
  `compile` accepts, the bytecode it returns simulates the reference execution of the source the
  parser read (`toSource` of the tree handed to the generator):
   * the reference execution never gets stuck;
   * if it halts, the bytecode reaches HALT with the same live activations and the same values;
   * if it runs forever, so does the bytecode.

  Ingredients: C04 (an accepted compilation has no front-end error, a tree of the parser's shape
  and obeys the static rules), C01_gen_shape (the generator's code has the shape of the
  compilation scheme), C03_compile_wf (it passes the bytecode verifier), C01 (simulation), and
  the link proved here — EVERY `ID` TOKEN THAT REACHES THE PARSER IS IDENTIFIER-SHAPED OR STARTS
  WITH `#` (`C01_front_end_identifiers`), so that the user variables of the tree are never spelt
  like the generator's hidden names ("Loop Variable …", "Temporary Variable"):
   * a token the scanner labels `ID` is a lexeme of a rule with action `ID`, and these match
     identifier-shaped words only (C14); a token it labels `TEMP_VAL` is a lexeme `#n`;
   * the include splice and the final EOF token do not touch texts;
   * macro extraction copies tokens (to the remaining stream, the rules, the bodies); the `$n`
     range check re-kinds an out-of-range `$n` to `ID "error"`;
   * macro application copies body tokens and slot fillers (cut out of the stream by the
     detector) and renames a temporary `#n` to the `ID` token `#n:<file>:<line>_(M<pass>)`
     (`tempName`, which starts with the temporary's own text).
  These are the only places where the front end creates or re-kinds a token as `ID`.  The
  invariant holds for EVERY file set: a user-supplied standard-macro file, NUL bytes cutting a
  buffer, odd file names, exhausted pass budget make no difference (file names and positions
  enter the text of a token only behind the leading `#n` of a renamed temporary).

  Remaining hypothesis `LabelsOK` (decidable, on the tree): in every routine body a label that is
  the target of a jump is defined at most once.  It is needed — the documentation leaves
  duplicate labels open, the reference semantics takes the first definition and the generator
  the last.  Witness `C01CompileDemo.dupText` below, `GOTO l; l: x := 1; STOP; l: x := 2`: accepted
  by `compile`, the reference execution halts with x = 1, the bytecode halts with x = 2.
-/
import Theo.Proofs.CompileCorrectMacro
import Theo.Proofs.CompileCorrectLoop
import Theo.Props.C01GenShape
import Theo.Props.C03GenWF
import Theo.Props.C16Loop
import Theo.Props.C04Sugar

namespace Theo
open Sem CompileCorrect

theorem frontEnd_toks (files : Files) (main : Bytes) :
    (frontEnd files main).1 =
      (applyMacros (extractMacros (scan (Loc.scanFiles files main) main).toks).toks
        (extractMacros (scan (Loc.scanFiles files main) main).toks).macros ConstGen.macroPasses).toks := by
  simp only [frontEnd, Loc.scanFiles, Loc.stdFiles]

/-- every `ID` token the front end hands to the parser is identifier-shaped
    (`[a-zA-Z_][a-zA-Z0-9_]*`) or starts with `#` (a renamed macro temporary) -/
theorem C01_front_end_identifiers (files : Files) (main : Bytes) :
    ∀ t ∈ (frontEnd files main).1, t.kind = Tok.ID →
      identShape t.text = true ∨ t.text.head? = some 35 := by
  intro t ht hk
  rw [frontEnd_toks] at ht
  exact (pipeline_tokOK _ main ConstGen.macroPasses t ht).1 hk

/-- … and every temporary still in the stream (a `#n` outside a macro body) starts with `#` -/
theorem C01_front_end_temporaries (files : Files) (main : Bytes) :
    ∀ t ∈ (frontEnd files main).1, t.kind = Tok.TEMP_VAL → t.text.head? = some 35 := by
  intro t ht hk
  rw [frontEnd_toks] at ht
  exact (pipeline_tokOK _ main ConstGen.macroPasses t ht).2 hk

/-- the scanner alone: `ID` tokens are identifier-shaped, `TEMP_VAL` tokens start with `#` -/
theorem C01_scan_identifiers (files : Files) (main : Bytes) :
    ∀ t ∈ (scan files main).toks, (t.kind = Tok.ID → identShape t.text = true ∨ t.text.head? = some 35) ∧
      (t.kind = Tok.TEMP_VAL → t.text.head? = some 35) :=
  scan_tokOK files main

/-- the name given to a renamed temporary starts with the temporary's text -/
theorem C01_tempName_prefix (text file : Bytes) (line : Int) (pass : Nat) :
    text <+: tempName text file line pass :=
  ⟨[58] ++ file ++ [58] ++ intDec line ++ [95, 40, 77] ++ natDigits pass ++ [41], by simp [tempName]⟩

/-- an accepted compilation: no error of scanner, macro stages or parser; the generator ran on
    the parser's tree; the tree obeys the static rules -/
theorem C01_accepted_parts (files : Files) (main : Bytes) (hok : (compile files main).ok = true) :
    (parseTokens (frontEnd files main).1).2 = [] ∧ (frontEnd files main).2 = [] ∧
    (parseFiles files main).ast.root = (parseTokens (frontEnd files main).1).1 ∧
    (compile files main).code = (gen ⟨true, [], (parseTokens (frontEnd files main).1).1⟩).code ∧
    staticOK (toSource (parseTokens (frontEnd files main).1).1) = true := by
  obtain ⟨he, hf, ha⟩ := compile_accepted files main hok
  rw [compile_ok_eq, ha] at hok
  exact ⟨he, hf, by rw [ha], by rw [compile_code_eq, ha],
    (C04_static_ok_iff _ (Static.parser_shape _ he)).1 hok⟩

/-- the code of an accepted compilation has the shape of the compilation scheme for its source -/
theorem C01_compile_shape (files : Files) (main : Bytes)
    (hok : (compile files main).ok = true)
    (hl : LabelsOK (parseFiles files main).ast.root = true) :
    shapeCheck (toSource (parseFiles files main).ast.root) (compile files main).code = true := by
  obtain ⟨he, _, hroot, hcode, hs⟩ := C01_accepted_parts files main hok
  rw [hroot] at hl ⊢
  rw [hcode]
  exact C01_gen_shape_parsed _ he (C01_front_end_identifiers files main) hs hl

/-- every accepted compilation computes the reference semantics of its source -/
theorem C01_compile_correct (files : Files) (main : Bytes)
    (hok : (compile files main).ok = true)
    (hl : LabelsOK (parseFiles files main).ast.root = true) :
    let src := toSource (parseFiles files main).ast.root
    let p := (compile files main).code
    (∀ n, (Sem.run src n (initial src) 0).1.status ≠ .stuck) ∧
    (∀ n, (Sem.run src n (initial src) 0).1.status = .halted →
        ∃ m vm, vmRun p m = .ok vm ∧ vm.isDone = .ok true ∧
          ViewsAgree p (Sem.run src n (initial src) 0).1 vm) ∧
    ((∀ n, (Sem.run src n (initial src) 0).1.status = .running) →
        ∀ m vm, vmRun p m = .ok vm → vm.isDone = .ok false) := by
  intro src p
  have hs : shapeCheck src p = true := C01_compile_shape files main hok hl
  have hw : wfCheck p = true := C03_compile_wf files main hok
  exact ⟨C01_never_stuck src p hs, C01_halts_same_values src p hs hw, C01_diverges src p hs hw⟩

/-- … in one sentence per case -/
theorem C01_compile_never_stuck (files : Files) (main : Bytes)
    (hok : (compile files main).ok = true)
    (hl : LabelsOK (parseFiles files main).ast.root = true) (n : Nat) :
    (Sem.run (toSource (parseFiles files main).ast.root) n
      (initial (toSource (parseFiles files main).ast.root)) 0).1.status ≠ .stuck :=
  (C01_compile_correct files main hok hl).1 n

theorem C01_compile_halts_same_values (files : Files) (main : Bytes)
    (hok : (compile files main).ok = true)
    (hl : LabelsOK (parseFiles files main).ast.root = true) (n : Nat)
    (hh : (Sem.run (toSource (parseFiles files main).ast.root) n
      (initial (toSource (parseFiles files main).ast.root)) 0).1.status = .halted) :
    ∃ m vm, vmRun (compile files main).code m = .ok vm ∧ vm.isDone = .ok true ∧
      ViewsAgree (compile files main).code
        (Sem.run (toSource (parseFiles files main).ast.root) n
          (initial (toSource (parseFiles files main).ast.root)) 0).1 vm :=
  (C01_compile_correct files main hok hl).2.1 n hh

theorem C01_compile_diverges (files : Files) (main : Bytes)
    (hok : (compile files main).ok = true)
    (hl : LabelsOK (parseFiles files main).ast.root = true)
    (hd : ∀ n, (Sem.run (toSource (parseFiles files main).ast.root) n
      (initial (toSource (parseFiles files main).ast.root)) 0).1.status = .running) :
    ∀ m vm, vmRun (compile files main).code m = .ok vm → vm.isDone = .ok false :=
  (C01_compile_correct files main hok hl).2.2 hd

/-- a tree whose source has no WHILE, GOTO and IF-GOTO has no jump target at all: `LabelsOK`
    holds for it (for every tree, parsed or not) -/
theorem C01_loopOnly_labels (root : Node) (h : LoopOnly (toSource root)) : LabelsOK root = true :=
  astLabels_of_LoopOnly root h

/-- an accepted compilation of a source without WHILE, GOTO and IF-GOTO halts on the VM
    (no hypothesis besides acceptance) -/
theorem C16_compile_loop_halts (files : Files) (main : Bytes)
    (hok : (compile files main).ok = true)
    (hlo : LoopOnly (toSource (parseFiles files main).ast.root)) :
    ∃ m vm, vmRun (compile files main).code m = .ok vm ∧ vm.isDone = .ok true :=
  C16_loop_halts _ _ hlo (C01_compile_shape files main hok (C01_loopOnly_labels _ hlo))
    (C03_compile_wf files main hok)

/-- … with the final values: the reference execution halts too, and the bytecode stops in a
    state that agrees with it -/
theorem C16_compile_loop_halts_same_values (files : Files) (main : Bytes)
    (hok : (compile files main).ok = true)
    (hlo : LoopOnly (toSource (parseFiles files main).ast.root)) :
    ∃ n m vm,
      (Sem.run (toSource (parseFiles files main).ast.root) n
        (initial (toSource (parseFiles files main).ast.root)) 0).1.status = .halted ∧
      vmRun (compile files main).code m = .ok vm ∧ vm.isDone = .ok true ∧
      ViewsAgree (compile files main).code
        (Sem.run (toSource (parseFiles files main).ast.root) n
          (initial (toSource (parseFiles files main).ast.root)) 0).1 vm := by
  have hl := C01_loopOnly_labels _ hlo
  obtain ⟨n, hh⟩ := C16_loop_source_halted _ _ hlo (C01_compile_shape files main hok hl)
  obtain ⟨m, vm, h⟩ := C01_compile_halts_same_values files main hok hl n hh
  exact ⟨n, m, vm, hh, h⟩

/-! ### non-vacuity: a complete compilation from source text, through every stage -/

namespace C01CompileDemo

/-- the text of the main file `m` (171 bytes, one line):
```
DEFINE SWAP <ID> <ID> AS #0 := $0; $0 := $1; $1 := #0 END DEFINE PROGRAM f IN a OUT r DO r := a + 1 END x := RUN f WITH 2 END; y := 5; SWAP x y; LOOP x DO y := y + 1 END
```
    a user macro with a temporary, a PROGRAM, a call, a LOOP, and two `v := v + 1` that go through
    the built-in macro of the hidden standard file (`<ID> + <INT>` ↦ `RUN __INC__ WITH $0, $1 END`) -/
def text : Bytes :=
  [68, 69, 70, 73, 78, 69, 32, 83, 87, 65, 80, 32, 60, 73, 68, 62, 32, 60, 73, 68, 62, 32, 65, 83, 32, 35, 48, 32, 58, 61,
   32, 36, 48, 59, 32, 36, 48, 32, 58, 61, 32, 36, 49, 59, 32, 36, 49, 32, 58, 61, 32, 35, 48, 32, 69, 78, 68, 32, 68, 69,
   70, 73, 78, 69, 32, 80, 82, 79, 71, 82, 65, 77, 32, 102, 32, 73, 78, 32, 97, 32, 79, 85, 84, 32, 114, 32, 68, 79, 32,
   114, 32, 58, 61, 32, 97, 32, 43, 32, 49, 32, 69, 78, 68, 32, 120, 32, 58, 61, 32, 82, 85, 78, 32, 102, 32, 87, 73, 84,
   72, 32, 50, 32, 69, 78, 68, 59, 32, 121, 32, 58, 61, 32, 53, 59, 32, 83, 87, 65, 80, 32, 120, 32, 121, 59, 32, 76, 79,
   79, 80, 32, 120, 32, 68, 79, 32, 121, 32, 58, 61, 32, 121, 32, 43, 32, 49, 32, 69, 78, 68]

-- the bytes above are that text (`String.toUTF8` does not reduce in the kernel: evaluated)
#guard text == "DEFINE SWAP <ID> <ID> AS #0 := $0; $0 := $1; $1 := #0 END DEFINE PROGRAM f IN a OUT r DO r := a + 1 END x := RUN f WITH 2 END; y := 5; SWAP x y; LOOP x DO y := y + 1 END".toUTF8.toList

def files : Files := [([109], text)]
def main : Bytes := [109]

/-- kernel-checked, by evaluating the whole model (scanner with the include of the hidden
    standard file, extraction of three macros, three rewriting passes with LR(1) detectors,
    descent, generator): the compilation is accepted, the label condition holds, the source is
    jump-free, and the `ID` tokens starting with `#` that reach the parser are the two
    occurrences of the renamed temporary `#0:m:1_(M2)` -/
theorem demo_facts :
    (compile files main).ok = true ∧
    LabelsOK (parseFiles files main).ast.root = true ∧
    (loopOnlyStmts (toSource (parseFiles files main).ast.root).main = true ∧
      ∀ pd ∈ (toSource (parseFiles files main).ast.root).progs, loopOnlyStmts pd.body = true) ∧
    ((frontEnd files main).1.filter (fun t => t.kind = Tok.ID ∧ t.text.head? = some 35)).map (·.text) =
      [[35, 48, 58, 109, 58, 49, 95, 40, 77, 50, 41], [35, 48, 58, 109, 58, 49, 95, 40, 77, 50, 41]] := by
  decide +kernel

theorem demo_ok : (compile files main).ok = true := demo_facts.1
theorem demo_labels : LabelsOK (parseFiles files main).ast.root = true := demo_facts.2.1
theorem demo_loopOnly : LoopOnly (toSource (parseFiles files main).ast.root) := demo_facts.2.2.1

/-- hence, without running validator, verifier or VM: the three statements for this program … -/
theorem demo_correct :
    let src := toSource (parseFiles files main).ast.root
    let p := (compile files main).code
    (∀ n, (Sem.run src n (initial src) 0).1.status ≠ .stuck) ∧
    (∀ n, (Sem.run src n (initial src) 0).1.status = .halted →
        ∃ m vm, vmRun p m = .ok vm ∧ vm.isDone = .ok true ∧
          ViewsAgree p (Sem.run src n (initial src) 0).1 vm) ∧
    ((∀ n, (Sem.run src n (initial src) 0).1.status = .running) →
        ∀ m vm, vmRun p m = .ok vm → vm.isDone = .ok false) :=
  C01_compile_correct files main demo_ok demo_labels

/-- … and its bytecode halts in a state that agrees with the halted reference execution -/
theorem demo_halts :
    ∃ n m vm,
      (Sem.run (toSource (parseFiles files main).ast.root) n
        (initial (toSource (parseFiles files main).ast.root)) 0).1.status = .halted ∧
      vmRun (compile files main).code m = .ok vm ∧ vm.isDone = .ok true ∧
      ViewsAgree (compile files main).code
        (Sem.run (toSource (parseFiles files main).ast.root) n
          (initial (toSource (parseFiles files main).ast.root)) 0).1 vm :=
  C16_compile_loop_halts_same_values files main demo_ok demo_loopOnly

/-! The concrete runs are evaluated, not kernel-checked: `valueOf` (inside `toSource`) is defined
    by well-founded recursion and does not reduce in the kernel as soon as a VALUE is needed
    (`#guard` fails the build if the evaluation changes).  The reference execution halts after 45
    steps with x = 5, y = 8 (f(2) = 3; swapped with 5; five increments of 3); the bytecode halts
    too. -/
#guard (Sem.run (toSource (parseFiles files main).ast.root) 60
  (initial (toSource (parseFiles files main).ast.root)) 0).2 == 45
#guard (Sem.run (toSource (parseFiles files main).ast.root) 60
  (initial (toSource (parseFiles files main).ast.root)) 0).1.stack.map
    (fun fr => (fr.env.get [120], fr.env.get [121])) == [(5, 8)]
#guard shapeCheck (toSource (parseFiles files main).ast.root) (compile files main).code
#guard wfCheck (compile files main).code

/-! ### the hypothesis `LabelsOK` is needed: an accepted compilation that violates it and whose
    bytecode does NOT compute the reference semantics -/

/-- `GOTO l; l: x := 1; STOP; l: x := 2` — the jump target `l` is defined twice -/
def dupText : Bytes :=
  [71, 79, 84, 79, 32, 108, 59, 32, 108, 58, 32, 120, 32, 58, 61, 32, 49, 59, 32, 83, 84, 79, 80, 59, 32, 108, 58, 32,
   120, 32, 58, 61, 32, 50]
#guard dupText == "GOTO l; l: x := 1; STOP; l: x := 2".toUTF8.toList

def dupFiles : Files := [([109], dupText)]

/-- accepted, and only `LabelsOK` fails.  Kernel-checked: the text defines no macro, so the token
    stream that reaches the parser is `desugar` of its own tokens (`C04_sugar_frontEnd`, through
    `parseFiles_eval`); the scanner on `dupText`, `desugar`, the descent and the generator are
    evaluated. -/
theorem dup_accepted : (compile dupFiles main).ok = true ∧
    LabelsOK (parseFiles dupFiles main).ast.root = false := by
  rw [compile_ok_eq]
  exact parseFiles_eval (content := dupText) (P := fun a => (gen a).ok = true ∧ LabelsOK a.root = false)
    (by decide) rfl (by decide +kernel)

-- the reference execution (first definition of `l`) halts with x = 1 …
#guard (Sem.run (toSource (parseFiles dupFiles main).ast.root) 100
  (initial (toSource (parseFiles dupFiles main).ast.root)) 0).1.status == .halted
#guard (Sem.run (toSource (parseFiles dupFiles main).ast.root) 100
  (initial (toSource (parseFiles dupFiles main).ast.root)) 0).1.stack.map (fun fr => fr.env.get [120]) == [1]
-- … the bytecode (last definition of `l`) halts with x = 2
#guard (match vmRun (compile dupFiles main).code 100 with
  | .ok vm =>
    (match vm.isDone with | .ok b => b | .error _ => false) &&
    (match vm.stack.map (fun a => activationVariables (compile dupFiles main).code vm a) with
     | [.ok vars] => vars == [([120], 2)]
     | _ => false)
  | .error _ => false)

end C01CompileDemo

end Theo
