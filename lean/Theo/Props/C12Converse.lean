/-
  C12 (converse of the semantic side) — a pattern whose detector grammar is LR(1) in Knuth's
  sense is accepted: the detector construction reports no conflict.  Equivalently: every reported
  conflict (NON_LR verdict) witnesses that the detector grammar is not LR(1).

  Notions (`Theo/Spec/KnuthLR.lean`): rightmost derivations `RDerives`, Knuth's condition
  `KnuthLR1 g S' eof pm` — "if S' ⇒*rm αAw ⇒rm αβw and S' ⇒*rm γBx ⇒rm αβy and the lookaheads of
  w and y agree, then αAy = γBx".  The detector runs in prefix mode: the token after the pattern
  is arbitrary, so an exhausted right context agrees with every lookahead (`LACompat true`).

  Proof (`Theo/Proofs/LRConverse*.lean`): every item of a state is valid for every viable prefix
  reaching the state; a reported conflict yields a shift and a complete item, or two different
  complete items, acting on one column of one state; both contradict `KnuthLR1`.  The degenerate
  report "the same reduction placed twice on one cell" (same production, lookaheads end-marker
  and `c`) does occur in the model (e.g. in the tables of `LOOP <P>`), but never in an LR(1)
  grammar: `LRConverse.no_degenerate` pushes it up the derivation to a genuine clash.
-/
import Theo.Proofs.LRConverseMain
import Theo.Proofs.LRConverseSanity
import Theo.Props.C12Semantic

namespace Theo

/-- the augmented detector grammar `S' → MACRO` of a definition -/
def detectorAugmented (m : MacroDef) : Grammar := (detectorGrammar m).augment DetGen.macroNT Tok.T_EOF

/-- the detector grammar is LR(1) in Knuth's sense, read in prefix mode: on a prefix of the input,
    the handle of every right sentential form is determined by the symbols up to its end and one
    more token -/
def DetectorLR1 (m : MacroDef) : Prop :=
  KnuthLR1 (detectorAugmented m) (detectorGrammar m).numNT Tok.T_EOF true

/-- an LR(1) pattern is accepted (the budget condition `_hf` is not needed: `C12_lr1_accepted'`) -/
theorem C12_lr1_accepted (m : MacroDef) (hr : RuleOK m) (_hf : DetectorComplete m)
    (h : DetectorLR1 m) : (mkDetector m).tables.conflicts = [] :=
  LRConverse.detector_no_conflicts m (fun t ht => (hr t ht).1) detectorStateFuel h

/-- the argument works state by state, so it also covers a construction that ran out of its
    state budget -/
theorem C12_lr1_accepted' (m : MacroDef) (hr : ∀ t ∈ m.rule, t.kind ≠ Tok.T_EOF)
    (h : DetectorLR1 m) : (mkDetector m).tables.conflicts = [] :=
  LRConverse.detector_no_conflicts m hr detectorStateFuel h

/-- a rejected pattern is not LR(1) -/
theorem C12_conflict_not_lr1 (m : MacroDef) (hr : RuleOK m) (hf : DetectorComplete m)
    (hc : (mkDetector m).tables.conflicts ≠ []) : ¬ DetectorLR1 m :=
  fun h => hc (C12_lr1_accepted m hr hf h)

/-- the generic statement behind it (any grammar, full or prefix mode) -/
theorem C13_lr1_no_conflict (g : Grammar) (start eof : Nat) (pm : Bool) (sfuel : Nat)
    (hg : g.Closed) (hs : start < g.numNT) (he : eof ∉ g.terminals)
    (hnd : g.NoDupAlts) (hp : g.Productive)
    (h : KnuthLR1 (g.augment start eof) g.numNT eof pm) :
    (tablesOf g start eof pm sfuel).conflicts = [] :=
  LRConverse.knuth_no_conflicts g start eof pm sfuel hg hs he hnd hp h

/-- the notion is satisfiable in both lookahead readings: the one-rule grammar `S → a` is LR(1)
    (all its right sentential forms are enumerated in `LRConverse.Sanity`), and for it every
    hypothesis of `C13_lr1_no_conflict` is discharged -/
theorem C13_lr1_satisfiable (pm : Bool) :
    KnuthLR1 (LRConverse.Sanity.g0.augment 0 0) LRConverse.Sanity.g0.numNT 0 pm :=
  LRConverse.Sanity.g0_lr1 pm

/-! ### the side conditions are satisfiable, the statement is not vacuous -/

namespace C12ConverseExample

def tk (k : Nat) : Token := ⟨k, [], [], 0⟩

/-- `<ID> := <V> ;` -/
def assignMacro : MacroDef :=
  ⟨0, [tk Tok.ID_TEMP, tk Tok.ASSIGN, tk Tok.VALUE_TEMP, tk Tok.PROGSEP], [], [], []⟩

/-- `LOOP <P>` -/
def loopMacro : MacroDef := ⟨0, [tk Tok.LOOP, tk Tok.PROG_TEMP], [], [], []⟩

instance (m : MacroDef) : Decidable (RuleOK m) := by unfold RuleOK; infer_instance
instance (m : MacroDef) : Decidable (DetectorComplete m) := by unfold DetectorComplete; infer_instance

/-- the tables of `<ID> := <V> ;`, evaluated once: within the state budget, no conflict -/
theorem assignMacro_tables : (RuleOK assignMacro ∧ DetectorComplete assignMacro) ∧
    (mkDetector assignMacro).tables.conflicts = [] := by decide +kernel

/-- the tables of `LOOP <P>`, evaluated once: within the state budget, and two of the reported
    clashes -/
theorem loopMacro_tables : (RuleOK loopMacro ∧ DetectorComplete loopMacro) ∧
    (⟨2, 8, Tok.PROGSEP⟩ : Conflict) ∈ (mkDetector loopMacro).tables.conflicts ∧
    (⟨1, 10, Tok.PROGSEP⟩ : Conflict) ∈ (mkDetector loopMacro).tables.conflicts := by decide +kernel

example : RuleOK assignMacro ∧ DetectorComplete assignMacro := assignMacro_tables.1

/-- (the conclusion holds for this macro; its hypothesis `DetectorLR1` is the classical other
    direction: `assignMacro_lr1` in Props/C12Iff.lean) -/
example : (mkDetector assignMacro).tables.conflicts = [] := assignMacro_tables.2

example : RuleOK loopMacro ∧ DetectorComplete loopMacro := loopMacro_tables.1

/-- a non-trivial use: `LOOP <P>` is rejected by the tables, hence its detector grammar is not
    LR(1) in Knuth's sense -/
theorem loopMacro_not_lr1 : ¬ DetectorLR1 loopMacro :=
  C12_conflict_not_lr1 loopMacro loopMacro_tables.1.1 loopMacro_tables.1.2
    (List.ne_nil_of_mem loopMacro_tables.2.1)

/-- among the clashes reported for `LOOP <P>` there are degenerate ones (kind 2 = reduce/reduce
    between two items of the *same* production, e.g. `[P → STMT ., eof]` and `[P → STMT ., ;]`),
    next to the genuine shift/reduce clash (kind 1) -/
example : (⟨2, 8, Tok.PROGSEP⟩ : Conflict) ∈ (mkDetector loopMacro).tables.conflicts ∧
    (⟨1, 10, Tok.PROGSEP⟩ : Conflict) ∈ (mkDetector loopMacro).tables.conflicts := loopMacro_tables.2

end C12ConverseExample

end Theo
