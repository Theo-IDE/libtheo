/-
  C05 — debugging is transparent.
-/
import Theo.Proofs.VMInvB

namespace Theo

/-- after any history of debugger calls the computation state (ip, data, activations) is a
    point of the uninterrupted run of the loaded program -/
theorem C05_on_path (p : Program) (hs : SitesOK p) (vm : VM) (hr : Reach p vm) :
    OnPath p vm.core :=
  InvB.reach_core ⟨0, rfl⟩
    (fun hr ih h => InvB.onPath_step ih (InvB.step_core (InvB.CodeInv.reach hs hr) h)) hr

/-- the live code differs from the loaded program only by `POTENTIAL_BREAK ↦ BREAK` -/
theorem C05_code_only_breaks (p : Program) (hs : SitesOK p) (vm : VM) (hr : Reach p vm) :
    vm.code.length = p.code.length ∧
    ∀ i : Nat, vm.code[i]? ≠ p.code[i]? →
      p.code[i]? = some Instr.potBreak ∧ vm.code[i]? = some Instr.brk := by
  have hc := InvB.CodeInv.reach hs hr
  refine ⟨hc.length, fun i hne => ?_⟩
  rw [hc.get i] at hne ⊢
  cases hi : vm.code[i]? with
  | none => rw [hi] at hne; exact absurd rfl hne
  | some x =>
    rw [hi, Option.map_some] at hne
    by_cases hx : x = .brk
    · subst hx; exact ⟨rfl, rfl⟩
    · rw [InvB.erase_of_ne_brk hx] at hne; exact absurd rfl hne

/-- a debugged run that reaches the end ends in the same state as the uninterrupted run -/
theorem C05_same_end (p : Program) (hs : SitesOK p) (vm : VM) (hr : Reach p vm)
    (hd : vm.isDone = .ok true) (m : Nat) (c : Core)
    (hc : coreIter p m coreInit = .ok c) (hh : fetch p.code c.ip = .ok Instr.halt) :
    vm.core = c := by
  obtain ⟨n, hn⟩ := C05_on_path p hs vm hr
  refine InvB.halt_unique hn ?_ hc hh
  show fetch p.code vm.ip = _
  rw [(InvB.CodeInv.reach hs hr).fetch_eq, InvB.isDone_halt hd]; rfl

end Theo
