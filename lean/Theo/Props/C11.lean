/-
  C11 — macro expansion always terminates within its pass budget.
  `applyMacros` is defined by structural recursion on the number of passes left (`passLoop`):
  Lean accepting the definition is the proof that it returns for every macro set.
-/
import Theo.Proofs.MacroProofs

namespace Theo

/-- the usable detectors of a definition list, in priority bins (as `applyMacros` builds them) -/
def usableBins (defs : List MacroDef) : List (List Detector) :=
  bins ((defs.map mkDetector).filter (·.usable))

def isMaxPasses (e : PErr) : Prop := e.kind = PErrT.MACRO_APPLY_REACHED_MAX_PASSES

/-- at most `passes` rewriting steps are performed -/
theorem C11_rewrites_le_budget (inp : List Token) (defs : List MacroDef) (passes : Nat) :
    (applyMacros inp defs passes).rewrites ≤ passes := by
  cases passes with
  | zero => exact Nat.le_refl _
  | succ k =>
    rw [applyMacros_succ_rewrites]
    exact Nat.le_trans (passLoop_count _ _ _ _ _).2 (Nat.le_of_eq (Nat.zero_add _))

/-- if rewriting is still possible on the returned stream (a step exists, for whatever pass
    number) and the budget is at least 1, the too-many-substitutions error is reported -/
theorem C11_unfinished_flagged (inp : List Token) (defs : List MacroDef) (passes : Nat)
    (hp : 1 ≤ passes) (p : Nat)
    (h : (applyStep (usableBins defs) (applyMacros inp defs passes).toks p).isSome = true) :
    ∃ e ∈ (applyMacros inp defs passes).errs, isMaxPasses e := by
  rcases applyMacros_flag_or_fixpoint inp defs passes hp with hm | hfix
  · exact ⟨maxPassesErr, hm, rfl⟩
  · have := hfix p
    unfold usableBins at h
    rw [this] at h
    cases h

/-- conversely, without that error the result is a fixed point of rewriting -/
theorem C11_no_error_fixpoint (inp : List Token) (defs : List MacroDef) (passes : Nat)
    (hp : 1 ≤ passes)
    (h : ∀ e ∈ (applyMacros inp defs passes).errs, ¬ isMaxPasses e) (p : Nat) :
    applyStep (usableBins defs) (applyMacros inp defs passes).toks p = none := by
  rcases applyMacros_flag_or_fixpoint inp defs passes hp with hm | hfix
  · exact absurd rfl (h maxPassesErr hm)
  · exact hfix p

/-- an unfinished expansion is never passed on as a correct program: any macro-stage error
    (in particular MAX_PASSES) makes the parse, and therefore the compilation, incorrect -/
theorem C11_not_passed_on (files : Files) (main : Bytes) :
    let pr := parseFiles files main
    (∃ e ∈ pr.ast.errs, e.kind = SynKind.forwarded PErrT.MACRO_APPLY_REACHED_MAX_PASSES) →
    pr.ast.ok = false ∧ (compile files main).ok = false := by
  exact fun ⟨e, he, _⟩ => parse_error_not_passed_on files main (List.ne_nil_of_mem he)

/-- whether a step exists does not depend on the pass number (it only names temporaries) -/
theorem C11_step_exists_indep (bs : List (List Detector)) (inp : List Token) (p q : Nat) :
    (applyStep bs inp p).isSome = (applyStep bs inp q).isSome := by
  exact applyStep_isSome_indep bs inp p q

end Theo
