/-
  C02 — every error of a compilation has a location: it names a supplied file (or the hidden
  standard-macro file, or the "-" placeholder) and a line inside that file.

  `Located files file line` is specified in `Theo/Spec/Located.lean`.  `Files` is an association
  list: when a name occurs twice, the first entry counts (`Files.get?`, the lookup used by every
  stage).  When the user supplies a file with the standard file's name, that content is what is
  scanned under the name, and its line count is the bound.

  The proof follows the token stream: every token of the scan is located (its line is between 1
  and 1 + the number of newlines of its buffer; the final EOF token takes the position of the last
  token, or (main, 1), or ("-", -1)); extraction, application (replacement tokens come from the
  stream or from bodies), the descent (errors at the current token or at the synthetic
  end-of-input ("-", -1); nodes copy token positions) and the generator (errors at the file
  context, which is ("-", -1) or the position of a visited node) only move positions around.
-/
import Theo.Proofs.LocatedScan
import Theo.Proofs.LocatedParse
import Theo.Proofs.LocatedGen
import Theo.Props.C04Sugar

namespace Theo
open Loc

theorem located_dash (files : Files) : Located files bDash (-1) := Or.inl ⟨rfl, rfl⟩

/-- the scan performed by `parseFiles` (standard file added unless supplied, include phrase in
    front of the main file): every token and every scanner error is located -/
theorem C02_scan_located (files : Files) (main : Bytes) :
    (∀ t ∈ (scan (scanFiles files main) main).toks, Located files t.file t.line) ∧
    (∀ e ∈ (scan (scanFiles files main) main).errs, Located files e.file e.line) :=
  scan_located files main

/-- a plain scan of the supplied files (no standard file): tokens and errors are at the
    placeholder or on a line of a supplied file -/
theorem C02_plain_scan_located (files : Files) (main : Bytes) :
    (∀ t ∈ (scan files main).toks, Located files t.file t.line) ∧
    (∀ e ∈ (scan files main).errs, Located files e.file e.line) := by
  have key : ∀ f l, PLoc files f l → Located files f l := by
    intro f l h
    rcases h with h | ⟨c, hc, hl⟩
    · exact Or.inl h
    · right; rw [hc]; exact hl
  exact ⟨fun t ht => key _ _ ((scan_loc files main).1 t ht),
         fun e he => key _ _ ((scan_loc files main).2 e he)⟩

/-- the token stream handed to the descent is located, and so are the errors of the stages
    before it -/
theorem parse_stream_located (files : Files) (main : Bytes) (passes : Nat) :
    ToksP (Located files) (frontEndN files main passes).1 ∧
    ErrsP (Located files) (frontEndN files main passes).2 := by
  have hs : ToksP (Located files) (scan (Sugar.frontFiles files main) main).toks ∧
      ErrsP (Located files) (scan (Sugar.frontFiles files main) main).errs := scan_located files main
  have he := extractMacros_inv (P := Located files) _ (scan_toks_ne_nil _ _) hs.1
  have ha := applyMacros_inv (P := Located files) _ _ passes (located_dash files) he.2.1 he.2.2
  refine ⟨ha.1, fun e h => ?_⟩
  rcases List.mem_append.1 h with h | h
  · rcases List.mem_append.1 h with h | h
    · exact hs.2 e h
    · exact he.1 e h
  · exact ha.2 e h

/-- every error of the front end (scanner, macro stages, descent) is located -/
theorem C02_parse_errors_located (files : Files) (main : Bytes) (passes : Nat) :
    ∀ e ∈ (parseFiles files main passes).ast.errs, Located files e.file e.line := by
  obtain ⟨htoks, herrs⟩ := parse_stream_located files main passes
  rw [parseFilesN_ast]
  intro e he
  rcases List.mem_append.1 he with h | h
  · exact parseTokens_errs _ (located_dash files) htoks e h
  · obtain ⟨x, hx, rfl⟩ := List.mem_map.1 h
    exact herrs x hx

/-- every node of the tree of a correct parse is located -/
theorem C02_tree_located (files : Files) (main : Bytes) (passes : Nat)
    (hok : (parseFiles files main passes).ast.ok = true) :
    NodeP (Located files) (parseFiles files main passes).ast.root := by
  simp only [parseFilesN_ast, astOf] at hok ⊢
  exact parseTokens_root _ (parse_stream_located files main passes).1
    (List.append_eq_nil_iff.1 (List.isEmpty_iff.1 hok)).1

/-- the generator: given located parse errors and a located tree, every error is located -/
theorem C02_gen_located (files : Files) (a : AST)
    (he : ∀ e ∈ a.errs, Located files e.file e.line)
    (hn : a.ok = true → NodeP (Located files) a.root) :
    ∀ e ∈ (gen a).errors, Located files e.file e.line :=
  gen_errors_P a (Or.inl ⟨rfl, rfl⟩) he hn

/-- every error of every compilation is located in a supplied file (or the standard file, or "-")
    on a line inside it -/
theorem C02_errors_located (files : Files) (main : Bytes) :
    ∀ e ∈ (compile files main).errors, Located files e.file e.line := by
  rw [compile_errors_eq]
  exact C02_gen_located files _ (C02_parse_errors_located files main _)
    (C02_tree_located files main _)

/-! ### the statement is not vacuous and the specification is not trivially true -/

-- m: "x0 := 1;\n\nGOTO a\n"   (jump to an undefined mark: UNKNOWN_MARK at m:3).  The text defines no
-- macro: the macro stage is `C04_sugar_frontEnd` (through `parseFiles_eval`); the scanner on the
-- text, `desugar`, the descent and the generator are evaluated.
example :
    let files : Files := [([109], [120,48,32,58,61,32,49,59,10,10,71,79,84,79,32,97,10])]
    (compile files [109]).errors = [⟨GErrT.UNKNOWN_MARK, [109], 3⟩, ⟨GErrT.UNKNOWN_MARK, [109], 3⟩] ∧
    Located files [109] 3 ∧ Located files [109] 4 ∧ ¬ Located files [109] 5 ∧ ¬ Located files [109] 0 ∧
    ¬ Located files [113] 1 ∧ Located files ConstGen.stdFileName 3 ∧ ¬ Located files ConstGen.stdFileName 4 := by
  refine ⟨?_, by decide +kernel⟩
  rw [compile_errors_eq]
  exact parseFiles_eval (content := [120,48,32,58,61,32,49,59,10,10,71,79,84,79,32,97,10])
    (P := fun a => (gen a).errors = [⟨GErrT.UNKNOWN_MARK, [109], 3⟩, ⟨GErrT.UNKNOWN_MARK, [109], 3⟩])
    (by decide) rfl (by decide +kernel)

-- the main file is missing: the placeholder
example :
    let files : Files := [([109], [120])]
    (scan files [113]).errs = [⟨PErrT.MAIN_FILE_NOT_FOUND, bDash, -1, [113]⟩] ∧
    Located files bDash (-1) ∧ ¬ Located files bDash 1 := by
  decide +kernel

-- an empty main file: the syntax error is reported in the hidden standard file, line 2 (the
-- last token of the stream is the END DEFINE of its second line).  The macro stage, here with a
-- budget of 4 passes, is `sugar_frontEndN` (through `parseFiles_eval`); the scanner on the empty
-- text, `desugar` and the descent are evaluated.
example :
    let files : Files := [([109], [])]
    (parseFiles files [109] 4).ast.errs = [⟨.expectedComponent, ConstGen.stdFileName, 2⟩] :=
  parseFiles_eval (content := []) (P := fun a => a.errs = [⟨.expectedComponent, ConstGen.stdFileName, 2⟩])
    (by decide) rfl (by decide +kernel)

-- a user file with the standard file's name replaces the hidden text: its lines count
example :
    let files : Files := [(ConstGen.stdFileName, [10, 10, 10, 10, 59])]    -- "\n\n\n\n;"
    (parseFiles files ConstGen.stdFileName 4).ast.errs.map (fun e => (e.file, e.line)) =
      [(ConstGen.stdFileName, 5), (ConstGen.stdFileName, 5), (ConstGen.stdFileName, 5),
       (ConstGen.stdFileName, 1)] ∧
    Located files ConstGen.stdFileName 5 := by
  decide +kernel

end Theo
