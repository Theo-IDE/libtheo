/-
  C12 — ambiguous macro patterns are rejected, deterministic ones are accepted.
  By-construction part: a pattern whose detector tables have a conflict is reported as non-LR
  at the position of its first pattern token and is never applied; a pattern without conflict is
  accepted silently; a rejected macro never prevents the others from being applied.
  (The semantic side — accepted patterns are prefix-deterministic; a pattern is accepted exactly
   when its detector grammar is LR(1) — is in `C12Semantic`, `C12Converse` and `C12Iff`.)
-/
import Theo.Proofs.ApplyProofs
import Theo.Proofs.MacroProofs

namespace Theo

def isNonLR (e : PErr) : Prop := e.kind = PErrT.MACRO_COMPILE_NON_LR

/-- a macro whose detector has a conflict is reported at the position of its first pattern token -/
theorem C12_rejected_reported (inp : List Token) (defs : List MacroDef) (passes : Nat) (m : MacroDef)
    (hm : m ∈ defs) (hc : (mkDetector m).tables.conflicts ≠ []) :
    ∃ e ∈ (applyMacros inp defs passes).errs, isNonLR e ∧
      e.file = (m.rule.head?.getD default).file ∧ e.line = (m.rule.head?.getD default).line := by
  obtain ⟨tl, htl, _⟩ := applyMacros_errs inp defs passes
  have hu : (mkDetector m).usable = false := by
    cases hcs : (mkDetector m).tables.conflicts with
    | nil => exact absurd hcs hc
    | cons x xs => simp [Detector.usable, hcs]
  refine ⟨_, by rw [htl]; exact List.mem_append_left _ (List.mem_filterMap.mpr ⟨mkDetector m, List.mem_map.mpr ⟨m, hm, rfl⟩, by rw [hu]; rfl⟩), ?_, rfl, rfl⟩
  exact (rfl : _ = PErrT.MACRO_COMPILE_NON_LR)

/-- the NON_LR errors of a run are, in definition order, one per definition whose detector has a
    conflict, at the position of its first pattern token: a conflict-free definition causes none -/
theorem C12_accepted_silent (inp : List Token) (defs : List MacroDef) (passes : Nat) :
    ((applyMacros inp defs passes).errs.filter (fun e => decide (e.kind = PErrT.MACRO_COMPILE_NON_LR))).map
        (fun e => (e.file, e.line)) =
      ((defs.filter (fun m => !(mkDetector m).usable)).map
        (fun m => ((m.rule.head?.getD default).file, (m.rule.head?.getD default).line))) := by
  obtain ⟨tl, htl, hk⟩ := applyMacros_errs inp defs passes
  have htl0 : tl.filter (fun e => decide (e.kind = PErrT.MACRO_COMPILE_NON_LR)) = [] := by
    rw [List.filter_eq_nil_iff]
    intro e he
    rw [hk e he]
    decide
  rw [htl, List.filter_append, htl0, List.append_nil]
  exact nonLRErrs_filter defs

/-- a rejected macro is never applied: every rewriting step uses a conflict-free detector of a
    supplied definition -/
theorem C12_never_applied (defs : List MacroDef) (inp : List Token) (p : Nat)
    (d : Detector) (r : Response) (out : List Token)
    (h : applyStep (bins ((defs.map mkDetector).filter (·.usable))) inp p = some (d, r, out)) :
    d.tables.conflicts = [] ∧ d.md ∈ defs := by
  exact step_usable defs inp p d r out h

/-- a rejected macro never prevents the others from being applied: the result (stream, number of
    rewrites) is the one obtained from the accepted definitions alone -/
theorem C12_independent (inp : List Token) (defs : List MacroDef) (passes : Nat) :
    (applyMacros inp defs passes).toks =
      (applyMacros inp (defs.filter (fun m => (mkDetector m).usable)) passes).toks ∧
    (applyMacros inp defs passes).rewrites =
      (applyMacros inp (defs.filter (fun m => (mkDetector m).usable)) passes).rewrites := by
  cases passes with
  | zero => exact ⟨rfl, rfl⟩
  | succ k =>
    rw [applyMacros_succ_toks, applyMacros_succ_toks, applyMacros_succ_rewrites,
      applyMacros_succ_rewrites, usable_filter_eq]
    exact ⟨rfl, rfl⟩

/-- the detector is built in prefix mode over the grammar generated from macro.cpp, with the
    pattern as the rule of `MACRO` -/
theorem C12_detector_is_prefix_lr (m : MacroDef) :
    (mkDetector m).tables = (genTables (detectorGrammar m) DetGen.macroNT Tok.T_EOF true detectorStateFuel).1 := by
  rfl

end Theo
