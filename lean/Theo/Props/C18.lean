/-
  C18 — compilation and execution are deterministic and share no state (model level).
  Every Lean function is deterministic, so what can be *proved* is modest: in a process whose
  state is a finite collection of VM instances and nothing else, a compilation's response does
  not depend on the history, and the calls on one instance neither see nor change another.
  That "nothing else" describes the C++ process (no hidden static state, no data race) is runtime
  behaviour: it is checked by the symbol audit, history-permuted runs and ThreadSanitizer.
-/
import Theo.Proofs.ProcProofs

namespace Theo

/-- a compilation changes nothing and answers `compile files main`, whatever happened before -/
theorem C18_compile_pure (s : Proc) (files : Files) (main : Bytes) :
    procStep s (.compile files main) = (s, .compiled (compile files main)) := by
  rfl

/-- an operation on instance `i` leaves every other instance untouched -/
theorem C18_other_instances_untouched (s : Proc) (op : POp) (i j : Nat) (h : op.instance? = some i) (hne : j ≠ i) :
    (procStep s op).1.lookup j = s.lookup j := by
  exact procStep_lookup_other s op j fun e => hne (Option.some.inj (e.symm.trans h))

/-- the state of instance `i` and the responses to its operations in any interleaved history are
    those of its own sub-history run alone -/
theorem C18_noninterference (ops : List POp) (i : Nat) :
    (procRun [] ops).1.lookup i = (procRun [] (ops.filter (fun o => o.instance? = some i))).1.lookup i ∧
    ((ops.zip (procRun [] ops).2).filter (fun x => x.1.instance? = some i)).map (·.2) =
      (procRun [] (ops.filter (fun o => o.instance? = some i))).2 := by
  exact procRun_noninterference ops i [] [] rfl

end Theo
