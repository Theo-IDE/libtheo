/-
  C12 (semantic side) — what acceptance and rejection of a pattern mean.
  Uses soundness and completeness of the LR(1) construction (C13) on the detector grammar that
  the translator regenerates from macro.cpp.
-/
import Theo.Proofs.DetectorProofs
import Theo.Props.C13Complete

namespace Theo

/-- the column range of a detector's tables -/
def detMaxT (m : MacroDef) : Nat := ((detectorGrammar m).augment DetGen.macroNT Tok.T_EOF).maxTerminal

/-- the pattern can be recognised deterministically on a prefix of the input: a stream of token
    kinds has at most one prefix (followed by at least one more token) that derives from the
    pattern, and that prefix has exactly one derivation (one split into slot fillers) -/
def PrefixDeterministic (m : MacroDef) : Prop :=
  ∀ (t t' : Tree) (inp : List Nat),
    t.Valid (detectorGrammar m) → t.root = .n DetGen.macroNT →
    t'.Valid (detectorGrammar m) → t'.root = .n DetGen.macroNT →
    (∃ a rest, inp = t.yield ++ a :: rest ∧ a ≤ detMaxT m) →
    (∃ a rest, inp = t'.yield ++ a :: rest ∧ a ≤ detMaxT m) → t = t'

/-- the state budget of the detector construction was not exhausted (a decidable side condition,
    reported by the driver for every macro it builds) -/
def DetectorComplete (m : MacroDef) : Prop :=
  (genTables (detectorGrammar m) DetGen.macroNT Tok.T_EOF true detectorStateFuel).2 < detectorStateFuel

/-- the rule tokens are ordinary tokens of the scanner's range (no end-of-file token) -/
def RuleOK (m : MacroDef) : Prop := ∀ t ∈ m.rule, t.kind ≠ Tok.T_EOF ∧ t.kind ≤ Tok.UNKNOWN

/-- an accepted pattern is prefix-deterministic -/
theorem C12_accepted_deterministic (m : MacroDef) (hr : RuleOK m) (hf : DetectorComplete m)
    (hc : (mkDetector m).tables.conflicts = []) : PrefixDeterministic m := by
  intro t t' inp ht hrt ht' hrt' hp hp'
  exact C13_prefix_unique (detectorGrammar m) DetGen.macroNT Tok.T_EOF detectorStateFuel t t' inp
    (DetectorProofs.det_closed m) (DetectorProofs.det_start_lt m)
    (DetectorProofs.det_eof_notin m (fun x hx => (hr x hx).1)) ht hrt ht' hrt' hp hp' hc hf

/-- a pattern that is not prefix-deterministic is rejected -/
theorem C12_nondeterministic_rejected (m : MacroDef) (hr : RuleOK m) (hf : DetectorComplete m)
    (hn : ¬ PrefixDeterministic m) : (mkDetector m).tables.conflicts ≠ [] := by
  intro hc
  exact hn (C12_accepted_deterministic m hr hf hc)

section
open DetectorProofs

/-- two derivations of the last pattern symbol, one a proper prefix of the other's yield: the
    shorter match can be continued, so the pattern is not prefix-deterministic -/
theorem two_trees (m : MacroDef) (init : List Token) (last : Token) (hm : m.rule = init ++ [last])
    (s1 s2 : Tree) (h1 : s1.Valid (detectorGrammar m)) (h2 : s2.Valid (detectorGrammar m))
    (hr1 : s1.root = ruleSym last) (hr2 : s2.root = ruleSym last)
    (sep : Nat) (y' : List Nat) (hy : s2.yield = s1.yield ++ sep :: y') (hsep : sep ≤ Tok.WITH) :
    ¬ PrefixDeterministic m := by
  have hmax := det_maxT_ge m
  have hvalid : ∀ s : Tree, s.Valid (detectorGrammar m) → s.root = ruleSym last →
      (Tree.node DetGen.macroNT 0 (Forest.ofList (init.map sample ++ [s]))).Valid (detectorGrammar m) := by
    intro s hs hr
    apply macro_valid
    · rw [hm, List.map_append, List.map_append, List.map_map]
      exact congr (congrArg _ (List.map_congr_left (fun t _ => (sample_ok m t).1))) (by simp [hr])
    · intro t ht
      rcases List.mem_append.mp ht with ht | ht
      · obtain ⟨x, _, rfl⟩ := List.mem_map.mp ht
        exact (sample_ok m x).2
      · simp only [List.mem_singleton] at ht; subst ht; exact hs
  have hyield : ∀ s : Tree, (Tree.node DetGen.macroNT 0 (Forest.ofList (init.map sample ++ [s]))).yield =
      ((init.map sample).map Tree.yield).flatten ++ s.yield := by
    intro s
    simp [Tree.yield, LRSound.yield_ofList]
  intro hd
  have := congrArg (fun t => t.yield.length)
    (hd _ _ (((init.map sample).map Tree.yield).flatten ++ s2.yield ++ [0])
      (hvalid s1 h1 hr1) rfl (hvalid s2 h2 hr2) rfl
      ⟨sep, y' ++ [0], by rw [hyield, hy]; simp, by unfold detMaxT; omega⟩
      ⟨0, [], by rw [hyield], by omega⟩)
  simp only [hyield, hy] at this
  simp at this

theorem ends_nondet (m : MacroDef) (last : Token) (hl : m.rule.getLast? = some last)
    (hk : last.kind = Tok.PROG_TEMP ∨ last.kind = Tok.ARGS_TEMP) : ¬ PrefixDeterministic m := by
  obtain ⟨init, hm⟩ := List.getLast?_eq_some_iff.mp hl
  have hv : argsT.Valid fixedG ∧ argsT2.Valid fixedG ∧ progT.Valid fixedG ∧ progT2.Valid fixedG := by
    decide +kernel
  rcases hk with hk | hk
  · have hs : ruleSym last = .n 4 := by simp [ruleSym, DetGen.slotNT, hk, Tok.PROG_TEMP]  -- P
    exact two_trees m init last hm progT progT2 (fixed_valid m hv.2.2.1) (fixed_valid m hv.2.2.2)
      (by rw [hs]; rfl) (by rw [hs]; rfl) Tok.PROGSEP [Tok.STOP] (by decide) (by decide)
  · have hs : ruleSym last = .n 3 := by simp [ruleSym, DetGen.slotNT, hk, Tok.ARGS_TEMP]  -- ARGS
    exact two_trees m init last hm argsT argsT2 (fixed_valid m hv.1) (fixed_valid m hv.2.1)
      (by rw [hs]; rfl) (by rw [hs]; rfl) Tok.ARGSEP [Tok.ID] (by decide) (by decide)

end

/-- in particular every pattern ending in a statement-sequence slot or an argument-list slot is
    rejected (`… <P>` could always be continued by `; statement`, `… <ARGS>` by `, value`) -/
theorem C12_ends_in_P_or_ARGS (m : MacroDef) (hr : RuleOK m) (hf : DetectorComplete m)
    (last : Token) (hl : m.rule.getLast? = some last)
    (hk : last.kind = Tok.PROG_TEMP ∨ last.kind = Tok.ARGS_TEMP) :
    (mkDetector m).tables.conflicts ≠ [] :=
  C12_nondeterministic_rejected m hr hf (ends_nondet m last hl hk)

end Theo
