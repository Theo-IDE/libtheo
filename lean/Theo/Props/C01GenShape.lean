/-
  C01 for the generator model — the code `gen` emits for an accepted source has the shape of the
  compilation scheme for that source: `shapeCheck (toSource root) (gen ⟨true, [], root⟩).code`.

  Props/C01.lean proves the validator `shapeCheck` sound, so that running it on a compiled program
  establishes C01 for that program (translation validation).  Here the validator's verdict is
  PROVED for the generator model, for all trees of the parser's shape that obey the static
  rules — the traversal of `shapeCheck` is mirrored by an induction over the
  generator's dispatch functions (Proofs/GenShape*.lean: values and argument lists with their
  temporaries, statements with labels and backpatched jumps, PROGRAM definitions, the root frame).

  Side condition `NamesOK` (decidable, on the tree).  It has three parts; each is needed — a
  concrete accepted tree violating only that part is rejected by `shapeCheck` (witnesses below) —
  and each holds for every tree the parser builds from an error-free parse of a source a user
  can write, except the third, where the language documentation leaves the treatment open:

  1. USER VARIABLES (`varOK`): every token used as a variable — target of an assignment, NAME
     operand of a value or argument, count of LOOP, condition of WHILE, operand of IF, parameter
     and OUT of a PROGRAM header — neither starts with "Loop Variable " nor is "Temporary Variable".
       * prefix "Loop Variable ": `RInfo.regOf` refuses such names as user variables (they are the
         names of the hidden loop counters), so the validator cannot even look the register up;
         necessary at every one of these positions (witnesses `ctrVar`, `ctrParam`).
       * "Temporary Variable" is the name the generator gives its temporaries, and
         `fetchVariableRegister` looks registers up by name among ALL registers: a user variable of
         that name used after a temporary exists is ALIASED to the temporary (witness `tmpVar`;
         the generator's code is then wrong, not just unvalidated: the "variable" is clobbered by
         the next value computed into that temporary).
     Identifier tokens are `[a-zA-Z_][a-zA-Z0-9_]*` (C14) or macro temporaries `#n:file:line_(Mk)`;
     both satisfy `varOK` (`varOK_of_identShape`, `varOK_of_hash`): neither contains the blank of
     the two reserved spellings at the position where it matters.
  2. PRESENT OPERANDS: the nodes the compilation scheme reads a value from are present — the
     right side of an assignment, the variable of LOOP / WHILE, both operands of IF.  `AstShape`
     (deliberately liberal) admits an absent child there; the generator then emits nothing while
     `toSource` reads the constant 0 / the empty name (witnesses `absentValue`, `absentCount`).  An
     error-free parse always builds these nodes (`matchmk` / `pVALUE` return `nil` only with an
     error recorded).
  3. JUMP TARGETS ARE UNIQUE (`labelsOK`): a label that some GOTO / IF … THEN GOTO of a routine
     body jumps to is defined at most once in that body.  Duplicate labels are legal for the
     compiler; the reference semantics (`findLabel`) takes the FIRST definition, the generator's
     label table keeps the LAST (`setLabel` overwrites) — so with a repeated target the emitted
     code does in general NOT compute the reference semantics, and `resolveOK` rejects it
     (witness `dupLabel`).  Labels that are never jumped to (in particular the END keywords of
     loops and programs, which the parser also turns into marks) may repeat freely.
  No condition on program names, on label spellings, on file names, on the hidden counters of
  different routines: the proofs need none.

  Parts 1 and 2 are PROVED for the parser (`C01_parser_names`, Proofs/GenShapeParse.lean): for an
  error-free parse of a token stream whose ID tokens are identifier-shaped or macro temporaries,
  `NamesOK` is exactly part 3 (`LabelsOK`).  `C01_gen_shape_parsed` is the property in that form.
-/
import Theo.Proofs.GenShapeGen
import Theo.Proofs.GenShapeParse
import Theo.Props.C01
import Theo.Props.C04Static
import Theo.Spec.Identifier

namespace Theo
open Sem GenShape

/-- side condition on the identifier tokens of a tree (see the header): user variables are not
    spelt like hidden counters or temporaries, value operands are present, and jump targets are
    defined at most once per routine body -/
def NamesOK (root : Node) : Bool := astNames root

/-! ### the definition, unfolded (the components live in Proofs/GenShape*.lean) -/

theorem NamesOK_varOK (x : Bytes) : varOK x = (!bLoopVar.isPrefixOf x && x != bTempName) := rfl

theorem NamesOK_value (t : Nat) (tok file : Bytes) (line : Int) (l r : Node) :
    valNames (.mk t tok file line l r) =
      if t = NodeT.SPLIT then valNames l && valNames r
      else if t = NodeT.NAME then varOK tok
      else if t = NodeT.CALL then valNames r
      else true := valNames_mk t tok file line l r

theorem NamesOK_stmt (t : Nat) (tok file : Bytes) (line : Int) (l r : Node) :
    stmtNames (.mk t tok file line l r) =
      if t = NodeT.SPLIT then stmtNames l && stmtNames r
      else if t = NodeT.ASSIGN then varOK l.tok && !isNil r && valNames r
      else if t = NodeT.LOOP ∨ t = NodeT.WHILE then !isNil l && varOK l.tok && stmtNames r
      else if t = NodeT.IF then !isNil l.left && !isNil l.right && varOK l.left.tok
      else true := stmtNames_mk t tok file line l r

theorem NamesOK_labels (b : Node) :
    labelsOK b = (Static.refsOf b).all (fun m => decide ((Static.defsOf b).count m ≤ 1)) := rfl

theorem NamesOK_header (hdr : Node) :
    progNames hdr = ((namesOf hdr.right.left).all varOK && varOK (Static.outNameOf hdr.right.right)) := rfl

theorem NamesOK_tree (t : Nat) (tok file : Bytes) (line : Int) (l r : Node) :
    NamesOK (.mk t tok file line l r) =
      if t = NodeT.SPLIT ∧ l.ty = NodeT.PROGRAM then
        progNames l.left && stmtNames l.right && labelsOK l.right && NamesOK r
      else stmtNames (.mk t tok file line l r) && labelsOK (.mk t tok file line l r) := by
  unfold NamesOK; rw [astNames]

/-- the code the generator model emits for a tree of the parser's shape that obeys the static
    rules and `NamesOK` has the shape of the compilation scheme for its source -/
theorem C01_gen_shape (root : Node) (h : AstShape root = true)
    (hs : staticOK (toSource root) = true) (hn : NamesOK root = true) :
    shapeCheck (toSource root) (gen ⟨true, [], root⟩).code = true :=
  gen_shape root h hs hn

/-- … in terms of the generator's own verdict (C04): an accepted tree -/
theorem C01_gen_shape_of_ok (root : Node) (h : AstShape root = true)
    (hok : (gen ⟨true, [], root⟩).ok = true) (hn : NamesOK root = true) :
    shapeCheck (toSource root) (gen ⟨true, [], root⟩).code = true :=
  C01_gen_shape root h ((C04_static_ok_iff root h).1 hok) hn

/-- combined with C01: the model's code for an accepted source computes the reference semantics
    (`wfCheck`, the bytecode verifier, is the subject of Proofs/GenWF*.lean) -/
theorem C01_gen_halts_same_values (root : Node) (h : AstShape root = true)
    (hs : staticOK (toSource root) = true) (hn : NamesOK root = true)
    (hw : wfCheck (gen ⟨true, [], root⟩).code = true)
    (n : Nat) (hh : (Sem.run (toSource root) n (initial (toSource root)) 0).1.status = .halted) :
    ∃ m vm, vmRun (gen ⟨true, [], root⟩).code m = .ok vm ∧ vm.isDone = .ok true ∧
      ViewsAgree (gen ⟨true, [], root⟩).code (Sem.run (toSource root) n (initial (toSource root)) 0).1 vm :=
  C01_halts_same_values _ _ (C01_gen_shape root h hs hn) hw n hh

theorem C01_gen_diverges (root : Node) (h : AstShape root = true)
    (hs : staticOK (toSource root) = true) (hn : NamesOK root = true)
    (hw : wfCheck (gen ⟨true, [], root⟩).code = true)
    (hd : ∀ n, (Sem.run (toSource root) n (initial (toSource root)) 0).1.status = .running) :
    ∀ m vm, vmRun (gen ⟨true, [], root⟩).code m = .ok vm → vm.isDone = .ok false :=
  C01_diverges _ _ (C01_gen_shape root h hs hn) hw hd

/-- the reference execution of an accepted source never gets stuck -/
theorem C01_gen_never_stuck (root : Node) (h : AstShape root = true)
    (hs : staticOK (toSource root) = true) (hn : NamesOK root = true) (n : Nat) :
    (Sem.run (toSource root) n (initial (toSource root)) 0).1.status ≠ .stuck :=
  C01_never_stuck _ _ (C01_gen_shape root h hs hn) n

/-! ### identifiers a user can write satisfy part 1 -/

theorem varOK_of_no_blank (x : Bytes) (h : (32 : UInt8) ∉ x) : varOK x = true := by
  unfold varOK
  rw [Bool.and_eq_true]
  constructor
  · cases hp : bLoopVar.isPrefixOf x with
    | false => rfl
    | true =>
      exfalso
      obtain ⟨t, rfl⟩ := List.isPrefixOf_iff_prefix.1 hp
      exact h (List.mem_append_left _ (by decide))
  · simp only [bne_iff_ne, ne_eq]
    intro he
    exact h (he ▸ by decide)

/-- identifiers `[a-zA-Z_][a-zA-Z0-9_]*` -/
theorem varOK_of_identShape (x : Bytes) (h : identShape x = true) : varOK x = true := by
  apply varOK_of_no_blank
  intro hin
  cases x with
  | nil => cases hin
  | cons c cs =>
    simp only [identShape, Bool.and_eq_true, List.all_eq_true] at h
    rcases List.mem_cons.1 hin with h1 | h1
    · rw [← h1] at h; exact absurd h.1 (by decide)
    · exact absurd (h.2 _ h1) (by decide)

/-- macro temporaries `#n:file:line_(Mk)` -/
theorem varOK_of_hash (x : Bytes) (h : x.head? = some 35) : varOK x = true := by
  unfold varOK
  cases x with
  | nil => cases h
  | cons c cs =>
    have hc : c = 35 := by simpa using h
    subst hc
    simp [bLoopVar, bTempName, List.isPrefixOf]

/-! ### … and the parser's trees satisfy parts 1 and 2: for parsed sources only part 3 remains -/

/-- part 3 alone: in every routine body, the jump targets are defined at most once -/
def LabelsOK (root : Node) : Bool := astLabels root

theorem LabelsOK_tree (t : Nat) (tok file : Bytes) (line : Int) (l r : Node) :
    LabelsOK (.mk t tok file line l r) =
      if t = NodeT.SPLIT ∧ l.ty = NodeT.PROGRAM then labelsOK l.right && LabelsOK r
      else labelsOK (.mk t tok file line l r) := by
  unfold LabelsOK; rw [astLabels]

/-- for an error-free parse of a token stream whose ID tokens are user variables, `NamesOK` IS the
    uniqueness of jump targets -/
theorem C01_parser_names (ts : List Token) (he : (parseTokens ts).2 = [])
    (hid : ∀ t ∈ ts, t.kind = Tok.ID → varOK t.text = true) :
    NamesOK (parseTokens ts).1 = LabelsOK (parseTokens ts).1 := by
  unfold NamesOK LabelsOK
  rw [astNames_eq, parser_idents ts he hid]; rfl

/-- an error-free parse of a token stream whose `ID` tokens are identifier-shaped or start with `#`
    satisfies `NamesOK` as soon as no jump target is repeated -/
theorem C01_parsed_names (ts : List Token) (he : (parseTokens ts).2 = [])
    (hid : ∀ t ∈ ts, t.kind = Tok.ID → identShape t.text = true ∨ t.text.head? = some 35)
    (hl : LabelsOK (parseTokens ts).1 = true) : NamesOK (parseTokens ts).1 = true := by
  rw [C01_parser_names ts he fun t ht hk =>
    (hid t ht hk).elim (varOK_of_identShape _) (varOK_of_hash _)]
  exact hl

/-- the property for parsed sources: error-free parse, identifiers as a user can write them
    (identifier-shaped, or macro temporaries starting with `#`), the static rules, and no
    repeated jump target -/
theorem C01_gen_shape_parsed (ts : List Token) (he : (parseTokens ts).2 = [])
    (hid : ∀ t ∈ ts, t.kind = Tok.ID → identShape t.text = true ∨ t.text.head? = some 35)
    (hs : staticOK (toSource (parseTokens ts).1) = true) (hl : LabelsOK (parseTokens ts).1 = true) :
    shapeCheck (toSource (parseTokens ts).1) (gen ⟨true, [], (parseTokens ts).1⟩).code = true :=
  C01_gen_shape _ (Static.parser_shape ts he) hs (C01_parsed_names ts he hid hl)

/-! ### non-vacuity -/

namespace C01GenDemo
def tk (k : Nat) (s : Bytes) : Token := ⟨k, s, [109], 1⟩

/-- `PROGRAM f IN a , b OUT c DO c := a ; LOOP b DO c := RUN __INC__ WITH c , 1 END END END
     x := RUN f WITH 3 , RUN f WITH 1 , 2 END END ; l : x := RUN __DEC__ WITH x , 1 END ;
     IF x = 0 THEN GOTO e ; GOTO l ; e : STOP`
    — a definition, a nested call, a loop, labels, a GOTO and a conditional GOTO -/
def demo : List Token :=
  [tk Tok.PROGRAM [80, 82, 79, 71, 82, 65, 77], tk Tok.ID [102], tk Tok.IN [73, 78], tk Tok.ID [97], tk Tok.ARGSEP [44],
   tk Tok.ID [98], tk Tok.OUT [79, 85, 84], tk Tok.ID [99], tk Tok.DO [68, 79], tk Tok.ID [99], tk Tok.ASSIGN [58, 61],
   tk Tok.ID [97], tk Tok.PROGSEP [59], tk Tok.LOOP [76, 79, 79, 80], tk Tok.ID [98], tk Tok.DO [68, 79], tk Tok.ID [99],
   tk Tok.ASSIGN [58, 61], tk Tok.RUN [82, 85, 78], tk Tok.ID [95, 95, 73, 78, 67, 95, 95], tk Tok.WITH [87, 73, 84, 72],
   tk Tok.ID [99], tk Tok.ARGSEP [44], tk Tok.INT [49], tk Tok.END [69, 78, 68], tk Tok.END [69, 78, 68],
   tk Tok.END [69, 78, 68], tk Tok.ID [120], tk Tok.ASSIGN [58, 61], tk Tok.RUN [82, 85, 78], tk Tok.ID [102],
   tk Tok.WITH [87, 73, 84, 72], tk Tok.INT [51], tk Tok.ARGSEP [44], tk Tok.RUN [82, 85, 78], tk Tok.ID [102],
   tk Tok.WITH [87, 73, 84, 72], tk Tok.INT [49], tk Tok.ARGSEP [44], tk Tok.INT [50], tk Tok.END [69, 78, 68],
   tk Tok.END [69, 78, 68], tk Tok.PROGSEP [59], tk Tok.ID [108], tk Tok.LABELDEC [58], tk Tok.ID [120],
   tk Tok.ASSIGN [58, 61], tk Tok.RUN [82, 85, 78], tk Tok.ID [95, 95, 68, 69, 67, 95, 95], tk Tok.WITH [87, 73, 84, 72],
   tk Tok.ID [120], tk Tok.ARGSEP [44], tk Tok.INT [49], tk Tok.END [69, 78, 68], tk Tok.PROGSEP [59], tk Tok.IF [73, 70],
   tk Tok.ID [120], tk Tok.EQ [61], tk Tok.INT [48], tk Tok.THEN [84, 72, 69, 78], tk Tok.GOTO [71, 79, 84, 79],
   tk Tok.ID [101], tk Tok.PROGSEP [59], tk Tok.GOTO [71, 79, 84, 79], tk Tok.ID [108], tk Tok.PROGSEP [59],
   tk Tok.ID [101], tk Tok.LABELDEC [58], tk Tok.STOP [83, 84, 79, 80], tk Tok.T_EOF [69, 79, 70]]

/-- all hypotheses hold for the parser's tree (kernel-checked) … -/
theorem demo_hyps : (parseTokens demo).2 = [] ∧ AstShape (parseTokens demo).1 = true ∧
    staticOK (toSource (parseTokens demo).1) = true ∧ NamesOK (parseTokens demo).1 = true := by
  have h : (parseTokens demo).2 = [] ∧ AstShape (parseTokens demo).1 = true ∧
      Static.topOK (fun _ => none) (parseTokens demo).1 = true ∧ NamesOK (parseTokens demo).1 = true := by
    decide +kernel
  exact ⟨h.1, h.2.1, Static.topOK_static _ h.2.1 ▸ h.2.2.1, h.2.2.2⟩

/-- … hence its code validates, without running the validator -/
theorem demo_validates :
    shapeCheck (toSource (parseTokens demo).1) (gen ⟨true, [], (parseTokens demo).1⟩).code = true :=
  C01_gen_shape _ demo_hyps.2.1 demo_hyps.2.2.1 demo_hyps.2.2.2

example : shapeCheck (toSource (parseTokens demo).1) (gen ⟨true, [], (parseTokens demo).1⟩).code = true := by
  exact demo_validates

/-! ### each part of `NamesOK` is needed: accepted trees (parser shape, static rules) that violate
    one part only and whose code the validator rejects.  The acceptance is kernel-checked; the
    validator's verdict is evaluated (`toSource` is defined by well-founded recursion and does not
    reduce in the kernel — `#guard` fails the build if the evaluation changes). -/

/-- part 1, hidden-counter prefix: `Loop Variable  := 4` (the variable is named "Loop Variable ") -/
def ctrVar : List Token :=
  [tk Tok.ID [76, 111, 111, 112, 32, 86, 97, 114, 105, 97, 98, 108, 101, 32], tk Tok.ASSIGN [58, 61], tk Tok.INT [52],
   tk Tok.T_EOF [69, 79, 70]]

/-- part 1, a parameter with the hidden-counter prefix: `PROGRAM f IN Loop Variable x DO x0 := 1 END y := 2` -/
def ctrParam : List Token :=
  [tk Tok.PROGRAM [80, 82, 79, 71, 82, 65, 77], tk Tok.ID [102], tk Tok.IN [73, 78],
   tk Tok.ID [76, 111, 111, 112, 32, 86, 97, 114, 105, 97, 98, 108, 101, 32, 120], tk Tok.DO [68, 79], tk Tok.ID [120, 48],
   tk Tok.ASSIGN [58, 61], tk Tok.INT [49], tk Tok.END [69, 78, 68], tk Tok.ID [121], tk Tok.ASSIGN [58, 61], tk Tok.INT [50],
   tk Tok.T_EOF [69, 79, 70]]

/-- part 1, the name of the temporaries: `x := RUN __INC__ WITH y , 1 END ; Temporary Variable := 4` -/
def tmpVar : List Token :=
  [tk Tok.ID [120], tk Tok.ASSIGN [58, 61], tk Tok.RUN [82, 85, 78], tk Tok.ID [95, 95, 73, 78, 67, 95, 95],
   tk Tok.WITH [87, 73, 84, 72], tk Tok.ID [121], tk Tok.ARGSEP [44], tk Tok.INT [49], tk Tok.END [69, 78, 68],
   tk Tok.PROGSEP [59], tk Tok.ID [84, 101, 109, 112, 111, 114, 97, 114, 121, 32, 86, 97, 114, 105, 97, 98, 108, 101],
   tk Tok.ASSIGN [58, 61], tk Tok.INT [52], tk Tok.T_EOF [69, 79, 70]]

/-- part 3, a repeated jump target: `l : x := 4 ; l : GOTO l` -/
def dupLabel : List Token :=
  [tk Tok.ID [108], tk Tok.LABELDEC [58], tk Tok.ID [120], tk Tok.ASSIGN [58, 61], tk Tok.INT [52], tk Tok.PROGSEP [59],
   tk Tok.ID [108], tk Tok.LABELDEC [58], tk Tok.GOTO [71, 79, 84, 79], tk Tok.ID [108], tk Tok.T_EOF [69, 79, 70]]

/-- part 2, an absent value (not a parser tree): the assignment `x := <nothing>` -/
def absentValue : Node :=
  .mk NodeT.ASSIGN [] [109] 1 (.mk NodeT.NAME [120] [109] 1 .nil .nil) .nil

/-- part 2, an absent loop count: `LOOP <nothing> DO x := 1 END` -/
def absentCount : Node :=
  .mk NodeT.LOOP [] [109] 1 .nil
    (.mk NodeT.ASSIGN [] [109] 1 (.mk NodeT.NAME [120] [109] 1 .nil .nil) (.mk NodeT.NUMBER [49] [109] 1 .nil .nil))

def accepted (root : Node) : Prop := AstShape root = true ∧ staticOK (toSource root) = true
def rejected (root : Node) : Bool := !shapeCheck (toSource root) (gen ⟨true, [], root⟩).code

theorem accepted_of_topOK (root : Node) (h : AstShape root = true) (ht : Static.topOK (fun _ => none) root = true) :
    accepted root := ⟨h, by rw [← Static.topOK_static _ h]; exact ht⟩

/-- `toSource` does not reduce in the kernel; `Static.topOK` reads the static rules off the tree -/
instance (root : Node) : Decidable (accepted root) :=
  decidable_of_iff (AstShape root = true ∧ Static.topOK (fun _ => none) root = true)
    ⟨fun h => accepted_of_topOK root h.1 h.2, fun h => ⟨h.1, Static.topOK_static root h.1 ▸ h.2⟩⟩

example : (parseTokens ctrVar).2 = [] ∧ accepted (parseTokens ctrVar).1 ∧ NamesOK (parseTokens ctrVar).1 = false := by
  decide +kernel
#guard rejected (parseTokens ctrVar).1

example : (parseTokens ctrParam).2 = [] ∧ accepted (parseTokens ctrParam).1 ∧ NamesOK (parseTokens ctrParam).1 = false := by
  decide +kernel
#guard rejected (parseTokens ctrParam).1

example : (parseTokens tmpVar).2 = [] ∧ accepted (parseTokens tmpVar).1 ∧ NamesOK (parseTokens tmpVar).1 = false := by
  decide +kernel
#guard rejected (parseTokens tmpVar).1

example : (parseTokens dupLabel).2 = [] ∧ accepted (parseTokens dupLabel).1 ∧ NamesOK (parseTokens dupLabel).1 = false := by
  decide +kernel
#guard rejected (parseTokens dupLabel).1

example : accepted absentValue ∧ NamesOK absentValue = false := by
  decide +kernel
#guard rejected absentValue

example : accepted absentCount ∧ NamesOK absentCount = false := by
  decide +kernel
#guard rejected absentCount

/-- the generator accepts them all (no error recorded): the rejection is the validator's -/
example : (gen ⟨true, [], (parseTokens dupLabel).1⟩).ok = true :=
  have h : accepted (parseTokens dupLabel).1 := by decide +kernel
  (C04_static_ok_iff _ h.1).2 h.2

end C01GenDemo

end Theo
