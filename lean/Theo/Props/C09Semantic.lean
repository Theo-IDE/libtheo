/-
  C09 (semantic side) — a rewriting step replaces a token range that *derives from the macro's
  pattern*, each slot filled by a complete identifier / integer / value / argument list /
  statement sequence; and when the pattern is accepted, every such range is found.
-/
import Theo.Proofs.DetectorProofs

namespace Theo

/-- what a detection means: the matched tokens are a prefix of the stream deriving from the
    pattern, `split` is the list of the yields of the pattern's symbols in pattern order
    (so `split[i]` for a slot is exactly the token range that fills it), `total` has the
    same length as the matched range -/
theorem C09_match_derives (m : MacroDef) (inp : List Token) (a : Accum)
    (h : detectAt (mkDetector m) inp = some a) :
    ∃ (k : Nat) (cs : Forest),
      (Tree.node DetGen.macroNT k cs).Valid (detectorGrammar m) ∧
      cs.roots = m.rule.map ruleSym ∧
      a.split.flatten = inp.take a.total.length ∧
      a.total.length ≤ inp.length ∧
      a.split.map (fun ts => ts.map (·.kind)) = cs.toList.map Tree.yield := by
  obtain ⟨k, cs, h1, h2, h3, h4, h5, _⟩ := DetectorProofs.match_derives m inp a h
  exact ⟨k, cs, h1, h2, h3, h4, h5⟩

/-- literal identifiers, integers and operator characters of the pattern are additionally
    compared by text -/
theorem C09_text_constraints (m : MacroDef) (split : List (List Token)) (h : checkConstraint m split = true)
    (ci : Nat) (hci : ci ∈ m.cc) :
    ∃ req f, m.rule[ci]? = some req ∧ split[ci]? = some [f] ∧ f.text = req.text := by
  unfold checkConstraint at h
  rw [List.all_eq_true] at h
  have := h ci hci
  split at this
  · rename_i req f h1 h2
    exact ⟨req, f, h1, h2, by simpa using this⟩
  · simp at this

/-- completeness: if the pattern is accepted (no conflict) and some prefix of the stream, followed
    by at least one more token, derives from the pattern, the detector finds it — with exactly
    that split (`hr` is not needed by the proof) -/
theorem C09_match_complete (m : MacroDef)
    (hr : ∀ t ∈ m.rule, t.kind ≠ Tok.T_EOF ∧ t.kind ≤ Tok.UNKNOWN)
    (hf : (genTables (detectorGrammar m) DetGen.macroNT Tok.T_EOF true detectorStateFuel).2 < detectorStateFuel)
    (hc : (mkDetector m).tables.conflicts = [])
    (k : Nat) (cs : Forest) (hv : (Tree.node DetGen.macroNT k cs).Valid (detectorGrammar m))
    (inp : List Token) (n : Nat) (hn : n < inp.length)
    (hy : (inp.take n).map (·.kind) = cs.yield)
    (hk : ∀ t ∈ inp, t.kind ≤ Tok.WITH) :
    ∃ a, detectAt (mkDetector m) inp = some a ∧ a.total.length = n ∧
      a.split.map (fun ts => ts.map (·.kind)) = cs.toList.map Tree.yield :=
  DetectorProofs.match_complete m hf hc k cs hv inp n hn hy (hk _ (List.getElem_mem hn))

end Theo
