/-
  C06 — the debugger stops exactly where it was asked to.
-/
import Theo.Proofs.VMInvB

namespace Theo

/-- should the machine stop after executing the instruction at `ip`? -/
def StopHere (p : Program) (vm : VM) (ip : Int) : Prop :=
  fetch p.code ip = .ok Instr.halt ∨
  ∃ bp, p.lineAt ip = some bp ∧ (vm.stepping = true ∨ bp ∈ vm.enabled)

/-- a single step reports a stop exactly at HALT, at a site of an enabled line, or at any
    site while stepping -/
theorem C06_single_stops_iff (p : Program) (hs : SitesOK p) (ht : TablesInverse p)
    (vm vm' : VM) (r : Bool) (hr : Reach p vm) (h : step vm = .ok (vm', r)) :
    r = true ↔ StopHere p vm vm.ip := by
  have hc := InvB.CodeInv.reach hs hr
  have hb := InvB.BreakInv.reach hs ht hr
  obtain ⟨i, hf, _, rfl⟩ := InvB.step_inv h
  obtain ⟨h0, hg⟩ := InvB.fetch_eq_ok.1 hf
  rw [InvB.stopFlag_iff]
  have hpf : fetch p.code vm.ip = .ok i.erase := by rw [hc.fetch_eq, hf]; rfl
  have hpg : p.code[vm.ip.toNat]? = some i.erase := by rw [hc.get, hg]; rfl
  have hcast : ((vm.ip.toNat : Nat) : Int) = vm.ip := Int.toNat_of_nonneg h0
  -- the tables: a line is recorded for `ip` iff the loaded instruction there is a site …
  have hline : (∃ bp, p.lineAt vm.ip = some bp) ↔ i.erase = .potBreak := by
    have := ht.2.1 vm.ip.toNat
    rw [hcast, hpg] at this
    rw [this]
    exact ⟨Option.some.inj, congrArg some⟩
  -- … and the live instruction is `BREAK` iff that line is enabled
  have hbrk : i = .brk ↔ ∃ bp, p.lineAt vm.ip = some bp ∧ bp ∈ vm.enabled := by
    have := hb.brk vm.ip.toNat
    rw [hcast, hg] at this
    rw [← this]
    exact ⟨congrArg some, Option.some.inj⟩
  unfold StopHere
  constructor
  · rintro (rfl | rfl | ⟨rfl, hst⟩)
    · exact .inl hpf
    · obtain ⟨bp, h1, h2⟩ := hbrk.mp rfl
      exact .inr ⟨bp, h1, .inr h2⟩
    · obtain ⟨bp, h1⟩ := hline.mpr rfl
      exact .inr ⟨bp, h1, .inl hst⟩
  · rintro (hh | ⟨bp, h1, hst | hen⟩)
    · rw [hpf] at hh
      exact .inl (InvB.erase_eq_halt.mp (Except.ok.inj hh))
    · rcases InvB.erase_eq_potBreak.mp (hline.mp ⟨bp, h1⟩) with hi | hi
      · exact .inr (.inl hi)
      · exact .inr (.inr ⟨hi, hst⟩)
    · exact .inr (.inl (hbrk.mpr ⟨bp, h1, hen⟩))

/-- `execute` returns at the *first* stop position of the uninterrupted path, having run
    exactly the path up to and including it, and leaves the debugger state untouched -/
theorem C06_execute_stops (p : Program) (hs : SitesOK p) (ht : TablesInverse p)
    (vm vm' : VM) (hr : Reach p vm) (h : ExecTo vm vm') :
    ∃ k : Nat, ∃ c : Core,
      coreIter p k vm.core = .ok c ∧ StopHere p vm c.ip ∧
      (∀ j, j < k → ∀ cj, coreIter p j vm.core = .ok cj → ¬ StopHere p vm cj.ip) ∧
      coreStep p c = .ok vm'.core ∧
      vm'.code = vm.code ∧ vm'.enabled = vm.enabled ∧ vm'.stepping = vm.stepping := by
  induction h with
  | stop h =>
    exact ⟨0, _, rfl, (C06_single_stops_iff p hs ht _ _ _ hr h).mp rfl,
      fun j hj => absurd hj (Nat.not_lt_zero j), InvB.step_core (InvB.CodeInv.reach hs hr) h,
      InvB.step_frame h⟩
  | @more vm vm1 vm2 h _ ih =>
    obtain ⟨f1, f2, f3⟩ := InvB.step_frame h
    obtain ⟨k, c, i1, i2, i3, i4, i5, i6, i7⟩ := ih (hr.call (.single h))
    -- the debugger state does not change on the way, so neither does the stop condition
    have hsame : ∀ ip, StopHere p vm1 ip = StopHere p vm ip := fun ip => by
      unfold StopHere; rw [f2, f3]
    rw [hsame] at i2
    have hcs := InvB.step_core (InvB.CodeInv.reach hs hr) h
    refine ⟨k + 1, c, ?_, i2, ?_, i4, i5.trans f1, i6.trans f2, i7.trans f3⟩
    · simp only [coreIter, hcs, Except.bind]
      exact i1
    · intro j hj cj hcj
      cases j with
      | zero =>
        cases hcj
        exact fun hst => nomatch (C06_single_stops_iff p hs ht _ _ _ hr h).mpr hst
      | succ j =>
        simp only [coreIter, hcs, Except.bind] at hcj
        exact hsame _ ▸ i3 j (Nat.lt_of_succ_lt_succ hj) cj hcj

/-- the location reported after stopping at a site is that site's file and line -/
theorem C06_current_break (p : Program) (vm vm' : VM) (h : step vm = .ok (vm', true))
    (hn : fetch vm.code vm.ip ≠ .ok Instr.halt) :
    vm'.currentBreak p = p.lineAt vm.ip := by
  obtain ⟨i, hf, he, hfl⟩ := InvB.step_inv h
  have hip : vm'.ip = vm.ip + 1 :=
    he.ip_succ ((InvB.stopFlag_iff.1 hfl.symm).elim (fun e => absurd (e ▸ hf) hn)
      fun h => h.imp_right (·.1))
  unfold VM.currentBreak
  rw [hip, Int.add_sub_cancel]

/-- before execution starts (hence, by C17, after a reset) no location is reported -/
theorem C06_initial_none (p : Program) (ht : TablesInverse p) :
    (VM.mk' p).currentBreak p = none := by
  unfold VM.currentBreak
  cases h : p.lineAt ((VM.mk' p).ip - 1) with
  | none => rfl
  | some bp => exact absurd (ht.2.2 _ _ h) (show ¬ (0 : Int) ≤ 0 - 1 by decide)

/-- an enable/disable request succeeds exactly for available locations -/
theorem C06_enable_iff (p : Program) (vm vm' : VM) (b : BreakPoint) (v r : Bool)
    (h : VM.setBreakPoint p vm b v = .ok (vm', r)) : r = true ↔ b ∈ p.available := by
  rcases InvB.setBreakPoint_spec h with ⟨hs, _, rfl⟩ | ⟨_, _, hs, rfl, _⟩
  · exact ⟨nofun, fun hb => absurd hb ((InvB.sitesOf_none_iff p b).1 hs)⟩
  · refine ⟨fun _ => Classical.byContradiction fun hb => ?_, fun _ => rfl⟩
    rw [(InvB.sitesOf_none_iff p b).2 hb] at hs
    cases hs

/-- the enabled set is the successful enables minus the disables, emptied by clear / reset -/
theorem C06_enabled_set (p : Program) (vm vm' : VM) (c : Call) (h : CallRel p vm c vm') :
    vm'.enabled = bookkeeping p vm.enabled c := by
  cases h with
  | single h => exact (InvB.step_frame h).2.1
  | exec h => exact (InvB.execTo_frame h).2.1
  | @bp _ b v r h =>
    rcases InvB.setBreakPoint_spec h with
      ⟨hs, rfl, _⟩ | ⟨_, _, hs, _, ⟨rfl, _, rfl⟩ | ⟨rfl, _, rfl⟩⟩
    · cases v <;> simp only [bookkeeping, hs] <;> rfl
    · simp only [bookkeeping, hs]; rfl
    · simp only [bookkeeping, hs]; rfl
  | clear h => obtain ⟨c, _, rfl⟩ := InvB.clear_ok h; rfl
  | stepping => rfl
  | reset h => obtain ⟨c, _, rfl⟩ := InvB.reset_ok h; rfl

end Theo
