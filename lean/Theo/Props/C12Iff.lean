/-
  C12 / C13 — acceptance characterised exactly: the detector construction reports no conflict
  iff the (augmented, prefix-mode) detector grammar is LR(1) in Knuth's sense.

  The classical direction "conflict-free canonical LR(1) tables ⇒ LR(1)"
  (`Theo/Proofs/LRIff*.lean`; the other one is in `Theo/Props/C12Converse.lean`):
  * the item sets are complete: for a right sentential form `δ A w` and a rule `A → μ₁ μ₂` the set
    reached along `δ μ₁` contains `[A → μ₁ . μ₂, FIRST₁(w·eof)]` — `LRIff.valid_mem`, by one
    induction on the rightmost derivation that covers every non-terminal occurrence of the
    sentential form (`LRIff.rd_items`);
  * with conflict-free tables and an unexhausted state budget every non-empty item set reached
    along a path is a state of the collection — `LRIff.real_path`, `LRIff.handle_state`;
  * for the two derivations of Knuth's condition the state of `αβ` (or of `γρ`, if that is
    shorter) then holds two decisions for one column; conflict-free tables contain every action
    (`LRComplete.RowComplete`), so both are the same reduction — `LRIff.same_end`, `LRIff.no_longer`.
  Here the budget condition is needed (completeness of the collection); `RuleOK`, `NoDupAlts`
  and `Productive` are not.
-/
import Theo.Proofs.LRIffMain
import Theo.Props.C12Converse

namespace Theo

/-- conflict-free tables (budget not exhausted) ⇒ LR(1), any grammar, full or prefix mode -/
theorem C13_no_conflict_lr1 (g : Grammar) (start eof : Nat) (pm : Bool) (sfuel : Nat)
    (hg : g.Closed) (hs : start < g.numNT)
    (hc : (tablesOf g start eof pm sfuel).conflicts = [])
    (hf : (genTables g start eof pm sfuel).2 < sfuel) :
    KnuthLR1 (g.augment start eof) g.numNT eof pm := by
  intro α β γ ρ A kA B kB w x y h1 hk1 h2 hk2 heq hcompat
  have C := LRComplete.ctx_of g start eof pm sfuel hg hs hc hf
  -- where `γρ` ends against `αβ`: the longer continues the shorter by a token `c`, and the complete
  -- item of the shorter acts on `c`
  rcases LRConverse.tsyms_tri heq with ⟨hP, rfl⟩ | ⟨c, τ, hQ, rfl⟩ | ⟨c, τ, hP, rfl⟩
  · exact (LRIff.same_end C h1 hk1 h2 hk2 hP.symm hcompat).imp_right fun h => ⟨h, rfl⟩
  · exact (LRIff.no_longer C h1 hk1 h2 hk2 hQ
      (LRIff.acts_of_compat_cons pm eof w c _ hcompat A kA _)).elim
  · exact (LRIff.no_longer C h2 hk2 h1 hk1 hP (Or.inl rfl)).elim

/-- the characterisation, any grammar: for a closed, reduced grammar without duplicate
    productions whose rules do not mention the end marker, and a sufficient state budget,
    "no conflict" is exactly Knuth's LR(1) condition -/
theorem C13_no_conflict_iff_lr1 (g : Grammar) (start eof : Nat) (pm : Bool) (sfuel : Nat)
    (hg : g.Closed) (hs : start < g.numNT) (he : eof ∉ g.terminals)
    (hnd : g.NoDupAlts) (hp : g.Productive)
    (hf : (genTables g start eof pm sfuel).2 < sfuel) :
    (tablesOf g start eof pm sfuel).conflicts = [] ↔ KnuthLR1 (g.augment start eof) g.numNT eof pm :=
  ⟨fun hc => C13_no_conflict_lr1 g start eof pm sfuel hg hs hc hf,
   fun h => C13_lr1_no_conflict g start eof pm sfuel hg hs he hnd hp h⟩

/-- an accepted pattern is LR(1) (`RuleOK` is not needed for this direction) -/
theorem C12_accepted_lr1 (m : MacroDef) (_hr : RuleOK m) (hf : DetectorComplete m)
    (hc : (mkDetector m).tables.conflicts = []) : DetectorLR1 m :=
  C13_no_conflict_lr1 (detectorGrammar m) DetGen.macroNT Tok.T_EOF true detectorStateFuel
    (DetectorProofs.det_closed m) (DetectorProofs.det_start_lt m) hc hf

/-- a pattern is accepted iff its detector grammar is LR(1) -/
theorem C12_accepted_iff_lr1 (m : MacroDef) (hr : RuleOK m) (hf : DetectorComplete m) :
    (mkDetector m).tables.conflicts = [] ↔ DetectorLR1 m :=
  ⟨C12_accepted_lr1 m hr hf, C12_lr1_accepted m hr hf⟩

/-- a pattern is rejected iff its detector grammar is not LR(1) -/
theorem C12_rejected_iff_not_lr1 (m : MacroDef) (hr : RuleOK m) (hf : DetectorComplete m) :
    (mkDetector m).tables.conflicts ≠ [] ↔ ¬ DetectorLR1 m :=
  not_congr (C12_accepted_iff_lr1 m hr hf)

/-! ### concrete instances -/

namespace C12ConverseExample

/-- `<ID> := <V> ;` is LR(1) in Knuth's sense (prefix mode): a fact about all rightmost
    derivations of its detector grammar, obtained from the evaluated tables -/
theorem assignMacro_lr1 : DetectorLR1 assignMacro :=
  C12_accepted_lr1 assignMacro assignMacro_tables.1.1 assignMacro_tables.1.2 assignMacro_tables.2

/-- and `LOOP <P>` is not (from `C12Converse`) -/
example : DetectorLR1 assignMacro ∧ ¬ DetectorLR1 loopMacro := ⟨assignMacro_lr1, loopMacro_not_lr1⟩

end C12ConverseExample

end Theo
