/-
  C01 — compiled programs compute the LOOP/WHILE/GOTO reference semantics.

  The theorems are stated for every program `p` that passes the two proved-sound validators
  `shapeCheck src p` (Spec/Shape.lean: the code has the shape of the compilation scheme for the
  typed source `src`, for some register assignment and site placement) and `wfCheck p`
  (Spec/WellFormed.lean).  The check of C01 (checks/semprops.py) runs both validators on every
  program the implementation emits for its test sources, so each of those programs is covered:
  translation validation with verified validators.  Values are compared with the *saturating* reference
  semantics (Spec/Semantics.lean); for executions whose values stay below 2^31-1 (the property's
  restriction) that is the natural-number semantics (`Sem.addSat_exact`).
-/
import Theo.Proofs.SimCountStutter
import Theo.Proofs.SimCountUpper

namespace Theo
open Sem

def vmRun (p : Program) : Nat → Except Fault VM
  | 0 => .ok (VM.mk' p)
  | m + 1 => (vmRun p m).bind (fun vm => (step vm).map (·.1))

def isCounterName (n : Bytes) : Bool := bLoopVar.isPrefixOf n

/-- the variable views agree: the same activations are live (same routines, same order), and in
    each of them every user-named variable of the routine holds the value the reference
    semantics gives it (hidden loop counters are not user variables).  The statements are about
    the whole machine state; the simulation carries the same relation on its data array alone
    (`Sim.FrameAgrees'`, `Sim.StacksAgree'`; `stacksAgree_of`) -/
def FrameAgrees (p : Program) (vm : VM) (fr : Frame) (a : Act) : Prop :=
  a.dbg = (fr.routine : Int) ∧
  ∀ sm, p.stackMaps[fr.routine]? = some sm → ∀ e ∈ sm.map, isCounterName e.2 = false →
    0 ≤ e.1 ∧ vm.data[a.dataStart + e.1.toNat]? = some ((fr.env.get e.2 : Nat) : Int)

def StacksAgree (p : Program) (vm : VM) : List Frame → List Act → Prop
  | [], [] => True
  | fr :: frs, a :: as => FrameAgrees p vm fr a ∧ StacksAgree p vm frs as
  | _, _ => False

def ViewsAgree (p : Program) (c : Config) (vm : VM) : Prop := StacksAgree p vm c.stack vm.stack

theorem vmRun_eq_runFrom (p : Program) (m : Nat) : vmRun p m = Sim.runFrom (VM.mk' p) m := by
  induction m with
  | zero => rfl
  | succ m ih => show (vmRun p m).bind _ = (Sim.runFrom (VM.mk' p) m).bind _; rw [ih]

theorem stacksAgree_of (p : Program) (vm : VM) : ∀ (frs : List Frame) (as : List Act),
    Sim.StacksAgree' p vm.data frs as → StacksAgree p vm frs as
  | [], [], _ => trivial
  | _ :: frs, _ :: as, h => ⟨h.1, stacksAgree_of p vm frs as h.2⟩
  | [], _ :: _, h => h
  | _ :: _, [], h => h

/-- the reference execution of a validated program never gets stuck (every callee and every
    jump target exists) -/
theorem C01_never_stuck (src : Source) (p : Program) (hs : shapeCheck src p = true) (n : Nat) :
    (Sem.run src n (initial src) 0).1.status ≠ .stuck := by
  obtain ⟨V, hV⟩ := Sim.valid_of_shapeCheck hs
  rw [LoopHalts.run_fst]
  exact (Sim.pinv_iter hV n).1

/-- if the reference execution halts after `n` steps, the bytecode is done, with agreeing
    variables, within `(S + 1) * (4 * n + L + 2)` instructions — for every bound `S` of the runs
    of consecutive sites (`S = 0` for code without sites) -/
theorem C01_budget_upper_of_bound (src : Source) (p : Program)
    (hs : shapeCheck src p = true) (hw : wfCheck p = true)
    (S : Nat) (hS : Sim.SiteBound p.code S)
    (n : Nat) (hh : (Sem.run src n (initial src) 0).1.status = .halted) :
    ∃ m vm, m ≤ (S + 1) * (4 * n + (src.progs.length + 2)) ∧ vmRun p m = .ok vm ∧
      vm.isDone = .ok true ∧ ViewsAgree p (Sem.run src n (initial src) 0).1 vm := by
  obtain ⟨V, hV, hsk⟩ := Sim.valid_of_shapeCheck_skipsN hs hS
  obtain ⟨R, hc⟩ := WF.checkCert_iff.1 hw
  rw [LoopHalts.run_fst] at hh ⊢
  obtain ⟨m, vm, hle, h1, h2, h3⟩ := Sim.halts_sim_upper hS hc hV hsk hh
  exact ⟨m, vm, hle, (vmRun_eq_runFrom p m).trans h1, h2, stacksAgree_of p vm _ _ h3⟩

/-- if the reference execution halts (end of the program, or STOP anywhere), the bytecode run
    reaches HALT with the same live activations and the same value of every user variable -/
theorem C01_halts_same_values (src : Source) (p : Program)
    (hs : shapeCheck src p = true) (hw : wfCheck p = true)
    (n : Nat) (hh : (Sem.run src n (initial src) 0).1.status = .halted) :
    ∃ m vm, vmRun p m = .ok vm ∧ vm.isDone = .ok true ∧
      ViewsAgree p (Sem.run src n (initial src) 0).1 vm := by
  obtain ⟨m, vm, _, h⟩ :=
    C01_budget_upper_of_bound src p hs hw _ (Sim.siteBound_maxSiteRun p.code) n hh
  exact ⟨m, vm, h⟩

/-- if the reference execution runs forever, so does the bytecode -/
theorem C01_diverges (src : Source) (p : Program)
    (hs : shapeCheck src p = true) (hw : wfCheck p = true)
    (hd : ∀ n, (Sem.run src n (initial src) 0).1.status = .running) :
    ∀ m vm, vmRun p m = .ok vm → vm.isDone = .ok false := by
  have hS := Sim.siteBound_maxSiteRun p.code
  obtain ⟨V, hV, hsk⟩ := Sim.valid_of_shapeCheck_skipsN hs hS
  obtain ⟨R, hc⟩ := WF.checkCert_iff.1 hw
  intro m vm hvm
  obtain ⟨vt, h1, h2⟩ := Sim.diverges_sim hS hc hV hsk
    (fun n => by rw [← LoopHalts.run_fst src n (initial src) 0]; exact hd n) m
  rw [vmRun_eq_runFrom, h1] at hvm
  cases hvm
  exact h2

/-- the property's quantitative clause with universal constants: if the bytecode is done after
    `m` instructions, the reference execution halts within `4 * m + 4` steps.  It does not hold,
    whatever the constants (`C01_budget_statement_false`, C01Budget.lean, which also has the
    source-dependent bounds that do hold) -/
def C01_budget_statement : Prop :=
  ∀ (src : Source) (p : Program), shapeCheck src p = true → wfCheck p = true →
    ∀ m vm, vmRun p m = .ok vm → vm.isDone = .ok true →
      ∃ n, n ≤ 4 * m + 4 ∧ (Sem.run src n (initial src) 0).1.status = .halted

end Theo
