/-
  C14 — the scanner's token stream is faithful to the source text.
  (Part about one buffer: maximal munch over the rule list generated from lexer.l.
   The include splice is in C15's file; the comparison of the committed lex.yy.c and a freshly
   generated scanner with this specification is done by the correspondence check.)
-/
import Theo.Proofs.LexProofs
import Theo.Spec.Keywords

namespace Theo

/-- the derivative matcher decides the language -/
theorem C14_nullable_correct (r : Rx) : r.nullable = true ↔ r.Matches [] :=
  Rx.nullable_correct r

theorem C14_deriv_correct (r : Rx) (c : UInt8) (s : Bytes) :
    (r.deriv c).Matches s ↔ r.Matches (c :: s) :=
  Rx.deriv_correct r c s

theorem C14_matchesB_correct (r : Rx) (s : Bytes) : r.matchesB s = true ↔ r.Matches s :=
  Rx.matchesB_correct r s

/-- `longest` computes exactly the maximal munch: longest prefix, earliest rule -/
theorem C14_longest_match (rules : List Rx) (inp : Bytes) (i n : Nat) :
    longest rules inp = some (i, n) ↔ IsMaxMunch rules inp i n :=
  longest_match rules inp i n

theorem C14_longest_none (rules : List Rx) (inp : Bytes) :
    longest rules inp = none ↔ NoMunch rules inp :=
  longest_none rules inp

/-- with the rules of lexer.l every non-empty input has a munch (the catch-all rule), so the
    scanner always makes progress -/
theorem C14_total (inp : Bytes) (h : inp ≠ []) :
    (longest (LexGen.rules.map (·.1)) inp).isSome = true :=
  longest_total inp h

/-- the lexemes partition the buffer (up to the first NUL): nothing is lost, nothing invented -/
theorem C14_partition (content : Bytes) :
    ((lexemes LexGen.rules ((cstr content).length + 1) (cstr content) 1).map (·.2.1)).flatten = cstr content :=
  lexemes_flatten _ _ _ (Nat.lt_succ_self _)

/-- every lexeme is the maximal munch of what remains after the lexemes before it -/
theorem C14_each_maxmunch (content : Bytes) (k : Nat) (l : Nat × Bytes × Nat)
    (h : (lexemes LexGen.rules ((cstr content).length + 1) (cstr content) 1)[k]? = some l) :
    let before := (((lexemes LexGen.rules ((cstr content).length + 1) (cstr content) 1).take k).map (·.2.1)).flatten
    IsMaxMunch (LexGen.rules.map (·.1)) ((cstr content).drop before.length) l.1 l.2.1.length ∧
    l.2.1 = ((cstr content).drop before.length).take l.2.1.length :=
  lexemes_maxmunch LexGen.rules _ _ 1 k l h

/-- the token stream of a buffer is exactly the lexemes with a non-empty action, in order -/
theorem C14_tokens_are_lexemes (content : Bytes) :
    lexBuffer content =
      tokensOfLexemes LexGen.rules (lexemes LexGen.rules ((cstr content).length + 1) (cstr content) 1) :=
  lexFrom_eq_tokensOfLexemes LexGen.rules _ _ 1

/-- a token is labelled with the line on which it ends: 1 + the number of newlines in the input
    up to and including the lexeme -/
theorem C14_lines (content : Bytes) (k : Nat) (l : Nat × Bytes × Nat)
    (h : (lexemes LexGen.rules ((cstr content).length + 1) (cstr content) 1)[k]? = some l) :
    l.2.2 = 1 + countNl ((((lexemes LexGen.rules ((cstr content).length + 1) (cstr content) 1).take (k + 1)).map (·.2.1)).flatten) :=
  lexemes_line LexGen.rules _ _ 1 k l h

/-- every documented keyword / operator spelling (all literal alternatives of lexer.l's rules,
    table regenerated from the source) lexes to exactly one token of its kind -/
theorem C14_keywords :
    LexGen.keywords.all (fun e => lexBuffer e.1 == [⟨e.2, e.1, 1⟩]) = true :=
  keywords_lex

/-- the spellings of the scanner specification are exactly the documented ones, with the
    documented kinds (pinned table `Theo/Spec/Keywords.lean`): no spelling added, dropped or
    re-kinded -/
theorem C14_keywords_documented :
    (LexGen.keywords.all (fun e => documentedKeywords.contains e) &&
     documentedKeywords.all (fun e => LexGen.keywords.contains e)) = true := by
  -- evaluated on `documentedSpellings`, kinds compared first, so that a documented string is
  -- converted to bytes (`String.toList` decodes UTF-8) only against the few spellings of its own
  -- kind
  have h : (LexGen.keywords.all (fun e => documentedSpellings.any (fun g => g.1 == e.2 &&
        g.2.any (fun s => s.toList.map (fun c => c.toNat.toUInt8) == e.1))) &&
      documentedSpellings.all (fun g => g.2.all (fun s => LexGen.keywords.any (fun e =>
        e.2 == g.1 && e.1 == s.toList.map (fun c => c.toNat.toUInt8))))) = true := by
    decide +kernel
  have hmem : ∀ g ∈ documentedSpellings, ∀ s ∈ g.2,
      (s.toList.map (fun c => c.toNat.toUInt8), g.1) ∈ documentedKeywords := fun g hg s hs =>
    List.mem_flatMap.2 ⟨g, hg, List.mem_map.2 ⟨s, hs, rfl⟩⟩
  simp only [Bool.and_eq_true, List.all_eq_true, List.any_eq_true, beq_iff_eq,
    List.contains_iff_mem] at h ⊢
  refine ⟨fun e he => ?_, fun e he => ?_⟩
  · obtain ⟨g, hg, hk, s, hs, hw⟩ := h.1 e he
    exact (Prod.ext hw hk : (_, g.1) = e) ▸ hmem g hg s hs
  · obtain ⟨g, hg, he⟩ := List.mem_flatMap.1 he
    obtain ⟨s, hs, rfl⟩ := List.mem_map.1 he
    obtain ⟨e, he, hk, hw⟩ := h.2 g hg s hs
    exact (Prod.ext hw hk : e = (_, g.1)) ▸ he

/-- a lexeme matched by no rule but the catch-all is a single byte with kind NV_ID:
    the last rule of lexer.l is `.|\n`, i.e. any one byte, with action NV_ID -/
theorem C14_catch_all :
    LexGen.rules.getLast? = some (Rx.alt (Rx.ncls [(10, 10)]) (Rx.cls [(10, 10)]), some Tok.NV_ID) :=
  catch_all

end Theo
