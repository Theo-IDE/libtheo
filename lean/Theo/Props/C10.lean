/-
  C10 — macro temporaries are hygienic.
-/
import Theo.Proofs.MacroProofs

namespace Theo

/-- temporaries of different rewriting steps (different pass numbers) never share a name,
    whatever the file names, line numbers and temporary numbers are -/
theorem C10_fresh_across_steps (t t' f f' : Bytes) (l l' : Int) (p p' : Nat) (h : p ≠ p') :
    tempName t f l p ≠ tempName t' f' l' p' := by
  exact fun heq => h (tempName_pass_inj t t' f f' l l' p p' heq)

/-- within one step, two temporaries of the body get the same name iff they have the same text
    (`#n`) -/
theorem C10_same_within_step (m : MacroDef) (r : Response) (pass : Nat) (a b : Token)
    (ha : a ∈ m.body) (hb : b ∈ m.body) (hka : a.kind = Tok.TEMP_VAL) (hkb : b.kind = Tok.TEMP_VAL) :
    let first := m.body.head?.getD default
    (tempName a.text first.file first.line pass = tempName b.text first.file first.line pass ↔ a.text = b.text) := by
  exact tempName_text_inj a.text b.text _ _ pass

/-- after instantiation no temporary designator is left, if the slot fillers hold none (`hm`,
    assumed: they are cut out of the input stream): every `#n` of the body has become an
    identifier -/
theorem C10_replacement_temps (m : MacroDef) (r : Response) (pass : Nat)
    (hm : ∀ ts ∈ r.matched, ∀ t ∈ ts, t.kind ≠ Tok.TEMP_VAL) :
    ∀ tok ∈ replacement m r pass, tok.kind ≠ Tok.TEMP_VAL := by
  intro tok htok
  rcases mem_replacement htok with ⟨l, hl, htl⟩ | ⟨cand, _, _, rfl⟩ | ⟨_, hk⟩
  · exact hm l hl tok htl
  · exact (by decide : Tok.ID ≠ Tok.TEMP_VAL)
  · exact hk

/-- exactly one rewriting step per pass, instantiated with that pass's own number; the next pass
    gets the next number — so the pass number identifies the expansion step -/
theorem C10_one_rewrite_per_pass (bs : List (List Detector)) (left pass : Nat) (inp : List Token) (n : Nat) :
    passLoop bs (left + 1) pass inp n =
      (match applyStep bs inp pass with
       | some (_, _, inp') => passLoop bs left (pass + 1) inp' (n + 1)
       | none => (inp, n, false)) := by
  exact passLoop_succ bs left pass inp n

/-- the tokens produced by a step from temporaries carry `tempName … pass` of *that* pass -/
theorem C10_step_uses_pass (m : MacroDef) (r : Response) (pass : Nat) (cand : Token)
    (hc : cand ∈ m.body) (hk : cand.kind = Tok.TEMP_VAL) :
    let first := m.body.head?.getD default
    { cand with kind := Tok.ID, text := tempName cand.text first.file first.line pass } ∈ replacement m r pass := by
  simp only [replacement, List.mem_flatMap]
  refine ⟨cand, hc, ?_⟩
  rw [if_neg (by rw [hk]; decide), if_pos hk]
  exact List.mem_singleton.mpr rfl

/-- no name given to a temporary can be written by a user as an identifier: such a name
    contains ':', which no word of `[a-zA-Z_][a-zA-Z0-9_]*` contains.  The pattern is written out
    in the statement; it is not taken from the generated rule table. -/
theorem C10_not_user_writable (t f : Bytes) (l : Int) (p : Nat) :
    (58 : UInt8) ∈ tempName t f l p ∧
    ∀ s : Bytes, (Rx.seq (Rx.cls [(97, 122), (65, 90), (95, 95)]) (Rx.star (Rx.cls [(97, 122), (65, 90), (48, 57), (95, 95)]))).Matches s →
      (58 : UInt8) ∉ s := by
  refine ⟨by simp [tempName], fun s h hmem => ?_⟩
  cases h with
  | seq h1 h2 =>
    cases h1 with
    | cls hc =>
      simp only [List.cons_append, List.nil_append, List.mem_cons] at hmem
      rcases hmem with rfl | hmem
      · revert hc; decide
      · have := star_cls_bytes h2 rfl _ hmem
        revert this; decide

end Theo
