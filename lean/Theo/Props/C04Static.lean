/-
  C04 — the compiler accepts exactly the programs of the language (static part).

  "A source compiles successfully iff it is a sentence of the grammar AND obeys the static
  rules": every RUN names a program whose definition is complete earlier in the text and passes as
  many arguments as it has parameters, every jump target is a label of the same program body,
  every integer literal is below 2^31-1, and (documented deviation at the pinned code, F4) the
  parameter names of one PROGRAM header are pairwise distinct.  The rules are `staticOK`
  (Spec/Static.lean), stated on the typed source with `lookupProg` and `findLabel` — the notions
  the reference semantics resolves names with.  The syntactic half is Props/C04.lean.

  Hypotheses: the tree shape; the statements about token streams (`C04_accepts_iff`,
  `C04_accepts_iff'`, `C04_compile_iff`) also ask that the stream ends in its end marker
  (`EndMarked`), which the syntactic half `C04_parse_iff` needs.  Repeated labels in one body need
  no hypothesis: the generator does not report them and `findLabel` takes the first.
-/
import Theo.Proofs.StaticSrc
import Theo.Props.C04
import Theo.Proofs.StaticParse

namespace Theo

/-- for trees of the parser's shape, the generator records no error iff the static rules hold -/
theorem C04_static_iff (root : Node) (h : AstShape root = true) :
    (gen ⟨true, [], root⟩).errors = [] ↔ staticOK (toSource root) = true :=
  Static.static_iff [] root h

theorem C04_static_ok_iff (root : Node) (h : AstShape root = true) :
    (gen ⟨true, [], root⟩).ok = true ↔ staticOK (toSource root) = true := by
  rw [gen_ok_eq, List.isEmpty_iff]
  exact C04_static_iff root h

/-- an error-free parse produces a tree of the shape `AstShape`.  This holds for every token list:
    the end marker `h` is not used. -/
theorem C04_parser_shape (ts : List Token) (h : EndMarked ts) (he : (parseTokens ts).2 = []) :
    AstShape (parseTokens ts).1 = true :=
  have _ := h
  Static.parser_shape ts he

/-- the AST value `Theo::parse` hands to the generator for the parser's output on `ts`, when the
    earlier stages (scanner, macro extraction, macro application) forwarded the errors `fwd` -/
def astOf (ts : List Token) (fwd : List SynErr) : AST :=
  ⟨((parseTokens ts).2 ++ fwd).isEmpty, (parseTokens ts).2 ++ fwd, (parseTokens ts).1⟩

/-- an AST value the generator accepts carries no error of an earlier stage: it is the parser's
    tree, flagged correct (the generator refuses every tree flagged incorrect) -/
theorem astOf_accepted {ts : List Token} {fwd : List SynErr} (h : (gen (astOf ts fwd)).ok = true) :
    (parseTokens ts).2 = [] ∧ fwd = [] ∧ astOf ts fwd = ⟨true, [], (parseTokens ts).1⟩ := by
  have he : (parseTokens ts).2 ++ fwd = [] := by
    by_cases he : (parseTokens ts).2 ++ fwd = []
    · exact he
    · rw [gen_ok_eq, List.isEmpty_iff, astOf, List.isEmpty_eq_false_iff.2 he] at h
      exact absurd (Static.gen_rejects_bad _ _ h) he
  exact ⟨(List.append_eq_nil_iff.1 he).1, (List.append_eq_nil_iff.1 he).2, by rw [astOf, he]; rfl⟩

/-- the two halves together: generation succeeds iff no earlier stage reported an error, the token
    stream is a sentence of the grammar, and the static rules hold -/
theorem C04_accepts_iff' (ts : List Token) (h : EndMarked ts) (fwd : List SynErr) :
    (gen (astOf ts fwd)).ok = true ↔
      (fwd = [] ∧ Derives langGrammar (.n LangNT.S) (bodyKinds ts) ∧
        staticOK (toSource (parseTokens ts).1) = true) := by
  constructor
  · intro hg
    obtain ⟨h1, h2, ha⟩ := astOf_accepted hg
    rw [ha, C04_static_ok_iff _ (Static.parser_shape ts h1)] at hg
    exact ⟨h2, (C04_parse_iff ts h).1 h1, hg⟩
  · rintro ⟨rfl, h2, h3⟩
    have h1 := (C04_parse_iff ts h).2 h2
    rw [astOf, h1]
    exact (C04_static_ok_iff _ (Static.parser_shape ts h1)).2 h3

theorem C04_accepts_iff (ts : List Token) (h : EndMarked ts) :
    (gen ⟨(parseTokens ts).2.isEmpty, (parseTokens ts).2, (parseTokens ts).1⟩).ok = true ↔
      (Derives langGrammar (.n LangNT.S) (bodyKinds ts) ∧
        staticOK (toSource (parseTokens ts).1) = true) := by
  have := C04_accepts_iff' ts h []
  rw [astOf, List.append_nil] at this
  exact this.trans (and_iff_right rfl)

/-- the stages in front of the parser, exactly as `parseFiles` runs them: the token stream that
    reaches the recursive descent, and the errors of scanner, macro extraction and application -/
def frontEnd (files : Files) (main : Bytes) : List Token × List PErr :=
  let files1 : Files :=
    if files.has ConstGen.stdFileName then files else files ++ [(ConstGen.stdFileName, ConstGen.stdMacroText)]
  let files2 : Files :=
    files1.map (fun e => if e.1 = main then (e.1, ConstGen.includePhrase ++ e.2) else e)
  let sr := scan files2 main
  let mer := extractMacros sr.toks
  let mar := applyMacros mer.toks mer.macros ConstGen.macroPasses
  (mar.toks, sr.errs ++ mer.errs ++ mar.errs)

theorem parseFiles_ast (files : Files) (main : Bytes) :
    (parseFiles files main).ast =
      astOf (frontEnd files main).1
        ((frontEnd files main).2.map (fun e => (⟨.forwarded e.kind, e.file, e.line⟩ : SynErr))) := by
  simp only [parseFiles, frontEnd, astOf]

/-- `compile` succeeds iff no front-end stage reported an error, the token stream after macro
    application is a sentence of the grammar, and the parsed program obeys the static rules -/
theorem C04_compile_iff (files : Files) (main : Bytes) (h : EndMarked (frontEnd files main).1) :
    (compile files main).ok = true ↔
      ((frontEnd files main).2 = [] ∧
        Derives langGrammar (.n LangNT.S) (bodyKinds (frontEnd files main).1) ∧
        staticOK (toSource (parseTokens (frontEnd files main).1).1) = true) := by
  rw [compile_ok_eq, parseFiles_ast, C04_accepts_iff' _ h, List.map_eq_nil_iff]

/-- an accepted compilation is the generator's run on the parser's tree: no stage in front of the
    generator reported an error -/
theorem compile_accepted (files : Files) (main : Bytes) (hok : (compile files main).ok = true) :
    (parseTokens (frontEnd files main).1).2 = [] ∧ (frontEnd files main).2 = [] ∧
    (parseFiles files main).ast = ⟨true, [], (parseTokens (frontEnd files main).1).1⟩ := by
  rw [compile_ok_eq, parseFiles_ast] at hok
  obtain ⟨h1, h2, ha⟩ := astOf_accepted hok
  exact ⟨h1, List.map_eq_nil_iff.1 h2, by rw [parseFiles_ast, ha]⟩

/-- the literal rule: the guard of gen.cpp (`v >= INT_MAX`) passes exactly the values below 2^31 - 1 -/
theorem C04_literal_rule (n : Nat) : genRangeBad n = false ↔ n < 2147483647 := Static.rangeOK_iff n

namespace C04Demo
def tk (k : Nat) (s : Bytes) : Token := ⟨k, s, [109], 1⟩

/-- `PROGRAM f IN a, b DO l: GOTO l END  LOOP x DO IF x = 5 THEN GOTO m END; m: STOP` -/
def jumps : List Token :=
  [tk Tok.PROGRAM [80], tk Tok.ID [102], tk Tok.IN [73], tk Tok.ID [97], tk Tok.ARGSEP [44], tk Tok.ID [98], tk Tok.DO [68],
   tk Tok.ID [108], tk Tok.LABELDEC [58], tk Tok.GOTO [71], tk Tok.ID [108], tk Tok.END [69],
   tk Tok.LOOP [76], tk Tok.ID [120], tk Tok.DO [68],
     tk Tok.IF [73], tk Tok.ID [120], tk Tok.EQ [61], tk Tok.INT [53], tk Tok.THEN [84], tk Tok.GOTO [71], tk Tok.ID [109],
   tk Tok.END [69], tk Tok.PROGSEP [59], tk Tok.ID [109], tk Tok.LABELDEC [58], tk Tok.STOP [83],
   tk Tok.T_EOF [69, 79, 70]]

example : (parseTokens jumps).2 = [] ∧ AstShape (parseTokens jumps).1 = true ∧
    staticOK (toSource (parseTokens jumps).1) = true := by decide +kernel

/-- the same with the last label misspelt: the static rules (and hence the generator) reject it -/
def jumpsBad : List Token := jumps.take 24 ++ [tk Tok.ID [110], tk Tok.LABELDEC [58], tk Tok.STOP [83], tk Tok.T_EOF [69, 79, 70]]

example : (parseTokens jumpsBad).2 = [] ∧ AstShape (parseTokens jumpsBad).1 = true ∧
    staticOK (toSource (parseTokens jumpsBad).1) = false := by decide +kernel

/-- `PROGRAM f IN a DO x0 := a END  x0 := RUN f WITH 7 END ; l : GOTO l` -/
def calls : List Token :=
  [tk Tok.PROGRAM [80], tk Tok.ID [102], tk Tok.IN [73], tk Tok.ID [97], tk Tok.DO [68],
   tk Tok.ID [120, 48], tk Tok.ASSIGN [58, 61], tk Tok.ID [97], tk Tok.END [69],
   tk Tok.ID [120, 48], tk Tok.ASSIGN [58, 61], tk Tok.RUN [82], tk Tok.ID [102], tk Tok.WITH [87], tk Tok.INT [55], tk Tok.END [69],
   tk Tok.PROGSEP [59], tk Tok.ID [108], tk Tok.LABELDEC [58], tk Tok.GOTO [71], tk Tok.ID [108],
   tk Tok.T_EOF [69, 79, 70]]

/-- (`valueOf` is defined by well-founded recursion and does not reduce in `decide +kernel`; the rules
    are evaluated on the tree, which `Static.topOK_static` proves equal) -/
example : (parseTokens calls).2 = [] ∧ AstShape (parseTokens calls).1 = true ∧
    staticOK (toSource (parseTokens calls).1) = true := by
  refine ⟨by decide +kernel, by decide +kernel, ?_⟩
  rw [← Static.topOK_static _ (by decide +kernel)]
  decide +kernel

example : (gen ⟨(parseTokens calls).2.isEmpty, (parseTokens calls).2, (parseTokens calls).1⟩).ok = true := by
  have hem : EndMarked calls := ⟨calls.dropLast, tk Tok.T_EOF [69, 79, 70], by decide +kernel, rfl, by decide +kernel⟩
  have hp : (parseTokens calls).2 = [] := by decide +kernel
  refine (C04_accepts_iff calls hem).2 ⟨(C04_parse_iff calls hem).1 hp, ?_⟩
  rw [← Static.topOK_static _ (by decide +kernel)]
  decide +kernel
end C04Demo

end Theo
