/-
  C07 for the generator model and end to end — stepping through a compiled program visits exactly
  the lines the reference semantics visits.

  Props/C07.lean proves the validator `siteCheck` sound, so that running it on a compiled program
  establishes C07 for that program.  Here the validator's verdict is PROVED for the generator model
  (`C07_gen_sites`): for every tree of the parser's shape
  that obeys the static rules, the identifier conditions of C01 (`NamesOK`) and the layout
  predicate `OneStmtPerLine` (Spec/Layout.lean), the code of `gen` passes `siteCheck`.  The proof
  (Proofs/GenSites*.lean) extends the statement-by-statement correspondence of C01_gen_shape by the
  site bookkeeping: the generator's file context against the validator's "previous statement", one
  site exactly when the line changes, the line table naming that line, labels holding the
  position of their own site, loop exits and back-edges landing exactly.

  With C01 (an accepted compilation has a tree of the parser's shape, obeys the static rules, and
  its identifiers are user identifiers) and C03 (its code passes the bytecode verifier) this gives
  `C07_compile_step_trace`: for EVERY accepted compilation of a source in that layout, without
  doubly defined jump targets, the sites a run passes are the lines the reference semantics
  visits, in order, with the source-level variable values in every live activation at every stop;
  and the bytecode passes no other site.

  THE LAYOUT PREDICATE is stated on the tree (positions are those of the tokens the nodes were
  built from) and is as weak as the proof allows; see Spec/Layout.lean for the six clauses.  Each
  clause is needed — for each there is below an accepted source (kernel-checked: error-free parse,
  parser shape, static rules, `NamesOK`) that violates only that clause and whose code `siteCheck`
  refuses (evaluated by `#guard`; `toSource` does not reduce in the kernel as soon as a value is
  needed).  In every such case the refusal is right: the stepping trace of the bytecode differs
  from the visit sequence of the source (one site stands for two statements, or a statement has
  none).  Layouts a user would call one statement per line and that are ACCEPTED: a label on the
  line of its statement or alone on a line; `END; next` on one line (END is a label); a PROGRAM
  header spanning lines, or sharing its line with the END of the previous definition (the header's
  own site is removed by `removeTopPotBreak`, the validator expects none); the built-in `x + c`
  (its inserted tokens lie in the hidden standard file, which `advanceLine` ignores).
-/
import Theo.Proofs.GenSitesGen
import Theo.Props.C07
import Theo.Props.C01Compile

namespace Theo
open Sem

/-- the generator-level completeness of `siteCheck`: for a tree of the parser's shape that obeys
    the static rules, the identifier conditions and the one-statement-per-line layout, every site
    of the generated code is where that layout puts it and names that statement's line, there is
    no other site, and loop exits / back-edges / gotos land exactly -/
theorem C07_gen_sites (root : Node) (h : AstShape root = true) (hs : staticOK (toSource root) = true)
    (hn : NamesOK root = true) (hl : OneStmtPerLine root = true) :
    siteCheck (toSource root) (gen ⟨true, [], root⟩).code = true :=
  GenSites.gen_sites root h hs hn hl

/-- … for parsed sources: error-free parse, identifiers as a user can write them, the static
    rules, no repeated jump target, the layout -/
theorem C07_gen_sites_parsed (ts : List Token) (he : (parseTokens ts).2 = [])
    (hid : ∀ t ∈ ts, t.kind = Tok.ID → identShape t.text = true ∨ t.text.head? = some 35)
    (hs : staticOK (toSource (parseTokens ts).1) = true) (hlab : LabelsOK (parseTokens ts).1 = true)
    (hl : OneStmtPerLine (parseTokens ts).1 = true) :
    siteCheck (toSource (parseTokens ts).1) (gen ⟨true, [], (parseTokens ts).1⟩).code = true :=
  C07_gen_sites _ (Static.parser_shape ts he) hs (C01_parsed_names ts he hid hlab) hl

/-- the code of an accepted compilation of a source in the one-statement-per-line layout passes
    `siteCheck` -/
theorem C07_compile_sites (files : Files) (main : Bytes)
    (hok : (compile files main).ok = true)
    (hlab : LabelsOK (parseFiles files main).ast.root = true)
    (hl : OneStmtPerLine (parseFiles files main).ast.root = true) :
    siteCheck (toSource (parseFiles files main).ast.root) (compile files main).code = true := by
  obtain ⟨he, _, hroot, hcode, hs⟩ := C01_accepted_parts files main hok
  rw [hroot] at hlab hl ⊢
  rw [hcode]
  exact C07_gen_sites_parsed _ he (C01_front_end_identifiers files main) hs hlab hl

/-- for every accepted compilation of a source laid out one statement per line (and without
    doubly defined jump targets), stepping through the compiled program visits exactly the lines
    the reference semantics visits:
     * every finite prefix of the source-level visit sequence is the site sequence of some
       bytecode prefix, with the source-level variable values in every live activation at every
       stop;
     * the bytecode passes no site the source does not visit;
     * with stepping mode on, the VM stops at every site it executes. -/
theorem C07_compile_step_trace (files : Files) (main : Bytes)
    (hok : (compile files main).ok = true)
    (hlab : LabelsOK (parseFiles files main).ast.root = true)
    (hl : OneStmtPerLine (parseFiles files main).ast.root = true) :
    let src := toSource (parseFiles files main).ast.root
    let p := (compile files main).code
    (∀ n, ∃ m, (sitesPassed p m (VM.mk' p)).map (fun x => posOfBp x.1) = visits src n (initial src) ∧
        StopsAgree p (visitConfigs src n (initial src)) (sitesPassed p m (VM.mk' p))) ∧
    (∀ m, ∃ n, (sitesPassed p m (VM.mk' p)).map (fun x => posOfBp x.1) <+: visits src n (initial src)) ∧
    (∀ (vm vm' : VM) (r : Bool), step vm = .ok (vm', r) → vm.stepping = true →
        fetch vm.code vm.ip = .ok Instr.potBreak → r = true) := by
  intro src p
  have hs : siteCheck src p = true := C07_compile_sites files main hok hlab hl
  have hw : wfCheck p = true := C03_compile_wf files main hok
  exact ⟨C07_step_trace src p hs hw, C07_no_extra_stops src p hs hw,
    fun vm vm' r h hst hf => C07_stepping_stops_at_sites vm vm' r h hst hf⟩

theorem C07_compile_visits (files : Files) (main : Bytes)
    (hok : (compile files main).ok = true)
    (hlab : LabelsOK (parseFiles files main).ast.root = true)
    (hl : OneStmtPerLine (parseFiles files main).ast.root = true) (n : Nat) :
    ∃ m, (sitesPassed (compile files main).code m (VM.mk' (compile files main).code)).map (fun x => posOfBp x.1) =
        visits (toSource (parseFiles files main).ast.root) n (initial (toSource (parseFiles files main).ast.root)) ∧
      StopsAgree (compile files main).code
        (visitConfigs (toSource (parseFiles files main).ast.root) n (initial (toSource (parseFiles files main).ast.root)))
        (sitesPassed (compile files main).code m (VM.mk' (compile files main).code)) :=
  (C07_compile_step_trace files main hok hlab hl).1 n

namespace C07Demo

def fm : Bytes := [109]
def tk (k : Nat) (s : Bytes) (ln : Int) : Token := ⟨k, s, fm, ln⟩
def std (k : Nat) (s : Bytes) : Token := ⟨k, s, ConstGen.genStdFileName, 1⟩
def eof (ln : Int) : Token := tk Tok.T_EOF [69, 79, 70] ln
def X : Bytes := [120]
def Y : Bytes := [121]
def Z : Bytes := [122]
def asg (v : Bytes) (n : UInt8) (ln : Int) : List Token := [tk Tok.ID v ln, tk Tok.ASSIGN [58, 61] ln, tk Tok.INT [n] ln]
def semi (ln : Int) : Token := tk Tok.PROGSEP [59] ln
def loopHdr (ln : Int) : List Token := [tk Tok.LOOP [76] ln, tk Tok.ID X ln, tk Tok.DO [68] ln]
def endT (ln : Int) : Token := tk Tok.END [69] ln
def lbl (n : Bytes) (ln : Int) : List Token := [tk Tok.ID n ln, tk Tok.LABELDEC [58] ln]
def progHdr (ln : Int) : List Token := [tk Tok.PROGRAM [80] ln, tk Tok.ID [102] ln, tk Tok.DO [68] ln]

/-- twelve lines: a PROGRAM with a built-in `a + 1` (tokens of the hidden standard file), a call,
    a LOOP, a label alone on its line, the built-in `x - 1`, a conditional GOTO, a GOTO, a labelled STOP
```
 1  PROGRAM f IN a OUT r DO
 2  r := a + 1
 3  END
 4  x := RUN f WITH 2 END;
 5  LOOP x DO
 6  y := y + 1
 7  END;
 8  l:
 9  x := x - 1;
10  IF x = 0 THEN GOTO e;
11  GOTO l;
12  e: STOP
``` -/
def demo : List Token :=
  [tk Tok.PROGRAM [80] 1, tk Tok.ID [102] 1, tk Tok.IN [73] 1, tk Tok.ID [97] 1, tk Tok.OUT [79] 1, tk Tok.ID [114] 1, tk Tok.DO [68] 1,
   tk Tok.ID [114] 2, tk Tok.ASSIGN [58, 61] 2, std Tok.RUN [82], std Tok.ID bINC, std Tok.WITH [87], tk Tok.ID [97] 2,
     std Tok.ARGSEP [44], tk Tok.INT [49] 2, std Tok.END [69],
   endT 3,
   tk Tok.ID X 4, tk Tok.ASSIGN [58, 61] 4, tk Tok.RUN [82] 4, tk Tok.ID [102] 4, tk Tok.WITH [87] 4, tk Tok.INT [50] 4, endT 4, semi 4,
   tk Tok.LOOP [76] 5, tk Tok.ID X 5, tk Tok.DO [68] 5,
   tk Tok.ID Y 6, tk Tok.ASSIGN [58, 61] 6, std Tok.RUN [82], std Tok.ID bINC, std Tok.WITH [87], tk Tok.ID Y 6,
     std Tok.ARGSEP [44], tk Tok.INT [49] 6, std Tok.END [69],
   endT 7, semi 7,
   tk Tok.ID [108] 8, tk Tok.LABELDEC [58] 8,
   tk Tok.ID X 9, tk Tok.ASSIGN [58, 61] 9, std Tok.RUN [82], std Tok.ID bDEC, std Tok.WITH [87], tk Tok.ID X 9,
     std Tok.ARGSEP [44], tk Tok.INT [49] 9, std Tok.END [69], semi 9,
   tk Tok.IF [73] 10, tk Tok.ID X 10, tk Tok.EQ [61] 10, tk Tok.INT [48] 10, tk Tok.THEN [84] 10, tk Tok.GOTO [71] 10, tk Tok.ID [101] 10, semi 10,
   tk Tok.GOTO [71] 11, tk Tok.ID [108] 11, semi 11,
   tk Tok.ID [101] 12, tk Tok.LABELDEC [58] 12, tk Tok.STOP [83] 12,
   eof 12]

/-- all hypotheses hold for the parser's tree (kernel-checked) … -/
theorem demo_hyps : (parseTokens demo).2 = [] ∧ AstShape (parseTokens demo).1 = true ∧
    staticOK (toSource (parseTokens demo).1) = true ∧ NamesOK (parseTokens demo).1 = true ∧
    OneStmtPerLine (parseTokens demo).1 = true := by
  have h : (parseTokens demo).2 = [] ∧ AstShape (parseTokens demo).1 = true ∧
      Static.topOK (fun _ => none) (parseTokens demo).1 = true ∧ NamesOK (parseTokens demo).1 = true ∧
      OneStmtPerLine (parseTokens demo).1 = true := by decide +kernel
  exact ⟨h.1, h.2.1, by rw [← Static.topOK_static _ h.2.1]; exact h.2.2.1, h.2.2.2⟩

/-- … hence its code passes `siteCheck`, without running the validator -/
theorem demo_sites :
    siteCheck (toSource (parseTokens demo).1) (gen ⟨true, [], (parseTokens demo).1⟩).code = true :=
  C07_gen_sites _ demo_hyps.2.1 demo_hyps.2.2.1 demo_hyps.2.2.2.1 demo_hyps.2.2.2.2

-- (and running it agrees)
#guard siteCheck (toSource (parseTokens demo).1) (gen ⟨true, [], (parseTokens demo).1⟩).code

/-! ### the same program from source text, through every stage of `compile` -/

/-- the text of the main file `m` (twelve lines, see `demo`) -/
def text : Bytes :=
  [80, 82, 79, 71, 82, 65, 77, 32, 102, 32, 73, 78, 32, 97, 32, 79, 85, 84, 32, 114, 32, 68, 79, 10, 114, 32, 58, 61, 32,
   97, 32, 43, 32, 49, 10, 69, 78, 68, 10, 120, 32, 58, 61, 32, 82, 85, 78, 32, 102, 32, 87, 73, 84, 72, 32, 50, 32, 69,
   78, 68, 59, 10, 76, 79, 79, 80, 32, 120, 32, 68, 79, 10, 121, 32, 58, 61, 32, 121, 32, 43, 32, 49, 10, 69, 78, 68, 59,
   10, 108, 58, 10, 120, 32, 58, 61, 32, 120, 32, 45, 32, 49, 59, 10, 73, 70, 32, 120, 32, 61, 32, 48, 32, 84, 72, 69, 78,
   32, 71, 79, 84, 79, 32, 101, 59, 10, 71, 79, 84, 79, 32, 108, 59, 10, 101, 58, 32, 83, 84, 79, 80]

#guard text == "PROGRAM f IN a OUT r DO\nr := a + 1\nEND\nx := RUN f WITH 2 END;\nLOOP x DO\ny := y + 1\nEND;\nl:\nx := x - 1;\nIF x = 0 THEN GOTO e;\nGOTO l;\ne: STOP".toUTF8.toList

def files : Files := [(fm, text)]

/-- the compilation is accepted, no jump target is defined twice, the tree is laid out one statement
    per line.  Kernel-checked: the text defines no macro, so the token stream that reaches the parser
    is `desugar` of its own tokens (`C04_sugar_frontEnd`, through `parseFiles_eval`); the scanner on
    `text`, `desugar`, the descent and the generator are evaluated. -/
theorem text_facts : (compile files fm).ok = true ∧ LabelsOK (parseFiles files fm).ast.root = true ∧
    OneStmtPerLine (parseFiles files fm).ast.root = true := by
  rw [compile_ok_eq]
  exact parseFiles_eval (content := text)
    (P := fun a => (gen a).ok = true ∧ LabelsOK a.root = true ∧ OneStmtPerLine a.root = true)
    (by decide) rfl (by decide +kernel)

/-- hence, without running validator, verifier or VM: the stepping trace of the compiled program is
    the visit sequence of the source -/
theorem text_step_trace :
    let src := toSource (parseFiles files fm).ast.root
    let p := (compile files fm).code
    (∀ n, ∃ m, (sitesPassed p m (VM.mk' p)).map (fun x => posOfBp x.1) = visits src n (initial src) ∧
        StopsAgree p (visitConfigs src n (initial src)) (sitesPassed p m (VM.mk' p))) ∧
    (∀ m, ∃ n, (sitesPassed p m (VM.mk' p)).map (fun x => posOfBp x.1) <+: visits src n (initial src)) ∧
    (∀ (vm vm' : VM) (r : Bool), step vm = .ok (vm', r) → vm.stepping = true →
        fetch vm.code vm.ip = .ok Instr.potBreak → r = true) :=
  C07_compile_step_trace files fm text_facts.1 text_facts.2.1 text_facts.2.2

/-! The concrete runs are evaluated: the reference execution visits the lines
    4 (the call) 2 3 (the body of `f`) 5 6 6 6 7 (three turns of the loop) 8 9 10 11 8 9 10 11 8 9 10 12,
    and so does the bytecode. -/
#guard (visits (toSource (parseFiles files fm).ast.root) 200 (initial (toSource (parseFiles files fm).ast.root))).map (·.2)
  == [4, 2, 3, 5, 6, 6, 6, 7, 8, 9, 10, 11, 8, 9, 10, 11, 8, 9, 10, 12]
#guard (sitesPassed (compile files fm).code 400 (VM.mk' (compile files fm).code)).map (fun x => (posOfBp x.1).2)
  == [4, 2, 3, 5, 6, 6, 6, 7, 8, 9, 10, 11, 8, 9, 10, 11, 8, 9, 10, 12]
#guard siteCheck (toSource (parseFiles files fm).ast.root) (compile files fm).code

/-! ### each clause of `OneStmtPerLine` is needed

  accepted sources (error-free parse, parser shape, static rules, `NamesOK`: kernel-checked) that
  violate the layout in one way, and whose code `siteCheck` refuses (evaluated) -/

def accepted (root : Node) : Prop := AstShape root = true ∧ staticOK (toSource root) = true ∧ NamesOK root = true
def refused (root : Node) : Bool := !siteCheck (toSource root) (gen ⟨true, [], root⟩).code

theorem accepted_of (root : Node) (h : AstShape root = true) (ht : Static.topOK (fun _ => none) root = true)
    (hn : NamesOK root = true) : accepted root :=
  ⟨h, by rw [← Static.topOK_static _ h]; exact ht, hn⟩

/-- the form of a witness the kernel can evaluate in one go (`toSource` does not reduce there,
    `Static.topOK` does) -/
theorem witness {ts : List Token} {b : Bool}
    (h : (parseTokens ts).2 = [] ∧ AstShape (parseTokens ts).1 = true ∧
      Static.topOK (fun _ => none) (parseTokens ts).1 = true ∧ NamesOK (parseTokens ts).1 = true ∧
      OneStmtPerLine (parseTokens ts).1 = b) :
    (parseTokens ts).2 = [] ∧ accepted (parseTokens ts).1 ∧ OneStmtPerLine (parseTokens ts).1 = b :=
  ⟨h.1, accepted_of _ h.2.1 h.2.2.1 h.2.2.2.1, h.2.2.2.2⟩

/-- clause 1, two statements on one line: `x := 1; y := 2` -/
def twoOnLine := asg X 49 1 ++ [semi 1] ++ asg Y 50 1 ++ [eof 1]
example : (parseTokens twoOnLine).2 = [] ∧ accepted (parseTokens twoOnLine).1 ∧ OneStmtPerLine (parseTokens twoOnLine).1 = false :=
  witness (by decide +kernel)
#guard refused (parseTokens twoOnLine).1

/-- clause 1, the first statement of a body on the header's line: `LOOP x DO y := 1 ⏎ END` -/
def bodyOnHeader := loopHdr 1 ++ asg Y 49 1 ++ [endT 2, eof 2]
example : (parseTokens bodyOnHeader).2 = [] ∧ accepted (parseTokens bodyOnHeader).1 ∧ OneStmtPerLine (parseTokens bodyOnHeader).1 = false :=
  witness (by decide +kernel)
#guard refused (parseTokens bodyOnHeader).1

/-- clauses 1/2, END on the line of the last statement of the body: `LOOP x DO ⏎ y := 1 END` -/
def endOnLast := loopHdr 1 ++ asg Y 49 2 ++ [endT 2, eof 2]
example : (parseTokens endOnLast).2 = [] ∧ accepted (parseTokens endOnLast).1 ∧ OneStmtPerLine (parseTokens endOnLast).1 = false :=
  witness (by decide +kernel)
#guard refused (parseTokens endOnLast).1

/-- clause 1, a statement directly behind a loop (no END mark: not a parser tree) on the line where
    the body ended -/
def afterLoopNode : Node :=
  .mk NodeT.SPLIT [] fm 1
    (.mk NodeT.LOOP [] fm 1 (.mk NodeT.NAME X fm 1 .nil .nil)
      (.mk NodeT.ASSIGN [] fm 2 (.mk NodeT.NAME Y fm 2 .nil .nil) (.mk NodeT.NUMBER [49] fm 2 .nil .nil)))
    (.mk NodeT.ASSIGN [] fm 2 (.mk NodeT.NAME Z fm 2 .nil .nil) (.mk NodeT.NUMBER [50] fm 2 .nil .nil))
example : accepted afterLoopNode ∧ OneStmtPerLine afterLoopNode = false :=
  ⟨accepted_of _ (by decide +kernel) (by decide +kernel) (by decide +kernel), by decide +kernel⟩
#guard refused afterLoopNode

/-- clause 2, a label on the line of the statement before it: `x := 1; l: ⏎ y := 2` -/
def labelAfterStmt := asg X 49 1 ++ [semi 1] ++ lbl [108] 1 ++ asg Y 50 2 ++ [eof 2]
example : (parseTokens labelAfterStmt).2 = [] ∧ accepted (parseTokens labelAfterStmt).1 ∧ OneStmtPerLine (parseTokens labelAfterStmt).1 = false :=
  witness (by decide +kernel)
#guard refused (parseTokens labelAfterStmt).1

/-- clause 2, two labels on one line: `a: b: x := 1` -/
def twoLabels := lbl [97] 1 ++ lbl [98] 1 ++ asg X 49 1 ++ [eof 1]
example : (parseTokens twoLabels).2 = [] ∧ accepted (parseTokens twoLabels).1 ∧ OneStmtPerLine (parseTokens twoLabels).1 = false :=
  witness (by decide +kernel)
#guard refused (parseTokens twoLabels).1

/-- clause 3, the first statement of a PROGRAM body on the header's line: `PROGRAM f DO x0 := 1 ⏎ END ⏎ y := 2` -/
def headerLine := progHdr 1 ++ asg [120, 48] 49 1 ++ [endT 2] ++ asg Y 50 3 ++ [eof 3]
example : (parseTokens headerLine).2 = [] ∧ accepted (parseTokens headerLine).1 ∧ OneStmtPerLine (parseTokens headerLine).1 = false :=
  witness (by decide +kernel)
#guard refused (parseTokens headerLine).1

/-- clause 3, the first main statement on the line of the END of the last definition:
    `PROGRAM f DO ⏎ x0 := 1 ⏎ END y := 2` -/
def afterProgEnd := progHdr 1 ++ asg [120, 48] 49 2 ++ [endT 3] ++ asg Y 50 3 ++ [eof 3]
example : (parseTokens afterProgEnd).2 = [] ∧ accepted (parseTokens afterProgEnd).1 ∧ OneStmtPerLine (parseTokens afterProgEnd).1 = false :=
  witness (by decide +kernel)
#guard refused (parseTokens afterProgEnd).1

/-- clause 3, a first statement at the generator's initial pseudo-position `- : -1` -/
def rootPos : List Token :=
  [⟨Tok.ID, X, ConstGen.rootFsName, ConstGen.rootFsLine⟩, ⟨Tok.ASSIGN, [58, 61], ConstGen.rootFsName, ConstGen.rootFsLine⟩,
   ⟨Tok.INT, [49], ConstGen.rootFsName, ConstGen.rootFsLine⟩, eof 1]
example : (parseTokens rootPos).2 = [] ∧ accepted (parseTokens rootPos).1 ∧ OneStmtPerLine (parseTokens rootPos).1 = false :=
  witness (by decide +kernel)
#guard refused (parseTokens rootPos).1

/-- clause 4, a call whose arguments span lines: `x := RUN f WITH 1, ⏎ 2 END` -/
def argsSpan : List Token :=
  [tk Tok.PROGRAM [80] 1, tk Tok.ID [102] 1, tk Tok.IN [73] 1, tk Tok.ID [97] 1, tk Tok.ARGSEP [44] 1, tk Tok.ID [98] 1, tk Tok.DO [68] 1,
   tk Tok.ID [120, 48] 2, tk Tok.ASSIGN [58, 61] 2, tk Tok.ID [97] 2, endT 3,
   tk Tok.ID X 4, tk Tok.ASSIGN [58, 61] 4, tk Tok.RUN [82] 4, tk Tok.ID [102] 4, tk Tok.WITH [87] 4, tk Tok.INT [49] 4, tk Tok.ARGSEP [44] 4,
   tk Tok.INT [50] 5, endT 5, eof 5]
example : (parseTokens argsSpan).2 = [] ∧ accepted (parseTokens argsSpan).1 ∧ OneStmtPerLine (parseTokens argsSpan).1 = false :=
  witness (by decide +kernel)
#guard refused (parseTokens argsSpan).1

/-- clause 5, a statement whose tokens lie in the standard file (a user-supplied `__standards__`) -/
def stdStmt : List Token := [std Tok.ID X, std Tok.ASSIGN [58, 61], std Tok.INT [49], eof 1]
example : (parseTokens stdStmt).2 = [] ∧ accepted (parseTokens stdStmt).1 ∧ OneStmtPerLine (parseTokens stdStmt).1 = false :=
  witness (by decide +kernel)
#guard refused (parseTokens stdStmt).1

/-- clause 6, a sequencing node on a line of its own (not a parser tree) -/
def splitNode : Node :=
  .mk NodeT.SPLIT [] fm 2 .nil (.mk NodeT.ASSIGN [] fm 3 (.mk NodeT.NAME X fm 3 .nil .nil) (.mk NodeT.NUMBER [49] fm 3 .nil .nil))
example : accepted splitNode ∧ OneStmtPerLine splitNode = false :=
  ⟨accepted_of _ (by decide +kernel) (by decide +kernel) (by decide +kernel), by decide +kernel⟩
#guard refused splitNode

/-- `l: x := 1` on one line; a label alone on its line -/
def labelLine := lbl [108] 1 ++ asg X 49 1 ++ [semi 1] ++ lbl [97] 2 ++ asg Y 50 3 ++ [eof 3]
/-- `LOOP x DO ⏎ y := 1 ⏎ END; z := 2`: END is a label -/
def afterEnd := loopHdr 1 ++ asg Y 49 2 ++ [endT 3, semi 3] ++ asg Z 50 3 ++ [eof 3]
/-- a header spanning five lines, the next header on the line of the previous END -/
def headers : List Token :=
  [tk Tok.PROGRAM [80] 1, tk Tok.ID [102] 2, tk Tok.IN [73] 2, tk Tok.ID [97] 3, tk Tok.ARGSEP [44] 3, tk Tok.ID [98] 4, tk Tok.DO [68] 5,
   tk Tok.ID [120, 48] 6, tk Tok.ASSIGN [58, 61] 6, tk Tok.ID [97] 6, endT 7,
   tk Tok.PROGRAM [80] 7, tk Tok.ID [103] 7, tk Tok.DO [68] 7] ++ asg [120, 48] 50 8 ++ [endT 9] ++ asg Y 50 10 ++ [eof 10]

example : OneStmtPerLine (parseTokens labelLine).1 = true ∧ OneStmtPerLine (parseTokens afterEnd).1 = true ∧
    OneStmtPerLine (parseTokens headers).1 = true := by decide +kernel
#guard !refused (parseTokens labelLine).1 && !refused (parseTokens afterEnd).1 && !refused (parseTokens headers).1

end C07Demo

end Theo
