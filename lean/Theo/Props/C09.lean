/-
  C09 — macro expansion is faithful substitution: highest priority, leftmost, longest.
  Selection and splicing are proved for the model of apply_macros; that a detected range derives
  from the pattern follows from LR soundness (C13): `C09_match_derives` in Props/C09Semantic.lean.
-/
import Theo.Proofs.ApplyProofs
import Theo.Proofs.MacroProofs

namespace Theo

/-- a step replaces exactly the detected range by the instantiated body and leaves every other
    token untouched and in order -/
theorem C09_step_splice (bs : List (List Detector)) (inp : List Token) (p : Nat)
    (d : Detector) (r : Response) (out : List Token) (h : applyStep bs inp p = some (d, r, out)) :
    out = inp.take r.location ++ replacement d.md r p ++ inp.drop (r.location + r.length) ∧
    detect d inp = some r ∧ ∃ b ∈ bs, d ∈ b := by
  obtain ⟨pre, b, post, hbs, _, hdb, hdet, hout, _⟩ := applyStep_some bs inp p d r out h
  exact ⟨hout, hdet, b, by rw [hbs]; simp, hdb⟩

/-- `$n` is replaced by exactly the tokens matched by slot `n`; every other body token except
    temporaries is copied unchanged -/
theorem C09_instantiate (m : MacroDef) (r : Response) (p : Nat) :
    replacement m r p = m.body.flatMap (fun cand =>
      if cand.kind = Tok.INSERTION then
        (match m.tt[(toInt32 (strtolNat (cand.text.drop 1))).toNat]? with
         | some ri => (r.matched[ri]?).getD []
         | none => [])
      else if cand.kind = Tok.TEMP_VAL then
        [{ cand with kind := Tok.ID,
                     text := tempName cand.text (m.body.head?.getD default).file (m.body.head?.getD default).line p }]
      else [cand]) := by
  rfl

/-- `detect` reports the leftmost start at which the detector accepts a prefix satisfying the
    text constraints -/
theorem C09_detect_leftmost (d : Detector) (inp : List Token) (r : Response) (h : detect d inp = some r) :
    r.location < inp.length ∧
    (∃ a, detectAt d (inp.drop r.location) = some a ∧ checkConstraint d.md a.split = true ∧
          r.length = a.total.length ∧ r.matched = a.split) ∧
    (∀ i, i < r.location → ∀ a, detectAt d (inp.drop i) = some a → checkConstraint d.md a.split = false) := by
  exact detect_leftmost d inp r h

theorem C09_detect_none (d : Detector) (inp : List Token) :
    detect d inp = none ↔
      ∀ i, i < inp.length → ∀ a, detectAt d (inp.drop i) = some a → checkConstraint d.md a.split = false := by
  exact detectFrom_none d inp 0

/-- no step at all exactly when no usable detector detects anything -/
theorem C09_step_none (bs : List (List Detector)) (inp : List Token) (p : Nat) :
    applyStep bs inp p = none ↔ ∀ b ∈ bs, ∀ d ∈ b, detect d inp = none :=
  applyStep_none bs inp p

/-- the bins are visited from the highest priority: the chosen detector's priority is the
    greatest priority of any detector that detects something -/
theorem C09_highest_priority (ds : List Detector) (inp : List Token) (p : Nat)
    (d : Detector) (r : Response) (out : List Token) (h : applyStep (bins ds) inp p = some (d, r, out)) :
    ∀ d' ∈ ds, (detect d' inp).isSome = true → d'.md.priority ≤ d.md.priority := by
  exact (applyStep_bins ds inp p d r out h).1

/-- among the detections of the chosen priority the range of the step taken is the leftmost,
    and among the leftmost the longest (so the range does not depend on the order of definition;
    which of several definitions detecting that very range is used is not said here) -/
theorem C09_leftmost_longest (ds : List Detector) (inp : List Token) (p : Nat)
    (d : Detector) (r : Response) (out : List Token) (h : applyStep (bins ds) inp p = some (d, r, out)) :
    ∀ d' ∈ ds, d'.md.priority = d.md.priority → ∀ r', detect d' inp = some r' →
      r.location < r'.location ∨ (r.location = r'.location ∧ r'.length ≤ r.length) := by
  exact (applyStep_bins ds inp p d r out h).2

/-- rewriting repeats until no pattern matches (unless the budget runs out, C11) -/
theorem C09_runs_to_fixpoint (inp : List Token) (defs : List MacroDef) (passes : Nat) (hp : 1 ≤ passes)
    (h : ∀ e ∈ (applyMacros inp defs passes).errs, e.kind ≠ PErrT.MACRO_APPLY_REACHED_MAX_PASSES) :
    ∀ b ∈ bins ((defs.map mkDetector).filter (·.usable)), ∀ d ∈ b,
      detect d (applyMacros inp defs passes).toks = none := by
  rcases applyMacros_flag_or_fixpoint inp defs passes hp with hm | hfix
  · exact absurd rfl (h maxPassesErr hm)
  · exact (C09_step_none _ _ 0).mp (hfix 0)

end Theo
