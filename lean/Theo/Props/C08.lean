/-
  C08 — breakpoint tables are consistent and name real source lines.
  Statements are about the generator model `gen` for *every* tree (any layout, any file split,
  macro bodies included: the tree is whatever the front end produced).
-/
import Theo.Proofs.GenTables

namespace Theo

def Node.nodes : Node → List Node
  | .nil => []
  | .mk t tok f l a b => Node.mk t tok f l a b :: (a.nodes ++ b.nodes)

theorem allPos_nodes (root : Node) : ∀ sub : Node, (∀ n ∈ sub.nodes, n ∈ root.nodes) →
    sub.AllPos (fun bp => ∃ n ∈ root.nodes, n.file = bp.file ∧ n.line = bp.line)
  | .nil, _ => trivial
  | .mk _ _ _ _ a b, hsub =>
    ⟨⟨_, hsub _ List.mem_cons_self, rfl, rfl⟩,
      allPos_nodes root a fun n hn => hsub n (List.mem_cons_of_mem _ (List.mem_append_left _ hn)),
      allPos_nodes root b fun n hn => hsub n (List.mem_cons_of_mem _ (List.mem_append_right _ hn))⟩

/-- the two tables are exact inverses; the listed sites are exactly the break instructions -/
theorem C08_tables_inverse (a : AST) : TablesInverse (gen a).code :=
  (gen_TI' a).tablesInverse

/-- no site is listed twice, no location twice, and no location has an empty site list -/
theorem C08_no_duplicates (a : AST) :
    (∀ e ∈ (gen a).code.potBreaks, e.2.Nodup ∧ e.2 ≠ []) ∧
    ((gen a).code.potBreaks.map (·.1)).Nodup ∧ ((gen a).code.lineInfo.map (·.1)).Nodup :=
  (gen_TI' a).noDuplicates

/-- the loaded program contains no enabled breakpoint (`BREAK`) -/
theorem C08_no_break_opcode (a : AST) : Instr.brk ∉ (gen a).code.code :=
  (gen_TI' a).nobrk

/-- hence the hypotheses of the debugger theorems (C05, C06, C17) hold for every compiled program -/
theorem C08_sitesOK (a : AST) : SitesOK (gen a).code :=
  (gen_TI' a).sitesOK

/-- the hidden standard-macro file is never an available location -/
theorem C08_no_std_lines (a : AST) :
    ∀ bp ∈ (gen a).code.available, bp.file ≠ ConstGen.genStdFileName :=
  (gen_TI' a).noStd

/-- every available location is the position of a node of the tree, whether or not the parse
    succeeded (after a failed parse there is no available location) -/
theorem gen_real_lines (a : AST) :
    ∀ bp ∈ (gen a).code.available, ∃ n ∈ a.root.nodes, n.file = bp.file ∧ n.line = bp.line :=
  (gen_TI a _ (fun _ => allPos_nodes a.root a.root (fun _ h => h))).realLines

/-- every available location is the position of a node of the tree (node positions are copied
    from token positions by the parser) -/
theorem C08_real_lines (a : AST) (h : a.ok = true) :
    ∀ bp ∈ (gen a).code.available, ∃ n ∈ a.root.nodes, n.file = bp.file ∧ n.line = bp.line :=
  gen_real_lines a

/-- a location can be enabled if and only if stepping can report it -/
theorem C08_enable_iff_reportable (a : AST) (bp : BreakPoint) :
    bp ∈ (gen a).code.available ↔ ∃ i, (gen a).code.lineAt i = some bp :=
  (gen_TI' a).enableIff bp

end Theo
