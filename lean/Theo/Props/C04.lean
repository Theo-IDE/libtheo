/-
  C04 — the compiler accepts exactly the programs of the language (syntactic part):
  the recursive-descent parser with its error recovery records no error if and only if the token
  stream is a sentence of the documented grammar.
-/
import Theo.Proofs.ParseProofs
import Theo.Proofs.MacroProofs

namespace Theo

/-- soundness: an error-free parse means the stream is a sentence of the grammar -/
theorem C04_parse_sound (ts : List Token) (h : EndMarked ts) (he : (parseTokens ts).2 = []) :
    Derives langGrammar (.n LangNT.S) (bodyKinds ts) := by
  obtain ⟨body, eof, rfl, hk, hb⟩ := h
  rw [C04.bodyKinds_eq]
  exact C04.sound_core body eof hk hb he

/-- completeness: every sentence of the grammar is parsed without any error
    (error recovery never fires on a sentence, trailing input included) -/
theorem C04_parse_complete (ts : List Token) (h : EndMarked ts)
    (hd : Derives langGrammar (.n LangNT.S) (bodyKinds ts)) : (parseTokens ts).2 = [] := by
  obtain ⟨body, eof, rfl, hk, hb⟩ := h
  rw [C04.bodyKinds_eq] at hd
  exact C04.complete_core body eof hk hd

theorem C04_parse_iff (ts : List Token) (h : EndMarked ts) :
    (parseTokens ts).2 = [] ↔ Derives langGrammar (.n LangNT.S) (bodyKinds ts) :=
  ⟨C04_parse_sound ts h, C04_parse_complete ts h⟩

/-- the fuel of the descent is never exhausted: the `fuel` error kind of the model never appears,
    so the result of the model is that of the unbounded descent.  Holds of every token list
    (`C04.parse_fuel_ok`); the hypothesis `h` is not used. -/
theorem C04_parse_fuel_ok (ts : List Token) (h : EndMarked ts) :
    ∀ e ∈ (parseTokens ts).2, e.kind ≠ SynKind.fuel :=
  have _ := h
  C04.parse_fuel_ok ts

/-- scanner, extraction and macro errors make the parse incorrect, and an incorrect parse makes
    the compilation incorrect with at least one error -/
theorem C04_errors_not_lost (files : Files) (main : Bytes) :
    ((parseFiles files main).ast.ok = true ↔ (parseFiles files main).ast.errs = []) ∧
    ((parseFiles files main).ast.ok = false → (compile files main).ok = false ∧ (compile files main).errors ≠ []) := by
  have h1 : (parseFiles files main).ast.ok = true ↔ (parseFiles files main).ast.errs = [] := by
    rw [parseFiles_ok_eq, List.isEmpty_iff]
  refine ⟨h1, ?_⟩
  intro hok
  have hne : (parseFiles files main).ast.errs ≠ [] := by
    intro hx
    rw [h1.mpr hx] at hok
    cases hok
  refine ⟨(parse_error_not_passed_on files main hne).2, ?_⟩
  rw [compile_errors_eq]
  intro hx
  have h2 := gen_errors_length _ hok
  rw [hx] at h2
  have h3 : 0 < (parseFiles files main).ast.errs.length := List.length_pos_iff.mpr hne
  rw [List.length_nil] at h2
  omega

end Theo
