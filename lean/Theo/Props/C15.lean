/-
  C15 — include resolution terminates, detects cycles, reports what is missing.
  (Also the scan-level clause of C14: exactly one end-of-file token, last.)
-/
import Theo.Model.Gen
import Theo.Proofs.LocatedScan

namespace Theo

/-- Scanning terminates for every include graph: the depth budget `#files + 1` of the model's
    recursion over the include tree is never exhausted (the scanner stack holds pairwise
    different supplied files). -/
theorem C15_terminates (files : Files) (main : Bytes) : (scan files main).fuelOut = false := by
  unfold scan
  simp only
  split
  · next content h =>
    exact scanFile_fuel files _ [] main content (List.nodup_cons.2 ⟨List.not_mem_nil, List.nodup_nil⟩)
      (fun a ha => List.mem_singleton.1 ha ▸ Files.mem_of_get? h) (by simp)
  · rfl

/-- decision logic of one include directive followed by a quoted name, stated outright:
    absent → FILE_NOT_FOUND with the name as request; present and currently being included →
    RECURSIVE_INCLUDE and skipped; otherwise spliced in place -/
theorem C15_include_cases (files : Files) (d : Nat) (active : List Bytes) (f : Bytes)
    (inc n : RawTok) (rest : List RawTok) (hi : inc.kind = Tok.INCLUDE) (hn : n.kind = Tok.FNAME) :
    scanToks files d active f (inc :: n :: rest) =
      (match files.get? (unquote n.text) with
       | none => (ScanOut.mk [] [⟨PErrT.FILE_NOT_FOUND, f, n.line, unquote n.text⟩] false)
       | some content =>
         if active.contains (unquote n.text) then
           (ScanOut.mk [] [⟨PErrT.RECURSIVE_INCLUDE, f, n.line, []⟩] false)
         else scanFile d files active (unquote n.text) content).append
      (scanToks files d active f rest) :=
  scanToks_include files d active f inc n rest hi hn

/-- an include not followed by a quoted name is reported, and the offending token dropped -/
theorem C15_expected_filename (files : Files) (d : Nat) (active : List Bytes) (f : Bytes)
    (inc n : RawTok) (rest : List RawTok) (hi : inc.kind = Tok.INCLUDE) (hn : n.kind ≠ Tok.FNAME) :
    scanToks files d active f (inc :: n :: rest) =
      (ScanOut.mk [] [⟨PErrT.EXPECTED_FILENAME, f, n.line, []⟩] false).append
        (scanToks files d active f rest) ∧
    scanToks files d active f [inc] = ⟨[], [⟨PErrT.EXPECTED_FILENAME, f, inc.line, []⟩], false⟩ := by
  unfold scanToks
  constructor
  · rw [scanToksWith, if_pos hi, if_pos hn]
  · rw [scanToksWith, if_pos hi]

/-- the main file is reported missing exactly when it is absent, with its name as the request -/
theorem C15_main_missing (files : Files) (main : Bytes) :
    (files.get? main = none →
      (scan files main).errs = [⟨PErrT.MAIN_FILE_NOT_FOUND, bDash, -1, main⟩]) ∧
    (files.get? main ≠ none →
      ∀ e ∈ (scan files main).errs, e.kind ≠ PErrT.MAIN_FILE_NOT_FOUND) := by
  rw [scan_errs]
  constructor
  · intro h; simp [h]
  · intro h e he
    split at he
    · have := scanFile_err_kinds files _ _ _ _ e he
      intro hk
      rw [hk] at this
      revert this; decide
    · next h' => exact absurd h' h

/-- every file reported as not found is indeed absent, and is named as the request -/
theorem C15_missing_are_absent (files : Files) (main : Bytes) (e : PErr)
    (he : e ∈ (scan files main).errs) (hk : e.kind = PErrT.FILE_NOT_FOUND) :
    files.get? e.req = none := by
  rw [scan_errs] at he
  split at he
  · exact scanFile_missing_absent files _ _ _ _ e he hk
  · simp at he; subst he
    simp [PErrT.MAIN_FILE_NOT_FOUND, PErrT.FILE_NOT_FOUND] at hk

/-- the file requests of a compilation are the names carried by the FILE_NOT_FOUND and
    MAIN_FILE_NOT_FOUND errors of a scan, in order.  The statement leaves the scanned table open;
    the proof takes the one `parseFiles` scans, `Loc.scanFiles files main`. -/
theorem C15_file_requests (files : Files) (main : Bytes) :
    ∃ files' : Files, (compile files main).requests =
      ((scan files' main).errs.filter (fun e =>
          e.kind = PErrT.FILE_NOT_FOUND ∨ e.kind = PErrT.MAIN_FILE_NOT_FOUND)).map (·.req) := by
  refine ⟨Loc.scanFiles files main, ?_⟩
  unfold compile parseFiles
  simp only []
  exact filterMap_ite_eq_filter_map
    (fun e : PErr => e.kind = PErrT.FILE_NOT_FOUND ∨ e.kind = PErrT.MAIN_FILE_NOT_FOUND) (·.req) _

/-- including the same file several times one after another is allowed; including a file that
    is being included is recursive (closed instances on concrete graphs) -/
example :
    let files : Files := [([109], [105,110,99,108,117,100,101,32,34,97,34,32,105,110,99,108,117,100,101,32,34,97,34]),
                          ([97], [120])]      -- m: include "a" include "a"   a: x
    ((scan files [109]).toks.map (·.text) = [[120], [120], bEOF]) ∧ (scan files [109]).errs = [] := by
  decide +kernel

example :
    let files : Files := [([109], [105,110,99,108,117,100,101,32,34,97,34]),
                          ([97], [105,110,99,108,117,100,101,32,34,109,34,32,121])]   -- m: include "a"  a: include "m" y
    (scan files [109]).errs = [⟨PErrT.RECURSIVE_INCLUDE, [97], 1, []⟩] ∧
    (scan files [109]).toks.map (·.text) = [[121], bEOF] := by
  decide +kernel

/-- C14 (stream level): the stream ends with exactly one end-of-file token, which carries the
    position of the last real token -/
theorem C14_one_eof (files : Files) (main : Bytes) :
    ∃ body eof, (scan files main).toks = body ++ [eof] ∧ eof.kind = Tok.T_EOF ∧
      (∀ t ∈ body, t.kind ≠ Tok.T_EOF) ∧
      (∀ l, body.getLast? = some l → eof.file = l.file ∧ eof.line = l.line) :=
  scan_one_eof files main

/-- every token is labelled with the file it came from: a supplied file -/
theorem C14_token_files (files : Files) (main : Bytes) (t : Token)
    (ht : t ∈ (scan files main).toks) (hk : t.kind ≠ Tok.T_EOF) : files.has t.file = true := by
  rw [scan_toks] at ht
  rcases List.mem_append.1 ht with h | h
  · exact scanBody_tok_files files main t h
  · simp at h; subst h
    exact absurd (scanEof_kind files main) hk

end Theo
