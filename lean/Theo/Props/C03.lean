/-
  C03 — emitted bytecode is well-formed, so the VM never leaves its own memory.
  `wfCheck` is a proved-sound validator: the theorems below apply to every program it accepts.
  It is run on every program the implementation emits (by the correspondence check), and every
  accepted compilation of the model passes it (`C03_compile_wf`, Props/C03GenWF.lean).
-/
import Theo.Proofs.WFProofs

namespace Theo

/-- no execution and no debugger history of a certified program ever reads or writes outside
    the data, code, activation or stack-map arrays: every API call is defined in every
    reachable state -/
theorem C03_checker_sound (p : Program) (c : Cert) (h : checkCert p c = true)
    (vm : VM) (hr : Reach p vm) :
    (∃ r, step vm = .ok r) ∧
    (∃ b, vm.isDone = .ok b) ∧
    (∀ a ∈ vm.stack, ∃ v, activationVariables p vm a = .ok v) ∧
    (∀ b v, ∃ r, VM.setBreakPoint p vm b v = .ok r) ∧
    (∃ vm', VM.clearBreakpoints p vm = .ok vm') ∧
    (∃ vm', VM.reset p vm = .ok vm') := by
  obtain ⟨R, hc⟩ := WF.checkCert_iff.1 h
  have hci := InvB.CodeInv.reach hc.sites hr
  have hw := WF.reach_winv hc hr
  obtain ⟨i, c', hf, he, _⟩ := WF.step_eff hc hci hw
  refine ⟨⟨_, he.step hf⟩, ⟨decide (i = .halt), by unfold VM.isDone; rw [hf]; rfl⟩,
    fun a ha => WF.actVars_ok (WF.winv_actMap hw a ha) (tiles_bound _ _ (WF.winv_tiles hw) a ha),
    WF.setBreakPoint_ok hc.sites hci, ⟨{ vm with code := p.code, enabled := [] }, ?_⟩,
    ⟨_, reset_fresh hc.sites hr⟩⟩
  unfold VM.clearBreakpoints
  rw [restoreAll_fresh hc.sites hr]
  rfl

/-- `C03_checker_sound` for the certificate `wfCheck` infers itself, as far as it concerns
    execution: `step`, `isDone` and `activationVariables` are defined (the three debugger calls
    are left to `C03_checker_sound`) -/
theorem C03_wfCheck_sound (p : Program) (h : wfCheck p = true) (vm : VM) (hr : Reach p vm) :
    (∃ r, step vm = .ok r) ∧ (∃ b, vm.isDone = .ok b) ∧
    (∀ a ∈ vm.stack, ∃ v, activationVariables p vm a = .ok v) := by
  have := C03_checker_sound p (inferCert p) h vm hr
  exact ⟨this.1, this.2.1, this.2.2.1⟩

/-- what the certificate says about the structure (the clauses of the property, read off the
    checker): root frame first, HALT last, jumps stay inside their routine with the same frame,
    register operands below the frame size, ARG targets inside the callee frame -/
theorem C03_structure (p : Program) (c : Cert) (h : checkCert p c = true) :
    (∃ fr mi t, p.code.head? = some (Instr.prepare fr mi t) ∧ 0 ≤ fr) ∧
    p.code.getLast? = some Instr.halt ∧
    (∀ (pc : Nat) (I : PcInfo) off, c.info pc = some I → p.code[pc]? = some (Instr.jmp off) →
        c.info ((pc : Int) + off) = some I) ∧
    (∀ (pc : Nat) (I : PcInfo) off s, c.info pc = some I → p.code[pc]? = some (Instr.jmpc off s) →
        c.info ((pc : Int) + off) = some I ∧ 0 ≤ s ∧ s < I.frame) ∧
    (∀ (pc : Nat) (I : PcInfo) t s k, c.info pc = some I → p.code[pc]? = some (Instr.add t s k) →
        0 ≤ t ∧ t < I.frame ∧ 0 ≤ s ∧ s < I.frame) ∧
    (∀ (pc : Nat) (I : PcInfo) t s, c.info pc = some I → p.code[pc]? = some (Instr.arg t s) →
        ∃ cf j, I.pend = some (cf, j) ∧ 0 ≤ t ∧ t < cf ∧ 0 ≤ s ∧ s < I.frame) := by
  obtain ⟨R, hc⟩ := WF.checkCert_iff.1 h
  refine ⟨?_, hc.last, ?_, ?_, ?_, ?_⟩
  · obtain ⟨fr, mi, t, hg, h0, _⟩ := hc.head
    exact ⟨fr, mi, t, by rw [List.head?_eq_getElem?]; exact hg, h0⟩
  · intro pc I off hi hx
    cases hc.rule pc I _ hi hx with | jmp _ hj => exact hj
  · intro pc I off s hi hx
    cases hc.rule pc I _ hi hx with
    | jmpc _ hs hj _ => exact ⟨hj, WF.regOK_iff.1 hs⟩
  · intro pc I t s k hi hx
    cases hc.rule pc I _ hi hx with
    | add _ ht hs _ => exact ⟨(WF.regOK_iff.1 ht).1, (WF.regOK_iff.1 ht).2, WF.regOK_iff.1 hs⟩
  · intro pc I t s hi hx
    cases hc.rule pc I _ hi hx with
    | arg hp ht hs _ => exact ⟨_, _, hp, (WF.regOK_iff.1 ht).1, (WF.regOK_iff.1 ht).2, WF.regOK_iff.1 hs⟩

end Theo
