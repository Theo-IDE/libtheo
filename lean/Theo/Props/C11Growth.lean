/-
  C11, growth clause — "growth of the token stream is bounded by budget times body length".

  Made precise: with *linear* bodies (every slot inserted at most once, `MacroDef.linearBody`)
  the stream returned by `applyMacros` is at most `rewrites × maxBody defs` tokens longer than the
  input, hence at most `passes × maxBody defs` longer; `maxBody defs` is the maximal body length
  among *all* definitions of the list (a variant with the usable ones only is given too).
  No hypothesis on the responses is needed: "the slot fillers fit into the matched range" is the
  C09 semantic link (`DetectorProofs.match_derives`: the split flattens to the matched range).

  Without linearity the clause is false (`C11_growth_statement_false`): a body that inserts a slot
  twice doubles the matched range at every pass.  What holds for arbitrary bodies is the
  multiplicative step bound `C11_growth_step_general` and the exponential bound `C11_growth_general`.
-/
import Theo.Proofs.GrowthProofs
import Theo.Props.C11

namespace Theo

/-- one rewriting step of a macro with a linear body grows the stream by at most its body length
    (exactly: the matched range, which contains all slot fillers, is replaced by the body with each
    mentioned filler inserted at most once) -/
theorem C11_growth_step_linear (defs : List MacroDef) (inp : List Token) (p : Nat)
    (d : Detector) (r : Response) (out : List Token)
    (h : applyStep (usableBins defs) inp p = some (d, r, out)) (hl : d.md.linearBody) :
    d.md ∈ defs ∧ out.length ≤ inp.length + d.md.body.length := by
  obtain ⟨m, hm, rfl, _⟩ := step_detector defs inp p d r out h
  exact ⟨hm, step_growth_linear _ inp p m r out h hl⟩

/-- one rewriting step of any macro: the new length is at most
    old length × (number of inserting `$n` tokens of the body, at least 1) + body length -/
theorem C11_growth_step_general (defs : List MacroDef) (inp : List Token) (p : Nat)
    (d : Detector) (r : Response) (out : List Token)
    (h : applyStep (usableBins defs) inp p = some (d, r, out)) :
    out.length ≤ inp.length * max 1 d.md.insertions + d.md.body.length := by
  obtain ⟨m, _, rfl, _⟩ := step_detector defs inp p d r out h
  exact step_growth_general _ inp p m r out h

/-- growth clause, linear bodies: at most `maxBody defs` new tokens per rewrite -/
theorem C11_growth_linear (inp : List Token) (defs : List MacroDef) (passes : Nat)
    (h : ∀ m ∈ defs, m.linearBody) :
    (applyMacros inp defs passes).toks.length ≤
      inp.length + (applyMacros inp defs passes).rewrites * maxBody defs :=
  applyMacros_growth inp defs passes (maxBody defs)
    (fun m hm _ => ⟨h m hm, body_le_maxBody hm⟩)

/-- growth clause, linear bodies: at most budget × maximal body length new tokens -/
theorem C11_growth_linear_budget (inp : List Token) (defs : List MacroDef) (passes : Nat)
    (h : ∀ m ∈ defs, m.linearBody) :
    (applyMacros inp defs passes).toks.length ≤ inp.length + passes * maxBody defs :=
  Nat.le_trans (C11_growth_linear inp defs passes h)
    (Nat.add_le_add_left (Nat.mul_le_mul_right _ (C11_rewrites_le_budget inp defs passes)) _)

/-- the same with the usable (accepted, conflict-free) definitions only: rejected definitions need
    not be linear and do not count for the maximal body length -/
theorem C11_growth_linear_usable (inp : List Token) (defs : List MacroDef) (passes : Nat)
    (h : ∀ m ∈ defs, (mkDetector m).usable = true → m.linearBody) :
    (applyMacros inp defs passes).toks.length ≤
      inp.length + (applyMacros inp defs passes).rewrites *
        maxBody (defs.filter (fun m => (mkDetector m).usable)) ∧
    (applyMacros inp defs passes).toks.length ≤
      inp.length + passes * maxBody (defs.filter (fun m => (mkDetector m).usable)) := by
  have h1 := applyMacros_growth inp defs passes
    (maxBody (defs.filter (fun m => (mkDetector m).usable)))
    (fun m hm hu => ⟨h m hm hu, body_le_maxBody (List.mem_filter.mpr ⟨hm, hu⟩)⟩)
  refine ⟨h1, Nat.le_trans h1 ?_⟩
  exact Nat.add_le_add_left (Nat.mul_le_mul_right _ (C11_rewrites_le_budget inp defs passes)) _

/-- arbitrary bodies: the stream grows at most exponentially in the number of rewrites, with base
    `growthFactor defs` = the maximal number of inserting `$n` tokens in a body (at least 2) -/
theorem C11_growth_general (inp : List Token) (defs : List MacroDef) (passes : Nat) :
    (applyMacros inp defs passes).toks.length + maxBody defs ≤
      (inp.length + maxBody defs) * growthFactor defs ^ (applyMacros inp defs passes).rewrites := by
  -- with `K = growthFactor defs ≥ 2` and `B = maxBody defs`, a step takes a length `l` to at
  -- most `l * K + B`, so `l + B` to at most `(l + B) * K`
  refine applyMacros_induct inp defs passes
    (fun x j => x.length + maxBody defs ≤ (inp.length + maxBody defs) * growthFactor defs ^ j)
    (by simp) (fun {x p m r out j} hm _ hs hx => ?_)
  have h1 := step_growth_general _ x p m r out hs
  have h2 : max 1 m.insertions ≤ growthFactor defs := by
    have := insertions_le_growthFactor hm
    have := two_le_growthFactor defs
    omega
  have h3 := Nat.mul_le_mul_left x.length h2
  have h4 := body_le_maxBody hm
  have h5 : maxBody defs * 2 ≤ maxBody defs * growthFactor defs :=
    Nat.mul_le_mul_left _ (two_le_growthFactor defs)
  calc out.length + maxBody defs
      ≤ (x.length + maxBody defs) * growthFactor defs := by rw [Nat.add_mul]; omega
    _ ≤ (inp.length + maxBody defs) * growthFactor defs ^ j * growthFactor defs :=
        Nat.mul_le_mul_right _ hx
    _ = (inp.length + maxBody defs) * growthFactor defs ^ (j + 1) := by
        rw [Nat.mul_assoc, Nat.pow_succ]

theorem C11_growth_general_budget (inp : List Token) (defs : List MacroDef) (passes : Nat) :
    (applyMacros inp defs passes).toks.length + maxBody defs ≤
      (inp.length + maxBody defs) * growthFactor defs ^ passes :=
  Nat.le_trans (C11_growth_general inp defs passes)
    (Nat.mul_le_mul_left _ (Nat.pow_le_pow_right
      (Nat.le_trans (by decide) (two_le_growthFactor defs)) (C11_rewrites_le_budget inp defs passes)))

/-- linearity can be checked on the slot numbers as written: no `$n` number occurs twice (the
    slot table of an extracted definition lists increasing rule positions, so it has no repeats) -/
theorem C11_linear_of_numbers (m : MacroDef) (htt : m.tt.Nodup) (hn : m.slotNumbers.Nodup) :
    m.linearBody := by
  unfold MacroDef.linearBody MacroDef.slotRefs
  rw [refsOf_eq_filterMap_numbers]
  exact filterMap_getElem?_nodup m.tt htt _ hn

/-! ### the clause is false without linearity -/

namespace C11GrowthExample

def tk (k : Nat) (t : Bytes) : Token := ⟨k, t, [109], 1⟩

/-- `DEFINE ( <A> ) AS ( $0 , $0 ) END DEFINE` -/
def dupMacro : MacroDef :=
  ⟨0, [tk Tok.PAREN_OPEN [40], tk Tok.ARGS_TEMP [60, 65, 62], tk Tok.PAREN_CLOSE [41]], [], [1],
    [tk Tok.PAREN_OPEN [40], tk Tok.INSERTION [36, 48], tk Tok.ARGSEP [44],
     tk Tok.INSERTION [36, 48], tk Tok.PAREN_CLOSE [41]]⟩

/-- `x := ( a )` (with the end-of-stream token every scanned stream carries) -/
def assignInp : List Token :=
  [tk Tok.ID [120], tk Tok.ASSIGN [58, 61], tk Tok.PAREN_OPEN [40], tk Tok.ID [97],
   tk Tok.PAREN_CLOSE [41], tk Tok.T_EOF []]

/-- `( a , a , a )` -/
def argsInp : List Token :=
  [tk Tok.PAREN_OPEN [40], tk Tok.ID [97], tk Tok.ARGSEP [44], tk Tok.ID [97], tk Tok.ARGSEP [44],
   tk Tok.ID [97], tk Tok.PAREN_CLOSE [41], tk Tok.T_EOF []]

/-- the macro is what `extractMacros` produces from its source text -/
theorem dupMacro_extracted :
    (extractMacros ([tk Tok.DEFINE [], tk Tok.PAREN_OPEN [40], tk Tok.ARGS_TEMP [60, 65, 62],
      tk Tok.PAREN_CLOSE [41], tk Tok.AS [], tk Tok.PAREN_OPEN [40], tk Tok.INSERTION [36, 48],
      tk Tok.ARGSEP [44], tk Tok.INSERTION [36, 48], tk Tok.PAREN_CLOSE [41],
      tk Tok.END_DEFINE []] ++ assignInp)).macros = [dupMacro] ∧
    (extractMacros ([tk Tok.DEFINE [], tk Tok.PAREN_OPEN [40], tk Tok.ARGS_TEMP [60, 65, 62],
      tk Tok.PAREN_CLOSE [41], tk Tok.AS [], tk Tok.PAREN_OPEN [40], tk Tok.INSERTION [36, 48],
      tk Tok.ARGSEP [44], tk Tok.INSERTION [36, 48], tk Tok.PAREN_CLOSE [41],
      tk Tok.END_DEFINE []] ++ assignInp)).toks = assignInp := by
  decide +kernel

/-- The detector of `dupMacro` is built and run once; the closed facts of this section are read
    off this one evaluation. -/
theorem dupMacro_runs :
    (mkDetector dupMacro).usable = true ∧
    (List.range 5).map (fun p => (applyMacros assignInp [dupMacro] p).toks.length) =
      [6, 8, 12, 20, 36] ∧
    (applyMacros argsInp [dupMacro] 1).toks.length = 14 := by
  decide +kernel

/-- it is accepted, and its body is not linear: slot 0 is inserted twice -/
theorem dupMacro_facts : (mkDetector dupMacro).usable = true ∧ ¬ dupMacro.linearBody ∧
    dupMacro.slotRefs = [1, 1] ∧ maxBody [dupMacro] = 5 :=
  ⟨dupMacro_runs.1, by decide, by decide, by decide⟩

/-- the argument list doubles at every pass (1, 2, 4, 8, 16 copies of `a`, with the separators
    between them): 6, 8, 12, 20, 36 tokens -/
theorem dupMacro_lengths :
    (List.range 5).map (fun p => (applyMacros assignInp [dupMacro] p).toks.length) =
      [6, 8, 12, 20, 36] :=
  dupMacro_runs.2.1

theorem dupMacro_length_four : (applyMacros assignInp [dupMacro] 4).toks.length = 36 := by
  have h := dupMacro_lengths
  rw [show List.range 5 = [0, 1, 2, 3, 4] from rfl] at h
  simp only [List.map_cons, List.map_nil, List.cons.injEq] at h
  exact h.2.2.2.2.1

/-- four passes on `x := ( a )`: 36 tokens > 6 + 4 × 5 -/
theorem dupMacro_exceeds :
    (applyMacros assignInp [dupMacro] 4).toks.length > assignInp.length + 4 * maxBody [dupMacro] := by
  rw [dupMacro_length_four]; decide

/-- already one pass on `( a , a , a )`: 14 tokens > 8 + 1 × 5 -/
theorem dupMacro_exceeds_one :
    (applyMacros argsInp [dupMacro] 1).toks.length > argsInp.length + 1 * maxBody [dupMacro] := by
  rw [dupMacro_runs.2.2]; decide

/-- the general bound for this macro: factor 2 per pass (and the argument list does double) -/
example : growthFactor [dupMacro] = 2 ∧
    (applyMacros assignInp [dupMacro] 4).toks.length + 5 ≤ (assignInp.length + 5) * 2 ^ 4 := by
  rw [dupMacro_length_four]; decide

end C11GrowthExample

/-- the growth clause as literally stated (no linearity hypothesis) is false -/
theorem C11_growth_statement_false :
    ∃ (inp : List Token) (defs : List MacroDef) (passes : Nat),
      (applyMacros inp defs passes).toks.length > inp.length + passes * maxBody defs :=
  ⟨C11GrowthExample.assignInp, [C11GrowthExample.dupMacro], 4, C11GrowthExample.dupMacro_exceeds⟩

/-- … even with the number of rewrites in place of the budget, and for a single pass -/
theorem C11_growth_statement_false_rewrites :
    ∃ (inp : List Token) (defs : List MacroDef) (passes : Nat),
      (applyMacros inp defs passes).toks.length >
        inp.length + (applyMacros inp defs passes).rewrites * maxBody defs :=
  ⟨C11GrowthExample.argsInp, [C11GrowthExample.dupMacro], 1,
    Nat.lt_of_le_of_lt (Nat.add_le_add_left (Nat.mul_le_mul_right _ (C11_rewrites_le_budget _ _ 1)) _)
      C11GrowthExample.dupMacro_exceeds_one⟩

/-! ### non-vacuity: linear macro sets for which the bound is (nearly) attained -/

namespace C11GrowthExample

/-- `DEFINE foo AS foo ; x := 1 END DEFINE` -/
def fooMacro : MacroDef :=
  ⟨0, [tk Tok.ID [102, 111, 111]], [0], [],
    [tk Tok.ID [102, 111, 111], tk Tok.PROGSEP [59], tk Tok.ID [120], tk Tok.ASSIGN [58, 61],
     tk Tok.INT [49]]⟩

def fooInp : List Token := [tk Tok.ID [102, 111, 111], tk Tok.T_EOF []]

theorem fooMacro_linear : ∀ m ∈ [fooMacro], m.linearBody := by decide +kernel

/-- every pass rewrites and adds body length − 1 = 4 tokens (the matched `foo` is consumed):
    after 3 passes 2 + 3 × 4 = 14 tokens, the bound being 2 + 3 × 5 = 17 -/
example : (mkDetector fooMacro).usable = true ∧ maxBody [fooMacro] = 5 ∧
    (applyMacros fooInp [fooMacro] 3).rewrites = 3 ∧
    (applyMacros fooInp [fooMacro] 3).toks.length = fooInp.length + 3 * (maxBody [fooMacro] - 1) := by
  decide +kernel

example : (applyMacros fooInp [fooMacro] 3).toks.length ≤ fooInp.length + 3 * maxBody [fooMacro] :=
  C11_growth_linear_budget fooInp [fooMacro] 3 fooMacro_linear

/-- a linear macro that does use a slot: `DEFINE ( <A> ) AS ( $0 , b ) END DEFINE`; each pass
    adds 2 tokens (body length 5, minus the 3 pattern tokens, the filler being copied once) -/
def appMacro : MacroDef :=
  ⟨0, [tk Tok.PAREN_OPEN [40], tk Tok.ARGS_TEMP [60, 65, 62], tk Tok.PAREN_CLOSE [41]], [], [1],
    [tk Tok.PAREN_OPEN [40], tk Tok.INSERTION [36, 48], tk Tok.ARGSEP [44],
     tk Tok.ID [98], tk Tok.PAREN_CLOSE [41]]⟩

example : appMacro.linearBody ∧ appMacro.slotRefs = [1] ∧
    (List.range 5).map (fun p => (applyMacros assignInp [appMacro] p).toks.length) =
      [6, 8, 10, 12, 14] := by
  decide +kernel

/-- the model-level bound is attained exactly by a definition with an empty pattern (the model
    accepts it, `extractMacros` never produces one): nothing is consumed, the whole body is added
    at every pass -/
def emptyMacro : MacroDef := ⟨0, [], [], [], [tk Tok.ID [120], tk Tok.PROGSEP [59]]⟩

example : (∀ m ∈ [emptyMacro], m.linearBody) ∧
    (applyMacros fooInp [emptyMacro] 4).toks.length = fooInp.length + 4 * maxBody [emptyMacro] := by
  decide +kernel

end C11GrowthExample

end Theo
