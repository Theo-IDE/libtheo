/-
  C13 — generated LR(1) parsers recognise exactly their grammar.
  Here: FIRST sets equal their textbook definition; soundness of the table-driven
  driver in full and prefix mode, unconditionally (with or without conflicts), including the
  returned value being the fold of a derivation tree of the accepted (prefix of the) input.
  Completeness for conflict-free tables is stated here (`C13_complete_statement`); Props/C13Complete
  proves a stronger statement (`C13_complete_full`).
-/
import Theo.Proofs.FirstProofs
import Theo.Proofs.LRSound

namespace Theo

/-- FIRST sets equal their textbook definition: the terminals (`hn` is not needed by the proof) -/
theorem C13_first_correct (g : Grammar) (hg : g.Closed) (n a : Nat) (hn : n < g.numNT) :
    a ∈ (firstSets g).firstOf n ↔ First g n a :=
  FirstProofs.first_correct g hg n a

/-- and ε: the nullable flags (`hn` is not needed by the proof) -/
theorem C13_nullable_correct (g : Grammar) (hg : g.Closed) (n : Nat) (hn : n < g.numNT) :
    (firstSets g).nullOf n = true ↔ Nullable g n :=
  FirstProofs.nullable_correct g hg n

/-- Soundness, full mode: an accepted end-marked input belongs to the language, and the value
    is a valid derivation tree of exactly that input rooted in the start symbol.
    `eof` is not in the input; that it does not occur in the rules (`he`, a side condition of
    the property) is not needed by the proof. -/
theorem C13_sound_full (g : Grammar) (start eof : Nat) (sfuel fuel : Nat) (w : List Nat) (v : Tree)
    (hg : g.Closed) (hs : start < g.numNT) (he : eof ∉ g.terminals) (hw : eof ∉ w)
    (h : lrParseTree (tablesOf g start eof false sfuel) fuel (w ++ [eof]) = .accept v) :
    v.Valid g ∧ v.root = .n start ∧ v.yield = w :=
  LRSound.sound_full g start eof sfuel fuel w v hg hs hw h

/-- Soundness, prefix mode: the accepted value is a valid tree whose yield is a prefix of the input
    (`he` is not needed by the proof) -/
theorem C13_sound_prefix (g : Grammar) (start eof : Nat) (sfuel fuel : Nat) (inp : List Nat) (v : Tree)
    (hg : g.Closed) (hs : start < g.numNT) (he : eof ∉ g.terminals)
    (h : lrParseTree (tablesOf g start eof true sfuel) fuel inp = .accept v) :
    v.Valid g ∧ v.root = .n start ∧ v.yield <+: inp :=
  LRSound.sound_prefix g start eof sfuel fuel inp v hg hs h

/-- the value returned for arbitrary semantic actions is the fold of that tree
    (rule actions applied to the values of the right-hand side, last symbol first) -/
theorem C13_value_is_fold {V : Type} (T : Tables) (leaf : Nat → V) (act : Nat → Nat → List V → V)
    (fuel : Nat) (inp : List Nat) :
    lrParse T (fun (t : Nat) => t) leaf act fuel inp [0] [] =
      (match lrParseTree T fuel inp with
       | .accept t => .accept (t.fold leaf act)
       | .reject => .reject
       | .stuck => .stuck
       | .fuelOut => .fuelOut) := by
  rw [LRSound.value_is_fold]
  cases lrParseTree T fuel inp <;> rfl

/-- hence: what is not in the language is never accepted -/
theorem C13_reject (g : Grammar) (start eof : Nat) (sfuel fuel : Nat) (w : List Nat)
    (hg : g.Closed) (hs : start < g.numNT) (he : eof ∉ g.terminals) (hw : eof ∉ w)
    (hn : ¬ Derives g (.n start) w) :
    ∀ v, lrParseTree (tablesOf g start eof false sfuel) fuel (w ++ [eof]) ≠ .accept v := by
  intro v h
  exact hn ⟨v, LRSound.sound_full g start eof sfuel fuel w v hg hs hw h⟩

/-- Completeness for conflict-free tables as the property words it. `C13_complete_full`
    (Props/C13Complete) is this statement without the hypothesis `eof ∉ t.yield`, so implies it. -/
def C13_complete_statement : Prop :=
  ∀ (g : Grammar) (start eof : Nat) (sfuel : Nat) (t : Tree),
    g.Closed → start < g.numNT → eof ∉ g.terminals → t.Valid g → t.root = .n start → eof ∉ t.yield →
    (tablesOf g start eof false sfuel).conflicts = [] →
    (genTables g start eof false sfuel).2 < sfuel →
    ∃ fuel, lrParseTree (tablesOf g start eof false sfuel) fuel (t.yield ++ [eof]) = .accept t

end Theo
