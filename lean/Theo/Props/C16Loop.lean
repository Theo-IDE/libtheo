/-
  C16 (LOOP programs) — a source that uses neither WHILE nor GOTO / IF-GOTO always stops, and so
  does its compiled bytecode; a LOOP iterates exactly as often as its bound says at entry.

  Helper lemmas: Theo/Proofs/LoopHalts.lean (big-step reading `RunsTo` of the reference machine,
  totality by induction on the routine index / the statements / the hidden counter).
-/
import Theo.Proofs.LoopHalts
import Theo.Props.C01

namespace Theo
open Sem

mutual
/-- neither WHILE nor GOTO / IF-GOTO (labels/END marks, assignments, calls, LOOP and STOP are allowed) -/
def loopOnlyStmt : Stmt → Bool
  | .assign _ _ _ => true
  | .mark _ _ => true
  | .loop _ _ body _ => loopOnlyStmts body
  | .while_ _ _ _ => false
  | .goto _ _ => false
  | .ifGoto _ _ _ _ => false
  | .stop _ => true
def loopOnlyStmts : Stmts → Bool
  | .nil => true
  | .cons s ss => loopOnlyStmt s && loopOnlyStmts ss
end

def LoopOnly (src : Source) : Prop :=
  loopOnlyStmts src.main = true ∧ ∀ pd ∈ src.progs, loopOnlyStmts pd.body = true

mutual
theorem loopOnlyStmt_eq : ∀ s : Stmt, loopOnlyStmt s = LoopHalts.loStmt s
  | .assign _ _ _ => rfl
  | .mark _ _ => rfl
  | .loop _ _ body _ => by simp only [loopOnlyStmt, LoopHalts.loStmt]; exact loopOnlyStmts_eq body
  | .while_ _ _ _ => rfl
  | .goto _ _ => rfl
  | .ifGoto _ _ _ _ => rfl
  | .stop _ => rfl
theorem loopOnlyStmts_eq : ∀ ss : Stmts, loopOnlyStmts ss = LoopHalts.loStmts ss
  | .nil => rfl
  | .cons s ss => by
    simp only [loopOnlyStmts, LoopHalts.loStmts, loopOnlyStmt_eq s, loopOnlyStmts_eq ss]
end

/-- every LOOP source stops: the reference execution leaves the `running` status after finitely
    many steps (for EVERY source, also ones with calls of undefined programs: those get stuck,
    which is also "not running") -/
theorem C16_loop_source_halts (src : Source) (h : LoopOnly src) :
    ∃ n, (Sem.run src n (initial src) 0).1.status ≠ .running := by
  obtain ⟨n, hn⟩ := LoopHalts.source_halts src (by rw [← loopOnlyStmts_eq]; exact h.1)
    (fun pd hpd => by rw [← loopOnlyStmts_eq]; exact h.2 pd hpd)
  exact ⟨n, by rw [LoopHalts.run_fst]; exact hn⟩

/-- the reference execution of a validated LOOP program halts: it stops, and it is never stuck -/
theorem C16_loop_source_halted (src : Source) (p : Program) (h : LoopOnly src)
    (hs : shapeCheck src p = true) : ∃ n, (Sem.run src n (initial src) 0).1.status = .halted := by
  obtain ⟨n, hn⟩ := C16_loop_source_halts src h
  refine ⟨n, ?_⟩
  cases hst : (Sem.run src n (initial src) 0).1.status with
  | running => exact absurd hst hn
  | halted => rfl
  | stuck => exact absurd hst (C01_never_stuck src p hs n)

/-- a validated LOOP program halts on the VM -/
theorem C16_loop_halts (src : Source) (p : Program) (h : LoopOnly src)
    (hs : shapeCheck src p = true) (hw : wfCheck p = true) :
    ∃ m vm, vmRun p m = .ok vm ∧ vm.isDone = .ok true := by
  obtain ⟨n, hh⟩ := C16_loop_source_halted src p h hs
  obtain ⟨m, vm, h1, h2, _⟩ := C01_halts_same_values src p hs hw n hh
  exact ⟨m, vm, h1, h2⟩

/-! The statements about the number of iterations are in terms of `LoopHalts.RunsTo`,
`LoopHalts.IterBody` and `LoopHalts.usesId`.
The bound is read ONCE, at entry: whatever the body assigns to the bound variable does not matter.
`usesId id body = false` is needed for the exact count only (an inner LOOP with the same id
overwrites the hidden counter: `C16_same_id_counterexample`), not for termination; sources produced
by `toSource` satisfy it (`C16_toSource_distinctLoopIds`). -/

open LoopHalts in
/-- the number of iterations of a LOOP is fixed by the bound at entry: from a running
    configuration whose top frame executes (`ctrl = .run`) the focus `LOOP x … END; ss`, after
    some number of steps either the machine has left `running` (a STOP or an undefined callee in
    one of the iterations), or the same frame is at focus `ss` with the same continuation, the
    stack below it unchanged, and (env, ctrs) are the result of running the body exactly
    `n = env.get x` times (`IterBody`), with the hidden counter back at 0 -/
theorem C16_loop_iterations (src : Source) (hp : ∀ pd ∈ src.progs, loopOnlyStmts pd.body = true)
    (fr : Frame) (rest : List Frame) (id : Nat) (x : Name) (body : Stmts) (pos : Pos) (ss : Stmts)
    (hctrl : fr.ctrl = .run) (hfoc : fr.focus = .cons (.loop id x body pos) ss)
    (hb : loopOnlyStmts body = true) (hid : usesId id body = false) :
    ∃ out, IterBody src fr.routine id body (fr.env.get x) (fr.env, fr.ctrs) out ∧
      ∃ n, match out with
        | some s' => (Sem.run src n ⟨fr :: rest, .running⟩ 0).1 =
            ⟨{ fr with env := s'.1, ctrs := s'.2.set id 0, focus := ss } :: rest, .running⟩
        | none => (Sem.run src n ⟨fr :: rest, .running⟩ 0).1.status ≠ .running := by
  obtain ⟨r, ρ, κ, foc, k, ctrl⟩ := fr
  simp only at hctrl hfoc
  subst hctrl hfoc
  obtain ⟨out, hiter, hgo⟩ := loop_iterations (src := src)
    (fun pd hpd => by rw [← loopOnlyStmts_eq]; exact hp pd hpd) r id x body pos ss
    (by rw [← loopOnlyStmts_eq]; exact hb) hid (ρ, κ)
  refine ⟨out, hiter, ?_⟩
  cases out
  all_goals
    obtain ⟨n, hn⟩ := hgo k rest
    refine ⟨n, ?_⟩
    dsimp only
    rw [LoopHalts.run_fst]; exact hn

/-- the iterated effect is determined by the number of iterations and the entry state -/
theorem C16_iterBody_functional (src : Source) (r id : Nat) (body : Stmts) (n : Nat)
    (s : LoopHalts.St) (o1 o2 : Option LoopHalts.St)
    (h1 : LoopHalts.IterBody src r id body n s o1) (h2 : LoopHalts.IterBody src r id body n s o2) :
    o1 = o2 :=
  LoopHalts.IterBody.functional n s o1 o2 h1 h2

/-- sources of parsed programs never reuse a LOOP's id inside that LOOP's body -/
theorem C16_toSource_distinctLoopIds (root : Node) :
    LoopHalts.distinctLoopIds (toSource root).main = true ∧
      ∀ pd ∈ (toSource root).progs, LoopHalts.distinctLoopIds pd.body = true :=
  LoopHalts.toSource_distinctLoopIds root

/-- `distinctLoopIds` gives the hypothesis of `C16_loop_iterations` for a LOOP at the head -/
theorem C16_distinct_head (id : Nat) (x : Name) (body : Stmts) (pos : Pos) (ss : Stmts)
    (h : LoopHalts.distinctLoopIds (.cons (.loop id x body pos) ss) = true) :
    LoopHalts.usesId id body = false := by
  simp only [LoopHalts.distinctLoopIds, LoopHalts.distinctLoopIdsStmt, Bool.and_eq_true,
    Bool.not_eq_true'] at h
  exact h.1.1

-- the names `a`, `f`, `r`, `x`, `y`
private def nA : Name := [97]
private def nF : Name := [102]
private def nR : Name := [114]
private def nX : Name := [120]
private def nY : Name := [121]
private def p0 : Pos := ([], 0)

/-- `PROGRAM f IN a OUT r: r := a + 1 END;  x := 2;  LOOP x DO LOOP x DO y := RUN f WITH y END END END` -/
def exampleLoopSrc : Source :=
  ⟨[⟨nF, [nA], nR, .cons (.assign nR (.inc nA 1) p0) .nil⟩],
   .cons (.assign nX (.num 2) p0)
    (.cons (.loop 1 nX
      (.cons (.loop 2 nX
        (.cons (.assign nY (.call nF (.cons (.var nY) .nil)) p0) .nil) p0) .nil) p0) .nil)⟩

/-- non-vacuity: a source with a nested LOOP and a call is `LoopOnly` -/
example : LoopOnly exampleLoopSrc := by
  refine ⟨rfl, ?_⟩
  intro pd hpd
  simp only [exampleLoopSrc, List.mem_singleton] at hpd
  subst hpd
  rfl

/-- … and it halts with `y = 4` (2 × 2 iterations) -/
example : (Sem.run exampleLoopSrc 100 (initial exampleLoopSrc) 0).1.status = .halted ∧
    ((Sem.run exampleLoopSrc 100 (initial exampleLoopSrc) 0).1.stack.map (·.env.get nY)) = [4] := by
  decide +kernel

/-- `x := 3; y := 1; LOOP(1) x DO LOOP(1) y DO END; a := a + 1 END` — an inner LOOP with the SAME
    id as the outer one -/
def sameIdSrc : Source :=
  ⟨[], .cons (.assign nX (.num 3) p0) (.cons (.assign nY (.num 1) p0)
    (.cons (.loop 1 nX
      (.cons (.loop 1 nY .nil p0) (.cons (.assign nA (.inc nA 1) p0) .nil)) p0) .nil))⟩

/-- why `usesId id body = false` is needed for the exact count: with a reused id the outer body
    runs once, not 3 times (the source still halts, as `C16_loop_source_halts` says) -/
theorem C16_same_id_counterexample :
    LoopOnly sameIdSrc ∧
    (Sem.run sameIdSrc 100 (initial sameIdSrc) 0).1.status = .halted ∧
    ((Sem.run sameIdSrc 100 (initial sameIdSrc) 0).1.stack.map (·.env.get nA)) = [1] := by
  refine ⟨⟨rfl, fun _ h => nomatch h⟩, ?_⟩
  decide +kernel

end Theo
