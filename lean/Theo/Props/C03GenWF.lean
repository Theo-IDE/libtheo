/-
  C03 — every program the compiler emits is structurally valid bytecode: proved for the generator
  model once and for all, beside the `wfCheck` run of the correspondence driver on each compiled
  program (translation validation).  `C03_checker_sound`, `C16_stack_bounded`, … turn a passed check into the absence
  of out-of-range accesses and a bounded call depth.

  For every tree of the parser's shape (`AstShape`, Spec/Static.lean) that obeys the static rules
  (`staticOK`; equivalently, on which the generator records no error — `C04_static_iff`), the code
  `gen` emits passes the bytecode verifier `wfCheck` of Spec/WellFormed.lean:
    * root `PREPARE` with the root frame size and stack map, final `HALT`;
    * every jump stays inside its routine and never lands inside a `PREPARE … EXEC` sequence;
    * every register operand is below the frame size of its routine;
    * every `PREPARE / ARG* / EXEC` group agrees with the frame size, argument count, stack-map
      index and entry of a routine that was finished earlier (smaller routine id);
    * the breakpoint tables name `POTENTIAL_BREAK` sites only.
  Both forms are proved: an explicit certificate exists (`C03_gen_certified`), and the certificate
  *inferred* by `inferCert` passes (`C03_gen_wf`, through the generic completeness theorem
  `GenWF.wfCheck_of_cert` for the inference).

  Hypotheses: tree shape and static rules.  The shape hypothesis is satisfied by every error-free
  parse (`C04_parser_shape`), so the theorem covers everything `compile` accepts
  (`C03_compile_wf`, no hypothesis besides `ok = true`).  No further side condition is needed
  for: a label at the very end of a routine, STOP inside a callee, programs without parameters,
  an unmentioned OUT variable, redefinition of a program name, temporaries of nested calls,
  `__INC__`/`__DEC__`, breakpoint sites at jump targets, `removeTopPotBreak`.

  Proof: Proofs/GenWF*.lean (invariant of the generator state per routine body — `BInv`; layout
  of the finished routines — `TopCore`; local well-formedness — `LocalWF`; checker —
  `checkCert_of_localWF`; inference — `wfCheck_of_cert`), with the last steps of `gen` from
  Proofs/GenShapeFin.lean (`GenShape.genFin_code`).
-/
import Theo.Proofs.GenWFFinal
import Theo.Props.C04Static
import Theo.Props.C03
import Theo.Props.C16

namespace Theo

/-- the generator form: no recorded error (any list of forwarded syntax errors in the AST value) -/
theorem C03_gen_wf_of_accepted (errs : List SynErr) (root : Node) (h : AstShape root = true)
    (he : (gen ⟨true, errs, root⟩).errors = []) : wfCheck (gen ⟨true, errs, root⟩).code = true :=
  GenWF.gen_wfCheck errs root h he

/-- every program the generator model emits for an accepted source has a certificate -/
theorem C03_gen_certified (root : Node) (h : AstShape root = true)
    (hs : staticOK (toSource root) = true) : ∃ c, checkCert (gen ⟨true, [], root⟩).code c = true :=
  GenWF.gen_certified [] root h ((C04_static_iff root h).2 hs)

/-- the certificate inferred by `inferCert` passes the checker -/
theorem C03_gen_wf (root : Node) (h : AstShape root = true)
    (hs : staticOK (toSource root) = true) : wfCheck (gen ⟨true, [], root⟩).code = true :=
  GenWF.gen_wfCheck [] root h ((C04_static_iff root h).2 hs)

/-- whatever `Theo::compile` accepts is well-formed bytecode -/
theorem C03_compile_wf (files : Files) (main : Bytes) (h : (compile files main).ok = true) :
    wfCheck (compile files main).code = true := by
  obtain ⟨he, _, ha⟩ := compile_accepted files main h
  rw [compile_ok_eq, ha, gen_ok_eq, List.isEmpty_iff] at h
  rw [compile_code_eq, ha]
  exact GenWF.gen_wfCheck [] _ (Static.parser_shape _ he) h

/-- no execution and no debugger history of a compiled program leaves the VM's memory
    (C03: `step`, `isDone`, `activationVariables` are defined in every reachable state) -/
theorem C03_compiled_sound (files : Files) (main : Bytes) (h : (compile files main).ok = true)
    (vm : VM) (hr : Reach (compile files main).code vm) :
    (∃ r, step vm = .ok r) ∧ (∃ b, vm.isDone = .ok b) ∧
    (∀ a ∈ vm.stack, ∃ v, activationVariables (compile files main).code vm a = .ok v) :=
  C03_wfCheck_sound _ (C03_compile_wf files main h) vm hr

/-- the call depth of a compiled program is bounded by the number of routines (C16) -/
theorem C16_compiled_stack_bounded (files : Files) (main : Bytes) (h : (compile files main).ok = true)
    (vm : VM) (hr : Reach (compile files main).code vm) :
    vm.stack.length ≤ numRoutines (compile files main).code + 1 :=
  C16_stack_bounded_wf _ (C03_compile_wf files main h) vm hr

namespace C03Demo
def tk (k : Nat) (s : Bytes) (ln : Int) : Token := ⟨k, s, [109], ln⟩

/-- ```
    PROGRAM f IN a DO          -- 1
      x0 := a END              -- 2
    LOOP x DO                  -- 3
      x0 := RUN f WITH 7 END   -- 4
    END ;                      -- 5
    l : GOTO l                 -- 6
    ``` -/
def demo : List Token :=
  [tk Tok.PROGRAM [80] 1, tk Tok.ID [102] 1, tk Tok.IN [73] 1, tk Tok.ID [97] 1, tk Tok.DO [68] 1,
   tk Tok.ID [120, 48] 2, tk Tok.ASSIGN [58, 61] 2, tk Tok.ID [97] 2, tk Tok.END [69] 2,
   tk Tok.LOOP [76] 3, tk Tok.ID [120] 3, tk Tok.DO [68] 3,
   tk Tok.ID [120, 48] 4, tk Tok.ASSIGN [58, 61] 4, tk Tok.RUN [82] 4, tk Tok.ID [102] 4, tk Tok.WITH [87] 4,
     tk Tok.INT [55] 4, tk Tok.END [69] 4,
   tk Tok.END [69] 5, tk Tok.PROGSEP [59] 5,
   tk Tok.ID [108] 6, tk Tok.LABELDEC [58] 6, tk Tok.GOTO [71] 6, tk Tok.ID [108] 6,
   tk Tok.T_EOF [69, 79, 70] 6]

/-- the hypotheses of `C03_gen_wf` hold for the parse of `demo` (a program definition, a call, a
    loop and a GOTO) -/
theorem demo_hyps : (parseTokens demo).2 = [] ∧ AstShape (parseTokens demo).1 = true ∧
    staticOK (toSource (parseTokens demo).1) = true := by
  refine ⟨by decide +kernel, by decide +kernel, ?_⟩
  rw [← Static.topOK_static _ (by decide +kernel)]
  decide +kernel

example : wfCheck (gen ⟨true, [], (parseTokens demo).1⟩).code = true :=
  C03_gen_wf _ demo_hyps.2.1 demo_hyps.2.2

theorem demo_eval : wfCheck (gen ⟨true, [], (parseTokens demo).1⟩).code = true ∧
    (gen ⟨true, [], (parseTokens demo).1⟩).code.code.length = 19 := by decide +kernel

/-- the checker run on the generated code of `demo` -/
theorem demo_checked : wfCheck (gen ⟨true, [], (parseTokens demo).1⟩).code = true := demo_eval.1

/-- the code really contains a routine, a call sequence, a loop and jumps -/
theorem demo_length : (gen ⟨true, [], (parseTokens demo).1⟩).code.code.length = 19 := demo_eval.2
end C03Demo

end Theo
