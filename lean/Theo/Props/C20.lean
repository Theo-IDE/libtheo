/-
  C20 — machine arithmetic is always defined; values stay natural numbers.
-/
import Theo.Proofs.VMInvA

namespace Theo

/-- every stored word lies in `[0, 2^31-1]`, at every point of every history -/
theorem C20_values_in_range (p : Program) (h : ConstOK p.code) (vm : VM) (hr : Reach p vm) :
    ∀ w ∈ vm.data, InRange w :=
  InvB.reach_core (Q := fun c => ∀ w ∈ c.data, InRange w) nofun (fun hr ih hs => by
    obtain ⟨i, hf, he, _⟩ := InvB.step_inv hs
    exact he.range (fun t k e => h t k (reach_fetch hr (e ▸ hf) nofun nofun)) ih) hr

/-- `ADD_CONST` with a negative constant is the compiled `x - c`: a result below zero is stored
    as 0 -/
theorem C20_sub_truncates (v c : Int) (h : v + c < 0) : addClamp v c = 0 := by
  rw [addClamp, Int.max_eq_right (Int.le_of_lt h), Int.min_eq_left (by decide)]

/-- an addition whose mathematical result exceeds the word range yields a defined value -/
theorem C20_add_saturates (v c : Int) (h : INT_MAX < v + c) : addClamp v c = INT_MAX := by
  rw [addClamp, Int.max_eq_left (Int.le_trans (by decide) (Int.le_of_lt h)),
    Int.min_eq_right (Int.le_of_lt h)]

/-- the clamping only shows outside `[0, INT_MAX]` -/
theorem C20_add_exact (v c : Int) (h0 : 0 ≤ v + c) (h1 : v + c ≤ INT_MAX) : addClamp v c = v + c := by
  rw [addClamp, Int.max_eq_left h0, Int.min_eq_left h1]

example : addClamp 2147483646 5 = INT_MAX ∧ addClamp 3 (-5) = 0 ∧ addClamp 3 4 = 7 := by decide

end Theo
