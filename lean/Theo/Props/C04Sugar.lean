/-
  C04 (sugar) — "a source WITHOUT user macro definitions compiles successfully iff, AFTER THE
  BUILT-IN id+int / id-int SUGAR IS APPLIED, it is a sentence of the documented grammar and obeys
  the static rules".  Props/C04.lean and Props/C04Static.lean prove the grammar and static halves for
  the token stream that reaches the parser (`frontEnd`).  This file says what that stream is when
  the source defines no macro: the macro stage is exactly the desugaring of `Spec/Sugar.lean`.

  `stdDefs` is computed: it is the result of the model's scanner and macro extraction on the
  regenerated constant `ConstGen.stdMacroText`; what it is follows from a kernel evaluation of the
  lexer on that constant (`Sugar.std_body_shape`, `Sugar.std_defs_eq` in Proofs/SugarFront.lean).
-/
import Theo.Proofs.SugarApply
import Theo.Proofs.SugarFront
import Theo.Proofs.SugarEnd
import Theo.Props.C04Static

namespace Theo

open Sugar

/-- the built-in definitions: the model's scan + extraction of the standard-macro text -/
theorem C04_stdDefs_def :
    stdDefs = (extractMacros (scan [(ConstGen.stdFileName, ConstGen.stdMacroText)] ConstGen.stdFileName).toks).macros :=
  stdDefs_def

/-- the standard text defines exactly two macros, `<ID> + <INT>` and `<ID> - <INT>`, of priority
    1000000, whose operator character is compared by text, with slots `$0 = <ID>`, `$1 = <INT>`, bodies
    `RUN __INC__ WITH $0 , $1 END` (line 1 of the standards file) / `RUN __DEC__ WITH $0 , $1 END`
    (line 2), and both patterns are accepted (conflict-free LR(1) tables) -/
theorem C04_stdDefs_shape :
    stdDefs.map (·.priority) = [1000000, 1000000] ∧
    stdDefs.map (fun m => m.rule.map (·.kind)) =
      [[Tok.ID_TEMP, Tok.NV_ID, Tok.INT_TEMP], [Tok.ID_TEMP, Tok.NV_ID, Tok.INT_TEMP]] ∧
    stdDefs.map (fun m => (m.rule[1]?).map (·.text)) = [some plus, some minus] ∧
    stdDefs.map (·.cc) = [[1], [1]] ∧
    stdDefs.map (·.tt) = [[0, 2], [0, 2]] ∧
    stdDefs.map (·.body) = [bodyOf incName 1, bodyOf decName 2] ∧
    stdDefs.map (fun m => (mkDetector m).usable) = [true, true] := by
  rw [std_defs_eq]
  refine ⟨rfl, rfl, rfl, rfl, rfl, rfl, ?_⟩
  simp only [List.map_cons, List.map_nil, sugar_usable finalDef_isSugarDef]

/-- **The macro stage is the desugaring** (exact form, any token list).  With only the two built-in
    macros and a pass budget greater than the number of occurrences, macro application computes
    `desugarLA`, reports no error, and performs one rewrite per occurrence.

    The budget must be *greater*: the loop needs one more pass to see that nothing is left (C11). -/
theorem C04_sugar_apply_exact (inp : List Token) (passes : Nat) (hb : sugarCountLA inp < passes) :
    (applyMacros inp stdDefs passes).toks = desugarLA inp ∧
    (applyMacros inp stdDefs passes).errs = [] ∧
    (applyMacros inp stdDefs passes).rewrites = sugarCountLA inp := by
  rw [std_defs_eq, (applyMacros_pair finalDef_isSugarDef finalDef_isSugarDef inp passes).1 hb]
  exact ⟨rfl, rfl, rfl⟩

/-- **The macro stage is the desugaring** (scanner output).  On a token stream as the scanner
    produces it — kinds up to `WITH`, end marker last — the result is the plain three-token
    rewriting `desugar`. -/
theorem C04_sugar_apply (inp : List Token) (passes : Nat) (hs : Scanned inp) (hb : sugarCount inp < passes) :
    (applyMacros inp stdDefs passes).toks = desugar inp ∧
    (applyMacros inp stdDefs passes).errs = [] ∧
    (applyMacros inp stdDefs passes).rewrites = sugarCount inp := by
  obtain ⟨e1, e2⟩ := desugarLA_eq hs
  rw [← e1, ← e2]
  exact C04_sugar_apply_exact inp passes (by rw [e2]; exact hb)

/-- the budget-exceeded case: with `1 ≤ passes ≤ number of occurrences` exactly `passes`
    occurrences (the leftmost ones) are rewritten and MACRO_APPLY_REACHED_MAX_PASSES is reported —
    also when `passes` equals the number of occurrences and the stream is in fact fully desugared -/
theorem C04_sugar_budget_exceeded (inp : List Token) (passes : Nat) (hp : 1 ≤ passes)
    (hb : passes ≤ sugarCountLA inp) :
    (applyMacros inp stdDefs passes).toks = sugarIter passes inp ∧
    (applyMacros inp stdDefs passes).errs = [maxPassesErr] ∧
    (applyMacros inp stdDefs passes).rewrites = passes ∧
    desugarLA (sugarIter passes inp) = desugarLA inp ∧
    sugarCountLA (sugarIter passes inp) + passes = sugarCountLA inp := by
  rw [std_defs_eq, (applyMacros_pair finalDef_isSugarDef finalDef_isSugarDef inp passes).2 hp hb]
  exact ⟨rfl, rfl, rfl, (sugarIter_count passes inp hb).2, (sugarIter_count passes inp hb).1⟩

/-- "leftmost first and repeatedly" and "one pass from the left" are the same thing -/
theorem C04_desugar_eq_iterate (ts : List Token) (k : Nat) (hk : sugarCountLA ts ≤ k) :
    sugarIter k ts = desugarLA ts :=
  sugarIter_eq k ts hk

/-- a rewriting step never enables a new occurrence: it removes exactly one, and the rest of the
    pass is unaffected -/
theorem C04_sugar_step_inert (ts ts' : List Token) (h : sugarStep ts = some ts') :
    desugarLA ts' = desugarLA ts ∧ sugarCountLA ts = sugarCountLA ts' + 1 :=
  sugarStep_some h

theorem C04_sugar_fixpoint (ts : List Token) (h : sugarStep ts = none) :
    desugarLA ts = ts ∧ sugarCountLA ts = 0 :=
  sugarStep_none h

theorem C04_desugarLA_eq (ts : List Token) (h : Scanned ts) :
    desugarLA ts = desugar ts ∧ sugarCountLA ts = sugarCount ts :=
  desugarLA_eq h

/-! ### the whole front end of `Theo::parse` on a source without macro definitions

  `frontFiles files main` is the file table `Theo::parse` scans (standard file added, include phrase
  in front of the main file); `userToks files main` are the tokens the scanner delivers behind the
  standard file's: the main file's own tokens (with its includes) and the end marker.

  Hypotheses: `hstd` — the caller supplies no file named `__standards__` (otherwise that file
  replaces the built-in definitions); `hmain` — the main file exists; `hnodef` — no `DEFINE` token in
  the user's tokens: the source defines no macro. -/

/-- `frontEnd` (Props/C04Static.lean) with the pass budget as a parameter, as `parseFiles` has it:
    scanner, extraction, application on `frontFiles` -/
def frontEndN (files : Files) (main : Bytes) (passes : Nat) : List Token × List PErr :=
  let sr := scan (frontFiles files main) main
  let mer := extractMacros sr.toks
  let mar := applyMacros mer.toks mer.macros passes
  (mar.toks, sr.errs ++ mer.errs ++ mar.errs)

theorem C04_frontEnd_eq (files : Files) (main : Bytes) :
    frontEnd files main = frontEndN files main ConstGen.macroPasses := rfl

theorem parseFilesN_ast (files : Files) (main : Bytes) (passes : Nat) :
    (parseFiles files main passes).ast =
      astOf (frontEndN files main passes).1
        ((frontEndN files main passes).2.map (fun e => (⟨.forwarded e.kind, e.file, e.line⟩ : SynErr))) := by
  simp only [parseFiles, frontEndN, frontFiles, astOf]

/-- extraction: exactly the built-in definitions, no error, the user's tokens unchanged -/
theorem C04_front_extract (files : Files) (main content : Bytes)
    (hstd : files.has ConstGen.stdFileName = false) (hmain : files.get? main = some content)
    (hnodef : ∀ t ∈ userToks files main, t.kind ≠ Tok.DEFINE) :
    extractMacros (scan (frontFiles files main) main).toks = ⟨[], userToks files main, stdDefs⟩ :=
  front_extract hstd hmain hnodef

/-- for a source without definitions the macro stage runs on the user's tokens, a scanner output
    with its end marker, with the built-in definitions; extraction adds no error -/
theorem frontEnd_nodef (files : Files) (main content : Bytes) (passes : Nat)
    (hstd : files.has ConstGen.stdFileName = false) (hmain : files.get? main = some content)
    (hnodef : ∀ t ∈ userToks files main, t.kind ≠ Tok.DEFINE) :
    (frontEndN files main passes).1 = (applyMacros (userToks files main) stdDefs passes).toks ∧
    (frontEndN files main passes).2 = (scan (frontFiles files main) main).errs ++
      (applyMacros (userToks files main) stdDefs passes).errs ∧
    Scanned (userToks files main) ∧ EndMarked (userToks files main) := by
  obtain ⟨_, ⟨eof, he, hu⟩, hne, hsc⟩ := userToks_eq hstd hmain
  have hx := front_extract hstd hmain hnodef
  refine ⟨?_, ?_, hsc, _, eof, hu, he, hne⟩
  · simp only [frontEndN, hx]
  · simp only [frontEndN, hx, List.append_nil]

/-- the sugar clause for any pass budget above the number of occurrences -/
theorem sugar_frontEndN (files : Files) (main content : Bytes) (passes : Nat)
    (hstd : files.has ConstGen.stdFileName = false) (hmain : files.get? main = some content)
    (hnodef : ∀ t ∈ userToks files main, t.kind ≠ Tok.DEFINE)
    (hb : sugarCount (userToks files main) < passes) :
    (frontEndN files main passes).1 = desugar (userToks files main) ∧
    (frontEndN files main passes).2 = (scan (frontFiles files main) main).errs ∧
    EndMarked (frontEndN files main passes).1 := by
  obtain ⟨h1, h2, hsc, hem⟩ := frontEnd_nodef files main content passes hstd hmain hnodef
  obtain ⟨a1, a2, _⟩ := C04_sugar_apply (userToks files main) passes hsc hb
  rw [a1] at h1
  rw [a2, List.append_nil] at h2
  refine ⟨h1, h2, ?_⟩
  rw [h1, ← (desugarLA_eq hsc).1]
  exact desugarLA_endMarked _ hem

/-- **C04, sugar clause, for the front end.**  For a source without macro definitions whose number
    of sugar occurrences is below the pass budget (1024), the token stream that reaches the parser
    is the desugared source, and the only front-end errors are the scanner's. -/
theorem C04_sugar_frontEnd (files : Files) (main content : Bytes)
    (hstd : files.has ConstGen.stdFileName = false) (hmain : files.get? main = some content)
    (hnodef : ∀ t ∈ userToks files main, t.kind ≠ Tok.DEFINE)
    (hb : sugarCount (userToks files main) < ConstGen.macroPasses) :
    (frontEnd files main).1 = desugar (userToks files main) ∧
    (frontEnd files main).2 = (scan (frontFiles files main) main).errs ∧
    EndMarked (frontEnd files main).1 :=
  sugar_frontEndN files main content _ hstd hmain hnodef hb

/-- the budget-exceeded case for the front end (C11): with 1024 or more occurrences the first 1024
    are rewritten, MACRO_APPLY_REACHED_MAX_PASSES is reported, and compilation fails -/
theorem C04_sugar_frontEnd_budget (files : Files) (main content : Bytes)
    (hstd : files.has ConstGen.stdFileName = false) (hmain : files.get? main = some content)
    (hnodef : ∀ t ∈ userToks files main, t.kind ≠ Tok.DEFINE)
    (hb : ConstGen.macroPasses ≤ sugarCount (userToks files main)) :
    (frontEnd files main).1 = sugarIter ConstGen.macroPasses (userToks files main) ∧
    (frontEnd files main).2 = (scan (frontFiles files main) main).errs ++ [maxPassesErr] ∧
    (compile files main).ok = false := by
  obtain ⟨h1, h2, hsc, hem⟩ := frontEnd_nodef files main content ConstGen.macroPasses hstd hmain hnodef
  rw [← C04_frontEnd_eq] at h1 h2
  obtain ⟨a1, a2, _⟩ := C04_sugar_budget_exceeded (userToks files main) ConstGen.macroPasses (by decide)
    (by rw [(desugarLA_eq hsc).2]; exact hb)
  rw [a1] at h1
  rw [a2] at h2
  have hem' : EndMarked (frontEnd files main).1 := by
    rw [h1]; exact sugarIter_endMarked _ _ hem
  refine ⟨h1, h2, ?_⟩
  -- a successful compilation would have an empty error list
  cases hc : (compile files main).ok with
  | false => rfl
  | true =>
    have := ((C04_compile_iff files main hem').1 hc).1
    rw [h2] at this
    simp at this

/-- **C04 for sources without macro definitions**: such a source compiles successfully iff the
    scanner reports no error and, after the built-in sugar is applied, the token stream is a sentence
    of the documented grammar and the parsed program obeys the static rules. -/
theorem C04_compile_iff_sugar (files : Files) (main content : Bytes)
    (hstd : files.has ConstGen.stdFileName = false) (hmain : files.get? main = some content)
    (hnodef : ∀ t ∈ userToks files main, t.kind ≠ Tok.DEFINE)
    (hb : sugarCount (userToks files main) < ConstGen.macroPasses) :
    (compile files main).ok = true ↔
      ((scan (frontFiles files main) main).errs = [] ∧
        Derives langGrammar (.n LangNT.S) (bodyKinds (desugar (userToks files main))) ∧
        staticOK (toSource (parseTokens (desugar (userToks files main))).1) = true) := by
  obtain ⟨h1, h2, hem⟩ := C04_sugar_frontEnd files main content hstd hmain hnodef hb
  rw [C04_compile_iff files main hem, h1, h2]

/-! ### the same, in a form the kernel can evaluate on a concrete source

  Only the user's text is lexed: the standard file, its two definitions and their detectors do not
  occur on the right-hand sides. -/

/-- the end marker behind the user's tokens `U`: the scanner positions it at the last token of the
    stream, which is the last of `U` or, for an empty `U`, the `END DEFINE` on line 2 of the
    standard file -/
def eofFor (U : List Token) : Token :=
  match U.getLast? with
  | some l => ⟨Tok.T_EOF, bEOF, l.file, l.line⟩
  | none => ⟨Tok.T_EOF, bEOF, ConstGen.stdFileName, 2⟩

/-- `userToks`, computed from the scan of the user's text alone -/
def userToksFrom (files : Files) (main content : Bytes) : List Token :=
  (userScan files main content).toks ++ [eofFor (userScan files main content).toks]

section
variable {files : Files} {main content : Bytes}

theorem userToks_eval (hstd : files.has ConstGen.stdFileName = false) (hmain : files.get? main = some content) :
    userToks files main = userToksFrom files main content := by
  obtain ⟨eof, _, ht, _, hpos⟩ := front_scan hstd hmain
  rw [userToks, ht, List.drop_left' rfl, userToksFrom]
  congr 2
  unfold eofFor
  cases hl : (userScan files main content).toks.getLast? with
  | some l => exact hpos l (by rw [List.getLast?_append, hl]; rfl)
  | none =>
    rw [List.getLast?_eq_none_iff.1 hl, List.append_nil, std_body_shape] at hpos
    exact hpos _ rfl

theorem frontEnd_eval {passes : Nat} (hstd : files.has ConstGen.stdFileName = false)
    (hmain : files.get? main = some content)
    (hnodef : ∀ t ∈ userToksFrom files main content, t.kind ≠ Tok.DEFINE)
    (hb : sugarCount (userToksFrom files main content) < passes) :
    frontEndN files main passes = (desugar (userToksFrom files main content), (userScan files main content).errs) := by
  rw [← userToks_eval hstd hmain] at hnodef hb ⊢
  obtain ⟨h1, h2, _⟩ := sugar_frontEndN files main content passes hstd hmain hnodef hb
  obtain ⟨_, _, _, herr, _⟩ := front_scan hstd hmain
  rw [← h1, ← herr, ← h2]

/-- a property of the tree that `parseFiles` hands to the generator, as one closed hypothesis -/
theorem parseFiles_eval {P : AST → Prop} {passes : Nat}
    (hstd : files.has ConstGen.stdFileName = false) (hmain : files.get? main = some content)
    (h : (∀ t ∈ userToksFrom files main content, t.kind ≠ Tok.DEFINE) ∧
      sugarCount (userToksFrom files main content) < passes ∧
      P (astOf (desugar (userToksFrom files main content))
        ((userScan files main content).errs.map (fun e => (⟨.forwarded e.kind, e.file, e.line⟩ : SynErr))))) :
    P (parseFiles files main passes).ast := by
  rw [parseFilesN_ast, frontEnd_eval hstd hmain h.1 h.2.1]
  exact h.2.2

end

namespace C04SugarDemo
def tk (k : Nat) (s : Bytes) : Token := ⟨k, s, [109], 1⟩

/-- `x0 := x1 + 2 ; x3 := x3 - 1` and the end marker -/
def src : List Token :=
  [tk Tok.ID [120, 48], tk Tok.ASSIGN [58, 61], tk Tok.ID [120, 49], tk Tok.NV_ID [43], tk Tok.INT [50],
   tk Tok.PROGSEP [59],
   tk Tok.ID [120, 51], tk Tok.ASSIGN [58, 61], tk Tok.ID [120, 51], tk Tok.NV_ID [45], tk Tok.INT [49],
   tk Tok.T_EOF [69, 79, 70]]

/-- `x0 := RUN __INC__ WITH x1 , 2 END ; x3 := RUN __DEC__ WITH x3 , 1 END`: the inserted tokens are
    positioned on line 1 / line 2 of the standards file, `x1`, `2`, `x3`, `1` keep their own positions -/
example : desugar src =
    [tk Tok.ID [120, 48], tk Tok.ASSIGN [58, 61]] ++ call incName 1 (tk Tok.ID [120, 49]) (tk Tok.INT [50]) ++
    [tk Tok.PROGSEP [59], tk Tok.ID [120, 51], tk Tok.ASSIGN [58, 61]] ++
      call decName 2 (tk Tok.ID [120, 51]) (tk Tok.INT [49]) ++ [tk Tok.T_EOF [69, 79, 70]] ∧
    sugarCount src = 2 := by decide

theorem src_scanned : Scanned src :=
  ⟨by decide, src.dropLast, tk Tok.T_EOF [69, 79, 70], by decide, rfl⟩

/-- the hypotheses of `C04_sugar_apply` are satisfiable, with the real budget -/
example : (applyMacros src stdDefs ConstGen.macroPasses).toks = desugar src ∧
    (applyMacros src stdDefs ConstGen.macroPasses).errs = [] ∧
    (applyMacros src stdDefs ConstGen.macroPasses).rewrites = 2 :=
  C04_sugar_apply src ConstGen.macroPasses src_scanned (by decide)

/-- with budget 2 (= the number of occurrences) the stream is fully desugared but the error is
    reported; with budget 1 only the leftmost occurrence is rewritten -/
example : (applyMacros src stdDefs 2).toks = desugar src ∧ (applyMacros src stdDefs 2).errs = [maxPassesErr] := by
  obtain ⟨h1, h2, _⟩ := C04_sugar_budget_exceeded src 2 (by decide) (by decide)
  exact ⟨h1.trans (by decide), h2⟩

example : (applyMacros src stdDefs 1).toks =
    [tk Tok.ID [120, 48], tk Tok.ASSIGN [58, 61]] ++ call incName 1 (tk Tok.ID [120, 49]) (tk Tok.INT [50]) ++ src.drop 5 := by
  obtain ⟨h1, _⟩ := C04_sugar_budget_exceeded src 1 (by decide) (by decide)
  exact h1.trans (by decide)

/-- `a + 1 + 2`: only `a + 1` is sugar; the rewrite does not enable `END + 2` -/
example : desugar [tk Tok.ID [97], tk Tok.NV_ID [43], tk Tok.INT [49], tk Tok.NV_ID [43], tk Tok.INT [50],
      tk Tok.T_EOF [69, 79, 70]] =
    call incName 1 (tk Tok.ID [97]) (tk Tok.INT [49]) ++
      [tk Tok.NV_ID [43], tk Tok.INT [50], tk Tok.T_EOF [69, 79, 70]] := by decide

/-- outside scanner output the lookahead matters: `a + 1` with nothing behind it is not rewritten
    by the model (`desugarLA`), while the plain `desugar` rewrites it -/
example : desugarLA [tk Tok.ID [97], tk Tok.NV_ID [43], tk Tok.INT [49]] =
      [tk Tok.ID [97], tk Tok.NV_ID [43], tk Tok.INT [49]] ∧
    desugar [tk Tok.ID [97], tk Tok.NV_ID [43], tk Tok.INT [49]] =
      call incName 1 (tk Tok.ID [97]) (tk Tok.INT [49]) ∧
    (applyMacros [tk Tok.ID [97], tk Tok.NV_ID [43], tk Tok.INT [49]] stdDefs 5).toks =
      [tk Tok.ID [97], tk Tok.NV_ID [43], tk Tok.INT [49]] := by
  refine ⟨by decide, by decide, ?_⟩
  exact (C04_sugar_apply_exact _ 5 (by decide)).1.trans (by decide)

/-- the front end on the file `m` = "x0 := x1 + 2 ; x3 := x3 - 1": all hypotheses of
    `C04_sugar_frontEnd` hold, and the user's tokens are `src` -/
def files : Files := [([109], [120, 48, 32, 58, 61, 32, 120, 49, 32, 43, 32, 50, 32, 59, 32,
  120, 51, 32, 58, 61, 32, 120, 51, 32, 45, 32, 49])]

/-- the main file's own text, scanned (the standard file in front of it is covered by
    `front_scan`, and is not scanned again here) -/
theorem files_userScan (c : Bytes) (hc : files.get? [109] = some c) :
    (userScan files [109] c).toks = src.dropLast ∧ (userScan files [109] c).errs = [] := by
  cases hc
  decide +kernel

theorem files_userToks : userToks files [109] = src := by
  obtain ⟨eof, _, ht, _, hpos⟩ := front_scan (files := files) (main := [109]) (by decide) rfl
  rw [(files_userScan _ rfl).1] at ht hpos
  rw [userToks, ht, List.drop_left' rfl, hpos _ (by rw [List.getLast?_append]; rfl)]
  rfl

example : (frontEnd files [109]).1 = desugar src ∧ (frontEnd files [109]).2 = [] := by
  obtain ⟨h1, h2, _⟩ := C04_sugar_frontEnd files [109] _ (by decide) rfl
    (by rw [files_userToks]; decide) (by rw [files_userToks]; decide)
  obtain ⟨_, _, _, herr, _⟩ := front_scan (files := files) (main := [109]) (by decide) rfl
  rw [files_userToks] at h1
  exact ⟨h1, h2.trans (herr.trans (files_userScan _ rfl).2)⟩

end C04SugarDemo

end Theo
