/-
  C11, growth clause, for the definitions actually produced by `extractMacros`.

  `C11_linear_of_numbers` needs `m.tt.Nodup`; for extracted definitions this is a theorem
  (`C11_extracted_tt_nodup`, from the invariant of Proofs/ExtractTT: the slot table is a strictly
  increasing list of rule positions).  So for extracted definitions linearity is a purely textual
  condition — no `$n` number is written twice in a body (`slotNumbers.Nodup`) — and under it the
  growth bound holds.
-/
import Theo.Proofs.ExtractTT
import Theo.Props.C11Growth

namespace Theo

/-- the slot table of an extracted definition is strictly increasing and points into the rule -/
theorem C11_extracted_tt_increasing (toks : List Token) :
    ∀ m ∈ (extractMacros toks).macros,
      m.tt.Pairwise (· < ·) ∧ ∀ i ∈ m.tt, i < m.rule.length := by
  unfold extractMacros
  exact checkInsertions_ttInc _ _ _ (ExSt.ttGood_step.exS _ _ (fun _ hm => nomatch hm))

/-- no index occurs twice in the slot table: the hypothesis `m.tt.Nodup` of `C11_linear_of_numbers` -/
theorem C11_extracted_tt_nodup (toks : List Token) :
    ∀ m ∈ (extractMacros toks).macros, m.tt.Nodup :=
  fun m hm => pairwise_lt_nodup (C11_extracted_tt_increasing toks m hm).1

/-- for an extracted definition linearity can be read off the body text -/
theorem C11_extracted_linear_of_numbers (toks : List Token) :
    ∀ m ∈ (extractMacros toks).macros, m.slotNumbers.Nodup → m.linearBody :=
  fun m hm hn => C11_linear_of_numbers m (C11_extracted_tt_nodup toks m hm) hn

/-- growth clause for extracted definitions: if no body mentions a `$n` number twice, the stream
    grows by at most `rewrites × maxBody` tokens … -/
theorem C11_growth_extracted (toks inp : List Token) (passes : Nat)
    (h : ∀ m ∈ (extractMacros toks).macros, m.slotNumbers.Nodup) :
    (applyMacros inp (extractMacros toks).macros passes).toks.length ≤
      inp.length + (applyMacros inp (extractMacros toks).macros passes).rewrites *
        maxBody (extractMacros toks).macros :=
  C11_growth_linear inp _ passes
    (fun m hm => C11_extracted_linear_of_numbers toks m hm (h m hm))

/-- … hence by at most `budget × maxBody` tokens -/
theorem C11_growth_extracted_budget (toks inp : List Token) (passes : Nat)
    (h : ∀ m ∈ (extractMacros toks).macros, m.slotNumbers.Nodup) :
    (applyMacros inp (extractMacros toks).macros passes).toks.length ≤
      inp.length + passes * maxBody (extractMacros toks).macros :=
  C11_growth_linear_budget inp _ passes
    (fun m hm => C11_extracted_linear_of_numbers toks m hm (h m hm))

/-- the instance the compiler runs: the macros are applied to the stream that remains after
    extraction -/
theorem C11_growth_extracted_self (toks : List Token) (passes : Nat)
    (h : ∀ m ∈ (extractMacros toks).macros, m.slotNumbers.Nodup) :
    (applyMacros (extractMacros toks).toks (extractMacros toks).macros passes).toks.length ≤
      (extractMacros toks).toks.length + passes * maxBody (extractMacros toks).macros :=
  C11_growth_extracted_budget toks _ passes h

/-! ### non-vacuity: a source whose extracted definition has two slots -/

namespace C11GrowthExample

/-- `DEFINE ( <V> , <V> ) AS ( $1 , $0 ) END DEFINE  x := ( a , b )` -/
def swapSrc : List Token :=
  [tk Tok.DEFINE [], tk Tok.PAREN_OPEN [40], tk Tok.VALUE_TEMP [60, 86, 62], tk Tok.ARGSEP [44],
   tk Tok.VALUE_TEMP [60, 86, 62], tk Tok.PAREN_CLOSE [41], tk Tok.AS [],
   tk Tok.PAREN_OPEN [40], tk Tok.INSERTION [36, 49], tk Tok.ARGSEP [44],
   tk Tok.INSERTION [36, 48], tk Tok.PAREN_CLOSE [41], tk Tok.END_DEFINE [],
   tk Tok.ID [120], tk Tok.ASSIGN [58, 61], tk Tok.PAREN_OPEN [40], tk Tok.ID [97],
   tk Tok.ARGSEP [44], tk Tok.ID [98], tk Tok.PAREN_CLOSE [41], tk Tok.T_EOF []]

/-- one definition is extracted, without error; its slot table is `[1, 3]`, the body mentions the
    numbers `1, 0` (no repeat) and inserts the rule positions `3, 1` -/
theorem swapSrc_extracted :
    (extractMacros swapSrc).errs = [] ∧
    (extractMacros swapSrc).macros.length = 1 ∧
    (extractMacros swapSrc).macros.map (fun m => m.tt) = [[1, 3]] ∧
    (extractMacros swapSrc).macros.map (fun m => m.rule.length) = [5] ∧
    (extractMacros swapSrc).macros.map (fun m => m.slotNumbers) = [[1, 0]] ∧
    (extractMacros swapSrc).macros.map (fun m => m.slotRefs) = [[3, 1]] ∧
    (extractMacros swapSrc).toks.length = 8 ∧
    maxBody (extractMacros swapSrc).macros = 5 := by
  decide +kernel

/-- the hypothesis of the growth theorems holds for it -/
theorem swapSrc_numbers_nodup : ∀ m ∈ (extractMacros swapSrc).macros, m.slotNumbers.Nodup := by
  decide +kernel

example : ∀ m ∈ (extractMacros swapSrc).macros, m.linearBody :=
  fun m hm => C11_extracted_linear_of_numbers swapSrc m hm (swapSrc_numbers_nodup m hm)

example (passes : Nat) :
    (applyMacros (extractMacros swapSrc).toks (extractMacros swapSrc).macros passes).toks.length ≤
      8 + passes * 5 := by
  have h := C11_growth_extracted_self swapSrc passes swapSrc_numbers_nodup
  rwa [swapSrc_extracted.2.2.2.2.2.2.1, swapSrc_extracted.2.2.2.2.2.2.2] at h

/-- the definition is usable and does rewrite: `( a , b )` becomes `( b , a )`, then `( a , b )`, … -/
example : (extractMacros swapSrc).macros.map (fun m => (mkDetector m).usable) = [true] ∧
    (List.range 4).map (fun p =>
      ((applyMacros (extractMacros swapSrc).toks (extractMacros swapSrc).macros p).rewrites,
       (applyMacros (extractMacros swapSrc).toks (extractMacros swapSrc).macros p).toks.length)) =
      [(0, 8), (1, 8), (2, 8), (3, 8)] := by
  decide +kernel

end C11GrowthExample

end Theo
