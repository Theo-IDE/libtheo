/-
  C07 — stepping and variable inspection are faithful to the source.

  For every program `p` that passes `siteCheck src p` (Spec/Events.lean: `shapeCheck` plus "every
  breakpoint site is where the one-statement-per-line layout puts it, names that statement's
  line, and there is no other site") and `wfCheck p`: the sequence of sites a run passes (in
  stepping mode `step` returns `true` there: `C07_stepping_stops_at_sites`) is the sequence of
  lines the reference semantics visits, and at every such stop every activation's user variables
  have their source-level values.  The check of C07 (checks/semprops.py) runs `siteCheck` on
  every program the implementation emits for generated sources in the one-statement-per-line
  layout.
-/
import Theo.Props.C01
import Theo.Proofs.SimEvents
import Theo.Proofs.SimSiteCheck

namespace Theo
open Sem

/-- views agree at corresponding stops (`Sim.StopsAgree'`, on the data arrays, is what the
    simulation carries: `stopsAgree_of`) -/
def StopsAgree (p : Program) : List Config → List (BreakPoint × VM) → Prop
  | [], [] => True
  | c :: cs, (_, vm) :: vs => ViewsAgree p c vm ∧ StopsAgree p cs vs
  | _, _ => False

theorem stopsAgree_of (p : Program) : ∀ (cs : List Config) (vs : List (BreakPoint × VM)),
    Sim.StopsAgree' p cs vs → StopsAgree p cs vs := by
  intro cs
  induction cs with
  | nil => intro vs h; cases vs <;> exact h
  | cons c cs ih =>
    intro vs h
    cases vs with
    | nil => exact h
    | cons x vs => exact ⟨stacksAgree_of p x.2 _ _ h.1, ih vs h.2⟩

/-- every finite prefix of the source-level visit sequence is the site sequence of some bytecode
    prefix, with the variable views agreeing at every stop -/
theorem C07_step_trace (src : Source) (p : Program)
    (hs : siteCheck src p = true) (hw : wfCheck p = true) (n : Nat) :
    ∃ m, (sitesPassed p m (VM.mk' p)).map (fun x => posOfBp x.1) = visits src n (initial src) ∧
         StopsAgree p (visitConfigs src n (initial src)) (sitesPassed p m (VM.mk' p)) := by
  obtain ⟨V, tend, hV, hT⟩ := Sim.tvalid_of_siteCheck hs
  obtain ⟨R, hc⟩ := WF.checkCert_iff.1 hw
  obtain ⟨m, h1, h2⟩ := Sim.step_trace hc hV hT n
  exact ⟨m, h1, stopsAgree_of p _ _ h2⟩

/-- conversely the bytecode passes no site the source does not visit: every bytecode prefix's
    site sequence is a prefix of the visit sequence of some source prefix -/
theorem C07_no_extra_stops (src : Source) (p : Program)
    (hs : siteCheck src p = true) (hw : wfCheck p = true) (m : Nat) :
    ∃ n, (sitesPassed p m (VM.mk' p)).map (fun x => posOfBp x.1) <+: visits src n (initial src) := by
  obtain ⟨V, tend, hV, hT⟩ := Sim.tvalid_of_siteCheck hs
  obtain ⟨R, hc⟩ := WF.checkCert_iff.1 hw
  exact Sim.no_extra_stops hc hV hT m

/-- at a site `step` reports whether the run is in stepping mode, and moves on -/
theorem step_at_site (vm vm' : VM) (r : Bool) (h : step vm = .ok (vm', r))
    (hs : fetch vm.code vm.ip = .ok Instr.potBreak) :
    r = vm.stepping ∧ vm' = { vm with ip := vm.ip + 1 } := by
  cases h.symm.trans (InvB.Eff.potBreak.step hs)
  exact ⟨rfl, rfl⟩

/-- with stepping mode on, `step` returns `true` at a site: the sites of the theorems above are
    where a stepping run hands control back -/
theorem C07_stepping_stops_at_sites (vm vm' : VM) (r : Bool) (h : step vm = .ok (vm', r))
    (hst : vm.stepping = true) (hs : fetch vm.code vm.ip = .ok Instr.potBreak) : r = true :=
  (step_at_site vm vm' r h hs).1.trans hst

end Theo
