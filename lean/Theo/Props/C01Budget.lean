/-
  C01, quantitative clause — "a source that has not finished within a step budget has not
  finished on the VM within the proportional budget either", and its converse.

  `C01_budget_statement` of C01.lean (`n ≤ 4 * m + 4`) does not hold, and no other pair of
  universal constants does (`C01_budget_no_universal_constants`): a mark (a label;
  the `END` keyword of a loop) is a step of the reference machine and compiles to no instruction
  at all, so `N` marks in a row cost `N` reference steps and zero VM instructions.  The factor
  necessarily depends on the source.  In the other direction no universal constants exist either:
  breakpoint sites (`POTENTIAL_BREAK`) are instructions of the VM, and the validator accepts any
  placement of them (`C01BudgetDemo.sites_*`: one reference step, 101 instructions).

  What holds, for every `p` with `shapeCheck src p` and `wfCheck p` (n = steps of the reference
  machine, m = instructions of the VM):

    C01_budget        vmRun p m done  ⟹  the reference execution halts within  κ·m + κ  steps,
                      κ = stutterFactor src = srcStutter src + 1
    C01_budget_upper  the reference execution halts after n steps  ⟹  the VM is done, with
                      agreeing variables, within  C·n + D  instructions,
                      C = 4·(S + 1),  D = (S + 1)·(L + 2),
                      S = maxSiteRun p.code (longest run of consecutive sites), L = #routines
    (+ C01_budget_width: the first statement with the larger factor srcWidth src + 1
     (κ is at most that: `Sim.stut_le_cmeasure`, `Sim.cmeasure_le_width`); C01_compile_budget /
     C01_compile_budget_upper: the same for every accepted compilation of the model)

  Where the constants come from: by the step lemma of the simulation (`sim_step`,
  Proofs/SimStep.lean) a step of the reference machine from a matched state is matched by
  exactly `cost cfg` real instructions, each preceded by at most S sites.
   * cost = 0 for: entering `x := v`, a mark, descending into the first argument of a call,
     moving on to the next argument, storing a value in its variable.  `stut cfg` = how many such
     steps come next; each of them decreases it by one and on reachable configurations it is
     `≤ srcStutter src` = 1 + (longest run of marks, followed or not by `x :=` and the chain of
     first arguments of the value) (Proofs/SimCountStutter.lean).  So one instruction pays for
     itself and `srcStutter` free steps: κ = srcStutter src + 1.  The additive κ: the free steps
     before the first instruction and the last step into `halted` (`HALT` is not executed).
     Tight: `C01BudgetDemo.tight_*` (blocks `x := 1; M: M: M:`: 6 steps per instruction, κ = 6).
   * cost ≤ 4 (`IF x = c THEN GOTO`: ADD, CONST, TEST, JMPC) except for the step performing a call
     with k arguments: k + 2 (PREPARE, k × ARG, EXEC) — but k - 1 free steps moved from one
     argument to the next before, so with a credit of one per computed argument the amortised
     cost is ≤ 4 (`Sim.cost_credit`): C = 4·(S + 1), independent of arities.  D: the prologue
     `PREPARE; JMP` over each of the L routine bodies (L + 1 instructions) and the sites before
     the final `HALT`.
  Both directions use determinism of the VM (`Steps.run`) and that no state before the matched
  `HALT` is done.
-/
import Theo.Proofs.SimCountWidth
import Theo.Props.C01
import Theo.Props.C01Compile

namespace Theo
open Sem

/-- κ: one more than the stutter bound of the source (`Sim.srcStutter`): 1 + the largest number
    of instruction-free steps a statement list of the source (or an argument position of a
    value) can start with, + 1 for the step that executes -/
def stutterFactor (src : Source) : Nat := Sim.srcStutter src + 1

/-- the factor of `C01_budget_width`: one more than the width of the source, the largest `fsize`
    (Proofs/SemRules.lean) of a statement list occurring in it — a routine body, the main
    program, the body of a loop, not counting nested bodies: 2 per statement, and for `x := v`
    additionally 1 + the number of nodes and of argument positions of `v` -/
def budgetFactor (src : Source) : Nat := Sim.srcWidth src + 1

/-- C: four real instructions per reference step (amortised), each after at most
    `maxSiteRun p.code` sites -/
def vmFactor (p : Program) : Nat := 4 * (Sim.maxSiteRun p.code + 1)

/-- D: the prologue (`PREPARE`, one `JMP` per routine) and the sites before the final `HALT` -/
def vmOffset (src : Source) (p : Program) : Nat := (Sim.maxSiteRun p.code + 1) * (src.progs.length + 2)

/-- if the bytecode is done after `m` instructions, the reference execution halts within
    `(B + 1) * m + (B + 1)` steps, for every bound `B` of `Sim.stut` along the execution -/
theorem C01_budget_of_bound (src : Source) (p : Program)
    (hs : shapeCheck src p = true) (hw : wfCheck p = true) {B : Nat}
    (hB : ∀ n, Sim.stut (LoopHalts.stepN src n (initial src)) ≤ B)
    (m : Nat) (vm : VM) (h : vmRun p m = .ok vm) (hd : vm.isDone = .ok true) :
    ∃ n, n ≤ (B + 1) * m + (B + 1) ∧ (Sem.run src n (initial src) 0).1.status = .halted := by
  have hS := Sim.siteBound_maxSiteRun p.code
  obtain ⟨V, hV, hsk⟩ := Sim.valid_of_shapeCheck_skipsN hs hS
  obtain ⟨R, hc⟩ := WF.checkCert_iff.1 hw
  rw [vmRun_eq_runFrom] at h
  obtain ⟨n, hn, hh⟩ := Sim.budget_sim_stut hS hc hV hsk hB h hd
  refine ⟨n, ?_, by rw [LoopHalts.run_fst]; exact hh⟩
  rw [Nat.mul_succ] at hn
  exact hn

/-- if the bytecode is done after `m` instructions, the reference execution halts within
    `κ * m + κ` steps, `κ = stutterFactor src` -/
theorem C01_budget (src : Source) (p : Program)
    (hs : shapeCheck src p = true) (hw : wfCheck p = true)
    (m : Nat) (vm : VM) (h : vmRun p m = .ok vm) (hd : vm.isDone = .ok true) :
    ∃ n, n ≤ stutterFactor src * m + stutterFactor src ∧
      (Sem.run src n (initial src) 0).1.status = .halted :=
  C01_budget_of_bound src p hs hw (Sim.stut_le_bound src) m vm h hd

/-- contrapositive, in the words of the property: a source that has not finished within
    `κ * m + κ` steps has not finished on the VM within `m` instructions -/
theorem C01_budget_not_finished (src : Source) (p : Program)
    (hs : shapeCheck src p = true) (hw : wfCheck p = true) (m : Nat)
    (hr : ∀ n, n ≤ stutterFactor src * m + stutterFactor src →
      (Sem.run src n (initial src) 0).1.status = .running)
    (vm : VM) (h : vmRun p m = .ok vm) : vm.isDone ≠ .ok true := by
  intro hd
  obtain ⟨n, hn, hh⟩ := C01_budget src p hs hw m vm h hd
  rw [hr n hn] at hh
  cases hh

/-- the same with the width of the source, the largest size of a statement list occurring in it:
    the free steps ahead are among what is left of the focus (`Sim.stut_le_cmeasure`) -/
theorem C01_budget_width (src : Source) (p : Program)
    (hs : shapeCheck src p = true) (hw : wfCheck p = true)
    (m : Nat) (vm : VM) (h : vmRun p m = .ok vm) (hd : vm.isDone = .ok true) :
    ∃ n, n ≤ budgetFactor src * m + budgetFactor src ∧
      (Sem.run src n (initial src) 0).1.status = .halted :=
  C01_budget_of_bound src p hs hw
    (fun n => Nat.le_trans (Sim.stut_le_cmeasure _) (Sim.cmeasure_le_width src n)) m vm h hd

/-- `C01_budget_upper_of_bound` at `S = maxSiteRun p.code` -/
theorem C01_budget_upper (src : Source) (p : Program)
    (hs : shapeCheck src p = true) (hw : wfCheck p = true)
    (n : Nat) (hh : (Sem.run src n (initial src) 0).1.status = .halted) :
    ∃ m vm, m ≤ vmFactor p * n + vmOffset src p ∧ vmRun p m = .ok vm ∧ vm.isDone = .ok true ∧
      ViewsAgree p (Sem.run src n (initial src) 0).1 vm := by
  obtain ⟨m, vm, hle, h⟩ := C01_budget_upper_of_bound src p hs hw _
    (Sim.siteBound_maxSiteRun p.code) n hh
  refine ⟨m, vm, ?_, h⟩
  unfold vmFactor vmOffset
  rw [Nat.mul_add, ← Nat.mul_assoc, Nat.mul_comm _ 4] at hle
  exact hle

theorem C01_compile_budget (files : Files) (main : Bytes)
    (hok : (compile files main).ok = true)
    (hl : LabelsOK (parseFiles files main).ast.root = true) :
    let src := toSource (parseFiles files main).ast.root
    let p := (compile files main).code
    ∀ m vm, vmRun p m = .ok vm → vm.isDone = .ok true →
      ∃ n, n ≤ stutterFactor src * m + stutterFactor src ∧
        (Sem.run src n (initial src) 0).1.status = .halted := by
  intro src p
  exact C01_budget src p (C01_compile_shape files main hok hl) (C03_compile_wf files main hok)

theorem C01_compile_budget_upper (files : Files) (main : Bytes)
    (hok : (compile files main).ok = true)
    (hl : LabelsOK (parseFiles files main).ast.root = true) :
    let src := toSource (parseFiles files main).ast.root
    let p := (compile files main).code
    ∀ n, (Sem.run src n (initial src) 0).1.status = .halted →
      ∃ m vm, m ≤ vmFactor p * n + vmOffset src p ∧ vmRun p m = .ok vm ∧ vm.isDone = .ok true ∧
        ViewsAgree p (Sem.run src n (initial src) 0).1 vm := by
  intro src p
  exact C01_budget_upper src p (C01_compile_shape files main hok hl) (C03_compile_wf files main hok)

namespace C01BudgetDemo

/-- `N` marks `L:` in a row -/
def marks : Nat → Stmts
  | 0 => .nil
  | N + 1 => .cons (.mark [76] ([], 0)) (marks N)

def marksSrc (N : Nat) : Source := ⟨[], marks N⟩

/-- the code of every `marksSrc N`: `PREPARE; HALT` -/
def marksProg : Program := ⟨[.prepare 0 0 0, .halt], [⟨[], []⟩], [], []⟩

theorem marks_check (e : VEnv) : ∀ (N : Nat) (w : Walk),
    ∃ w', checkStmts e (marks N) w = some w' ∧ w'.pc = w.pc ∧ w'.gotos = w.gotos := by
  intro N
  induction N with
  | zero => intro w; exact ⟨w, by simp only [marks, checkStmts], rfl, rfl⟩
  | succ N ih =>
    intro w
    obtain ⟨w', h1, h2, h3⟩ := ih { w with marks := w.marks ++ [([76], w.pc)] }
    exact ⟨w', by simp only [marks, checkStmts, checkStmt]; exact h1, h2, h3⟩

theorem marks_shape (N : Nat) : shapeCheck (marksSrc N) marksProg = true := by
  obtain ⟨w', h1, h2, h3⟩ := marks_check
    ⟨marksProg.code, marksSrc N, ⟨0, 0, []⟩, 0, []⟩ N ⟨1, [], []⟩
  have h2' : w'.pc = 1 := h2
  have h3' : w'.gotos = [] := h3
  have hres : resolveOK marksProg.code w' = true := by
    unfold resolveOK
    rw [h3']
    rfl
  unfold shapeCheck
  simp only [marksProg, marksSrc, checkProgs, List.length_nil] at h1 hres ⊢
  simp only [List.getElem?_cons_zero]
  rw [h1]
  simp only [hres, h2']
  rfl

theorem marks_wf : wfCheck marksProg = true := by decide +kernel

/-- the VM is done after the one instruction `PREPARE` -/
theorem marks_vm : ∃ vm, vmRun marksProg 1 = .ok vm ∧ vm.isDone = .ok true := ⟨_, rfl, rfl⟩

theorem marks_iter (src : Source) (r : Nat) : ∀ (n k : Nat),
    LoopHalts.stepN src n ⟨[⟨r, [], [], marks (n + k), .done, .run⟩], .running⟩ =
      ⟨[⟨r, [], [], marks k, .done, .run⟩], .running⟩ := by
  intro n
  induction n with
  | zero => intro k; rw [Nat.zero_add]; rfl
  | succ n ih =>
    intro k
    rw [LoopHalts.stepN, show n + 1 + k = (n + k) + 1 by omega]
    exact ih k

theorem marks_running (N n : Nat) (h : n ≤ N) :
    (Sem.run (marksSrc N) n (initial (marksSrc N)) 0).1.status = .running := by
  rw [LoopHalts.run_fst]
  obtain ⟨k, rfl⟩ : ∃ k, N = n + k := ⟨N - n, by omega⟩
  show (LoopHalts.stepN (marksSrc (n + k)) n ⟨[⟨0, [], [], marks (n + k), .done, .run⟩], .running⟩).status = _
  rw [marks_iter]

end C01BudgetDemo

/-- whatever the constants `A`, `B`: a validated program that is done after one instruction while
    its source has not halted within `A * 1 + B` steps -/
theorem C01_budget_no_universal_constants (A B : Nat) :
    ∃ (src : Source) (p : Program), shapeCheck src p = true ∧ wfCheck p = true ∧
      ∃ m vm, vmRun p m = .ok vm ∧ vm.isDone = .ok true ∧
        ∀ n, n ≤ A * m + B → (Sem.run src n (initial src) 0).1.status ≠ .halted := by
  obtain ⟨vm, h1, h2⟩ := C01BudgetDemo.marks_vm
  refine ⟨C01BudgetDemo.marksSrc (A * 1 + B), C01BudgetDemo.marksProg,
    C01BudgetDemo.marks_shape _, C01BudgetDemo.marks_wf, 1, vm, h1, h2, fun n hn hh => ?_⟩
  rw [C01BudgetDemo.marks_running _ n hn] at hh
  cases hh

theorem C01_budget_statement_false : ¬ C01_budget_statement := by
  intro hst
  obtain ⟨src, p, hs, hw, m, vm, h1, h2, h3⟩ := C01_budget_no_universal_constants 4 4
  obtain ⟨n, hn, hh⟩ := hst src p hs hw m vm h1 h2
  exact h3 n hn hh

namespace C01BudgetDemo

def doneAt (p : Program) (m : Nat) : Option Bool :=
  match vmRun p m with
  | .ok vm => (match vm.isDone with | .ok b => some b | .error _ => none)
  | .error _ => none

/-- is the VM done after `m + 1` instructions, and was it after `m`? (one run for both) -/
def doneAt2 (p : Program) (m : Nat) : Option (Bool × Bool) :=
  match vmRun p m with
  | .ok vm =>
    (match (step vm).map (·.1), vm.isDone with
     | .ok vm', .ok b => (match vm'.isDone with | .ok b' => some (b', b) | .error _ => none)
     | _, _ => none)
  | .error _ => none

theorem doneAt2_spec {p : Program} {m : Nat} {b' b : Bool} (h : doneAt2 p m = some (b', b)) :
    (∃ vm, vmRun p (m + 1) = .ok vm ∧ vm.isDone = .ok b') ∧
      (∃ vm, vmRun p m = .ok vm ∧ vm.isDone = .ok b) := by
  unfold doneAt2 at h
  split at h
  · rename_i vm hvm
    split at h
    · rename_i vm' b0 hs hb
      split at h
      · rename_i b1 hb'
        cases h
        exact ⟨⟨vm', by show (vmRun p m).bind _ = _; rw [hvm]; exact hs, hb'⟩, vm, hvm, hb⟩
      · cases h
    · cases h
  · cases h

/-- `x := 2; LOOP x DO y := y + 1 END; L:` (the loop's `END` and `L:` are marks) -/
def demoSrc : Source :=
  ⟨[], .cons (.assign [120] (.num 2) ([109], 1))
      (.cons (.loop 1 [120]
          (.cons (.assign [121] (.inc [121] 1) ([109], 1)) (.cons (.mark [69, 78, 68] ([109], 1)) .nil))
          ([109], 1))
        (.cons (.mark [76] ([109], 1)) .nil))⟩

/-- its code as the compilation scheme lays it out: registers x = 0, y = 1, the loop counter = 2,
    temporaries 3 and 4 -/
def demoProg : Program :=
  ⟨[.prepare 5 0 0, .const 0 2, .add 2 0 0, .jmpc 6 2, .add 3 1 0, .const 4 1, .add 1 3 1,
    .add 2 2 (-1), .jmp (-5), .halt],
   [⟨[], [(0, [120]), (1, [121]), (2, bLoopVar ++ [109, 58, 49, 91, 49, 93])]⟩], [], []⟩

theorem demo_valid : shapeCheck demoSrc demoProg = true ∧ wfCheck demoProg = true := by
  decide +kernel

/-- κ = 3 (at most 2 free steps in a row: after `y := y + 1` is computed, the store and `END`),
    the width-based factor is 9; no sites, no routines: C = 4, D = 2 -/
theorem demo_constants : stutterFactor demoSrc = 3 ∧ budgetFactor demoSrc = 9 ∧
    vmFactor demoProg = 4 ∧ vmOffset demoSrc demoProg = 2 := by decide +kernel

theorem demo_vm : (∃ vm, vmRun demoProg 16 = .ok vm ∧ vm.isDone = .ok true) ∧
    (∃ vm, vmRun demoProg 15 = .ok vm ∧ vm.isDone = .ok false) :=
  doneAt2_spec (m := 15) (by decide +kernel)

theorem demo_budget : ∃ n, n ≤ 3 * 16 + 3 ∧
    (Sem.run demoSrc n (initial demoSrc) 0).1.status = .halted := by
  obtain ⟨vm, h1, h2⟩ := demo_vm.1
  have := C01_budget demoSrc demoProg demo_valid.1 demo_valid.2 16 vm h1 h2
  rwa [demo_constants.1] at this

/-- the reference execution halts after 16 steps (and not before): 3 for `x := 2`, 1 to enter
    the loop, 5 per iteration — of which 3 are free, at most 2 in a row —, 1 for `L:`, 1 into `halted` -/
theorem demo_ref : (Sem.run demoSrc 16 (initial demoSrc) 0).1.status = .halted ∧
    (Sem.run demoSrc 15 (initial demoSrc) 0).1.status = .running := by decide +kernel

theorem demo_budget_upper : ∃ m vm, m ≤ 4 * 16 + 2 ∧ vmRun demoProg m = .ok vm ∧
    vm.isDone = .ok true ∧ ViewsAgree demoProg (Sem.run demoSrc 16 (initial demoSrc) 0).1 vm := by
  have := C01_budget_upper demoSrc demoProg demo_valid.1 demo_valid.2 16 demo_ref.1
  rwa [demo_constants.2.2.1, demo_constants.2.2.2] at this

#guard (Sem.run demoSrc 100 (initial demoSrc) 0).2 == 16

/-! κ is the right factor: `K` blocks `x := 1; M: M: M:` take 6 steps each — entering the
    assignment, the value (the only instruction: `CONST`), the store, three marks — so
    `n = 6 * K + 1` against `m = K + 1`, and κ = 6. -/

def block (rest : Stmts) : Stmts :=
  .cons (.assign [120] (.num 1) ([], 0))
    (.cons (.mark [77] ([], 0)) (.cons (.mark [77] ([], 0)) (.cons (.mark [77] ([], 0)) rest)))

def blocks : Nat → Stmts
  | 0 => .nil
  | K + 1 => block (blocks K)

def tightSrc : Source := ⟨[], blocks 10⟩
def tightProg : Program :=
  ⟨.prepare 1 0 0 :: List.replicate 10 (.const 0 1) ++ [.halt], [⟨[], [(0, [120])]⟩], [], []⟩

theorem tight_valid : shapeCheck tightSrc tightProg = true ∧ wfCheck tightProg = true := by
  decide +kernel

theorem tight_factor : stutterFactor tightSrc = 6 := by decide +kernel

/-- done after 11 instructions; the source needs 61 steps (bound: 6 * 11 + 6 = 72) -/
theorem tight_vm : (∃ vm, vmRun tightProg 11 = .ok vm ∧ vm.isDone = .ok true) ∧
    (∃ vm, vmRun tightProg 10 = .ok vm ∧ vm.isDone = .ok false) :=
  doneAt2_spec (m := 10) (by decide +kernel)

theorem tight_ref : (Sem.run tightSrc 61 (initial tightSrc) 0).1.status = .halted ∧
    (Sem.run tightSrc 60 (initial tightSrc) 0).1.status = .running := by decide +kernel

/-! C depends on the sites: two `IF x = 1 THEN GOTO E` (not taken) and `E:`, with a site before
    every real instruction (S = 1): 4 reference steps, 18 instructions; bound 2 * (4 * 4 + 2). -/

def ifSrc : Source :=
  ⟨[], .cons (.ifGoto [120] 1 [69] ([], 0)) (.cons (.ifGoto [120] 1 [69] ([], 0))
    (.cons (.mark [69] ([], 0)) .nil))⟩

def ifProg : Program :=
  ⟨[.prepare 4 0 0,
    .potBreak, .add 1 0 0, .potBreak, .const 2 1, .potBreak, .test 3 1 2, .potBreak, .jmpc 9 3,
    .potBreak, .add 1 0 0, .potBreak, .const 2 1, .potBreak, .test 3 1 2, .potBreak, .jmpc 1 3,
    .potBreak, .halt],
   [⟨[], [(0, [120])]⟩], [], []⟩

theorem if_valid : shapeCheck ifSrc ifProg = true ∧ wfCheck ifProg = true := by decide +kernel

theorem if_constants : Sim.maxSiteRun ifProg.code = 1 ∧ vmFactor ifProg = 8 ∧
    vmOffset ifSrc ifProg = 4 := by decide +kernel

theorem if_ref : (Sem.run ifSrc 4 (initial ifSrc) 0).1.status = .halted ∧
    (Sem.run ifSrc 3 (initial ifSrc) 0).1.status = .running := by decide +kernel

theorem if_vm : (∃ vm, vmRun ifProg 18 = .ok vm ∧ vm.isDone = .ok true) ∧
    (∃ vm, vmRun ifProg 17 = .ok vm ∧ vm.isDone = .ok false) :=
  doneAt2_spec (m := 17) (by decide +kernel)

theorem if_budget_upper : ∃ m vm, m ≤ 8 * 4 + 4 ∧ vmRun ifProg m = .ok vm ∧
    vm.isDone = .ok true ∧ ViewsAgree ifProg (Sem.run ifSrc 4 (initial ifSrc) 0).1 vm := by
  have := C01_budget_upper ifSrc ifProg if_valid.1 if_valid.2 4 if_ref.1
  rwa [if_constants.2.1, if_constants.2.2] at this

/-! Without a bound on the sites there is no bound at all: the empty program behind 100
    sites — one reference step (into `halted`), 101 instructions. -/

def sitesSrc : Source := ⟨[], .nil⟩
def sitesProg : Program :=
  ⟨.prepare 0 0 0 :: List.replicate 100 .potBreak ++ [.halt], [⟨[], []⟩], [], []⟩

theorem sites_valid : shapeCheck sitesSrc sitesProg = true ∧ wfCheck sitesProg = true := by
  decide +kernel

theorem sites_ref : (Sem.run sitesSrc 1 (initial sitesSrc) 0).1.status = .halted := by decide

theorem sites_vm : (∃ vm, vmRun sitesProg 101 = .ok vm ∧ vm.isDone = .ok true) ∧
    (∃ vm, vmRun sitesProg 100 = .ok vm ∧ vm.isDone = .ok false) :=
  doneAt2_spec (m := 100) (by decide +kernel)

/-! The compiled program of `C01CompileDemo` (a macro, a PROGRAM, a call, a LOOP): both bounds hold
    by `C01_compile_budget` / `C01_compile_budget_upper`; its constants (the `#guard` lines below)
    are κ = 4 (width-based: 27), no run of sites, C = 4, D = 3;
    the reference execution halts after 45 steps, the bytecode is done after 46 instructions. -/

theorem compile_demo_budget :
    ∀ m vm, vmRun (compile C01CompileDemo.files C01CompileDemo.main).code m = .ok vm →
      vm.isDone = .ok true →
      ∃ n, n ≤ stutterFactor (toSource (parseFiles C01CompileDemo.files C01CompileDemo.main).ast.root) * m +
            stutterFactor (toSource (parseFiles C01CompileDemo.files C01CompileDemo.main).ast.root) ∧
        (Sem.run (toSource (parseFiles C01CompileDemo.files C01CompileDemo.main).ast.root) n
          (initial (toSource (parseFiles C01CompileDemo.files C01CompileDemo.main).ast.root)) 0).1.status =
            .halted :=
  C01_compile_budget _ _ C01CompileDemo.demo_ok C01CompileDemo.demo_labels

#guard stutterFactor (toSource (parseFiles C01CompileDemo.files C01CompileDemo.main).ast.root) == 4
#guard budgetFactor (toSource (parseFiles C01CompileDemo.files C01CompileDemo.main).ast.root) == 27
#guard vmFactor (compile C01CompileDemo.files C01CompileDemo.main).code == 4
#guard vmOffset (toSource (parseFiles C01CompileDemo.files C01CompileDemo.main).ast.root)
  (compile C01CompileDemo.files C01CompileDemo.main).code == 3
#guard doneAt (compile C01CompileDemo.files C01CompileDemo.main).code 46 == some true
#guard doneAt (compile C01CompileDemo.files C01CompileDemo.main).code 45 == some false

end C01BudgetDemo

end Theo
