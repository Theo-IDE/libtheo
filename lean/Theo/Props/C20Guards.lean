/-
  C20 (compile-time part) — integer literals and priorities that do not fit the word are rejected
  (the generator records an internal error, the macro extraction a range error).  The threshold
  is the one read from the C++ sources by the translator
  (`v >= INT_MAX` in gen.cpp and macro.cpp): if a guard is weakened there, these theorems fail
  to check.
-/
import Theo.Proofs.GuardProofs

namespace Theo

/-- the guards reject exactly the values ≥ 2^31-1 -/
theorem C20_guard_threshold (v : Nat) :
    (genRangeBad v = true ↔ INT_MAX ≤ (v : Int)) ∧ (macroRangeBad v = true ↔ INT_MAX ≤ (v : Int)) := by
  have hg : ConstGen.genGuardRejectsMax = true := rfl
  have hm : ConstGen.macroGuardRejectsMax = true := rfl
  simp only [genRangeBad, macroRangeBad, hg, hm, if_true, decide_eq_true_eq, ge_iff_le, and_self]

/-- a literal that does not fit is reported (at the current position), whatever its length -/
theorem C20_literal_guard (gs : GS) (tok : Bytes) (h : INT_MAX ≤ (decVal tok : Int)) :
    (genStrToInt gs tok).1.errors = gs.errors ++ [⟨GErrT.INTERNAL_ERROR, gs.fsName, gs.fsLine⟩] := by
  have hb : genRangeBad (strtolNat tok) = true :=
    (C20_guard_threshold _).1.2 (strtolNat_big tok h)
  simp only [genStrToInt, hb, if_true]
  rfl

/-- a literal that fits is converted exactly and silently -/
theorem C20_literal_exact (gs : GS) (tok : Bytes) (h : (decVal tok : Int) < INT_MAX) :
    genStrToInt gs tok = (gs, (decVal tok : Int)) := by
  have hb : genRangeBad (decVal tok) = false :=
    Bool.eq_false_iff.2 fun hg => Int.not_le.2 h ((C20_guard_threshold _).1.1 hg)
  simp only [genStrToInt, strtolNat_small tok h, hb, toInt32_small _ h]
  rfl

/-- every NUMBER node dispatched as a value whose literal does not fit adds an error -/
theorem C20_number_node_guard (f : Nat) (gs : GS) (tok file : Bytes) (line : Int) (l r : Node) (tgt : Int)
    (h : INT_MAX ≤ (decVal tok : Int)) :
    (dispatchValue (f + 1) gs (.mk NodeT.NUMBER tok file line l r) tgt).errors ≠ [] := by
  have h1 : ¬ NodeT.NUMBER = NodeT.NAME := by decide
  simp only [dispatchValue, h1, if_false, if_true, GS.emit]
  rw [C20_literal_guard _ tok h]
  exact List.append_ne_nil_of_right_ne_nil _ (List.cons_ne_nil _ _)

/-- priorities (and insertion indices) that do not fit are reported as RANGE errors -/
theorem C20_priority_guard (es : ExSt) (text : Bytes) (h : INT_MAX ≤ (decVal text : Int)) :
    (es.strToInt text).1.errs = es.errs ++ [⟨PErrT.RANGE, es.cur.file, es.cur.line, []⟩] := by
  have hb : macroRangeBad (strtolNat text) = true :=
    (C20_guard_threshold _).2.2 (strtolNat_big text h)
  simp only [ExSt.strToInt, hb, if_true]
  rfl

/-- the constants the generator emits for accepted literals are in the word range -/
theorem C20_const_in_range (gs : GS) (tok : Bytes) (h : (genStrToInt gs tok).1.errors = gs.errors) :
    0 ≤ (genStrToInt gs tok).2 ∧ (genStrToInt gs tok).2 < INT_MAX := by
  by_cases hd : (decVal tok : Int) < INT_MAX
  · rw [C20_literal_exact gs tok hd]
    exact ⟨Int.natCast_nonneg _, hd⟩
  · rw [C20_literal_guard gs tok (Int.not_lt.1 hd)] at h
    exact absurd (List.append_right_eq_self.1 h) (List.cons_ne_nil _ _)

end Theo
