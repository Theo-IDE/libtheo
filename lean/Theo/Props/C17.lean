/-
  C17 — reset() gives back a fresh machine; the end is absorbing.
-/
import Theo.Proofs.VMInvA

namespace Theo

/-- once `HALT` is reached, single steps and `execute` change nothing -/
theorem C17_end_absorbing (vm : VM) (h : vm.isDone = .ok true) :
    step vm = .ok (vm, true) ∧ ExecTo vm vm := by
  have hst : step vm = .ok (vm, true) := InvB.Eff.halt.step (InvB.isDone_halt h)
  exact ⟨hst, ExecTo.stop hst⟩

/-- after any history, `reset` succeeds and yields *structurally* the freshly constructed machine -/
theorem C17_reset_fresh (p : Program) (hs : SitesOK p) (vm : VM) (hr : Reach p vm) :
    VM.reset p vm = .ok (VM.mk' p) :=
  reset_fresh hs hr

/-- the state a `reset` call leads to is the fresh machine (so later histories are histories of it) -/
theorem C17_reset_history (p : Program) (hs : SitesOK p) (vm vm' : VM) (hr : Reach p vm)
    (hc : CallRel p vm .reset vm') : vm' = VM.mk' p := by
  cases hc with
  | reset h => rw [reset_fresh hs hr] at h; exact (Except.ok.inj h).symm

end Theo
