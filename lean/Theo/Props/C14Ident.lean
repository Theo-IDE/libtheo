/-
  C14 — identifiers: a word is lexed as ONE identifier token exactly when it is identifier-shaped
  (`[a-zA-Z_][a-zA-Z0-9_]*`) and is not a documented keyword spelling.
  The rule table and the keyword table are regenerated from lexer.l on every run; the proofs use
  them only through closed facts re-checked by kernel evaluation (see `Theo/Proofs/LexIdent.lean`)
  and through `C14_keywords` / `C14_keywords_documented`.
-/
import Theo.Props.C14
import Theo.Proofs.LexIdent

namespace Theo

/-- the regenerated keyword table and the pinned documented table have the same entries -/
theorem C14_mem_keywords_iff (e : Bytes × Nat) : e ∈ LexGen.keywords ↔ e ∈ documentedKeywords := by
  have h := C14_keywords_documented
  simp only [Bool.and_eq_true, List.all_eq_true, List.contains_iff_mem] at h
  exact ⟨h.1 e, h.2 e⟩

/-- the identifier rule of the regenerated table: the first rule with action `ID` carries the
    identifier pattern (a start-class followed by a starred character-class, whose byte sets are
    exactly `isIdStart` / `isIdChar`), and its language is exactly the identifier-shaped words -/
theorem C14_identifier_rule :
    ∃ r, LexGen.rules[idIdx]? = some (r, some Tok.ID) ∧ ∀ w, r.Matches w ↔ identShape w = true := by
  obtain ⟨r, hr, hi⟩ := idRule_get
  exact ⟨r, hr, Rx.isIdentRx_matches hi⟩

/-- a rule standing before the identifier rule matches an identifier-shaped word only if that
    word is a keyword spelling (so: integers, quoted names, `$n`, `#n`, whitespace, operators,
    `END DEFINE`, `!= 0` never take an identifier-shaped word; keyword rules take only their
    listed spellings) -/
theorem C14_earlier_rules (j : Nat) (r : Rx) (w : Bytes) (hj : j < idIdx)
    (hr : (LexGen.rules.map (·.1))[j]? = some r) (hm : r.Matches w) (hw : identShape w = true) :
    ∃ k, (w, k) ∈ documentedKeywords := by
  obtain ⟨k, hk⟩ := earlier_rule_keyword hj hr hm hw
  exact ⟨k, (C14_mem_keywords_iff _).1 hk⟩

/-- every identifier-shaped word that is not a documented keyword spelling is ONE identifier
    token (no keyword rule, no other rule takes it or a longer/equal prefix of it first) -/
theorem C14_identifier_words (w : Bytes) (h : identShape w = true)
    (hn : ∀ e ∈ documentedKeywords, e.1 ≠ w) : lexBuffer w = [⟨Tok.ID, w, 1⟩] :=
  ident_lexBuffer w h (fun e he => hn e ((C14_mem_keywords_iff e).1 he))

/-- conversely, a word that lexes as one identifier token is identifier-shaped and not a keyword
    spelling -/
theorem C14_identifier_only (w : Bytes) (h : lexBuffer w = [⟨Tok.ID, w, 1⟩]) :
    identShape w = true ∧ ∀ e ∈ documentedKeywords, e.1 ≠ w := by
  obtain ⟨h1, h2⟩ := ident_only w h
  exact ⟨h1, fun e he => h2 e ((C14_mem_keywords_iff e).2 he)⟩

theorem C14_identifier_iff (w : Bytes) :
    lexBuffer w = [⟨Tok.ID, w, 1⟩] ↔
      (identShape w = true ∧ ∀ e ∈ documentedKeywords, e.1 ≠ w) :=
  ⟨C14_identifier_only w, fun h => C14_identifier_words w h.1 h.2⟩

/-- an identifier-shaped word is one token: its keyword kind if it is a documented spelling,
    `ID` otherwise -/
theorem C14_word_one_token (w : Bytes) (h : identShape w = true) :
    (∃ k, (w, k) ∈ documentedKeywords ∧ lexBuffer w = [⟨k, w, 1⟩]) ∨
    ((∀ e ∈ documentedKeywords, e.1 ≠ w) ∧ lexBuffer w = [⟨Tok.ID, w, 1⟩]) := by
  by_cases hk : ∃ e ∈ documentedKeywords, e.1 = w
  · obtain ⟨⟨s, k⟩, he, rfl⟩ := hk
    left
    have := List.all_eq_true.1 C14_keywords _ ((C14_mem_keywords_iff _).2 he)
    exact ⟨k, he, by simpa using this⟩
  · right
    have hn : ∀ e ∈ documentedKeywords, e.1 ≠ w := fun e he hw => hk ⟨e, he, hw⟩
    exact ⟨hn, C14_identifier_words w h hn⟩

/-! ### non-vacuity: `DEF` is not a documented spelling (`DEFINE`, `Define`, `Def`, `define`,
    `def` are), so it is an identifier; `Def` is a keyword, `x_1` an identifier, `1x` is not
    identifier-shaped -/

/-- a word that is no spelling of the regenerated table is no documented spelling either -/
theorem not_documented {w : Bytes} (h : ∀ e ∈ LexGen.keywords, e.1 ≠ w) :
    ∀ e ∈ documentedKeywords, e.1 ≠ w :=
  fun e he => h e ((C14_mem_keywords_iff e).2 he)

theorem def_documented : (([68, 101, 102], Tok.DEFINE) : Bytes × Nat) ∈ documentedKeywords :=
  (C14_mem_keywords_iff _).1 (by decide +kernel)

example : lexBuffer [68, 69, 70] = [⟨Tok.ID, [68, 69, 70], 1⟩] :=
  C14_identifier_words [68, 69, 70] (by decide) (not_documented (by decide +kernel))

example : lexBuffer [120, 95, 49] = [⟨Tok.ID, [120, 95, 49], 1⟩] :=
  C14_identifier_words [120, 95, 49] (by decide) (not_documented (by decide +kernel))

example : ¬ (∀ e ∈ documentedKeywords, e.1 ≠ [68, 101, 102]) := fun h => h _ def_documented rfl

example : lexBuffer [68, 101, 102] ≠ [⟨Tok.ID, [68, 101, 102], 1⟩] := fun h =>
  (C14_identifier_only _ h).2 _ def_documented rfl

example : lexBuffer [49, 120] ≠ [⟨Tok.ID, [49, 120], 1⟩] := fun h =>
  absurd (C14_identifier_only _ h).1 (by decide)

end Theo
