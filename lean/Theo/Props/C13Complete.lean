/-
  C13 (second half) — completeness of conflict-free LR(1) tables, uniqueness of the derivation
  tree, "ambiguous ⇒ conflict", in full and prefix mode.
-/
import Theo.Proofs.LRComplete

namespace Theo

/-- Completeness, full mode: if generation reports no conflict (and the state budget was not
    exhausted), every sentence — given by any of its derivation trees — is accepted, and the
    value returned is that very tree. -/
theorem C13_complete_full (g : Grammar) (start eof sfuel : Nat) (t : Tree)
    (hg : g.Closed) (hs : start < g.numNT) (he : eof ∉ g.terminals)
    (ht : t.Valid g) (hr : t.root = .n start)
    (hc : (tablesOf g start eof false sfuel).conflicts = [])
    (hf : (genTables g start eof false sfuel).2 < sfuel) :
    ∃ fuel, lrParseTree (tablesOf g start eof false sfuel) fuel (t.yield ++ [eof]) = .accept t :=
  LRComplete.complete_full g start eof sfuel t hg hs ht hr hc hf

/-- Completeness, prefix mode: a sentence followed by at least one more symbol (of the table's
    column range) is accepted as a prefix, again with exactly the given tree. -/
theorem C13_complete_prefix (g : Grammar) (start eof sfuel : Nat) (t : Tree) (a : Nat) (rest : List Nat)
    (hg : g.Closed) (hs : start < g.numNT) (he : eof ∉ g.terminals)
    (ht : t.Valid g) (hr : t.root = .n start)
    (ha : a ≤ (g.augment start eof).maxTerminal)
    (hc : (tablesOf g start eof true sfuel).conflicts = [])
    (hf : (genTables g start eof true sfuel).2 < sfuel) :
    ∃ fuel, lrParseTree (tablesOf g start eof true sfuel) fuel (t.yield ++ a :: rest) = .accept t :=
  LRComplete.complete_prefix g start eof sfuel t a rest hg hs ht hr ha hc hf

/-- more fuel never changes a verdict -/
theorem C13_fuel_mono (T : Tables) (fuel k : Nat) (inp : List Nat) (r : ParseOut Tree)
    (h : lrParseTree T fuel inp = r) (hr : r ≠ .fuelOut) :
    lrParseTree T (fuel + k) inp = r :=
  LRComplete.fuel_mono T fuel k inp r h hr

/-- hence a conflict-free grammar is unambiguous: the derivation tree of a sentence is unique -/
theorem C13_unambiguous (g : Grammar) (start eof sfuel : Nat) (t t' : Tree)
    (hg : g.Closed) (hs : start < g.numNT) (he : eof ∉ g.terminals)
    (ht : t.Valid g) (hr : t.root = .n start) (ht' : t'.Valid g) (hr' : t'.root = .n start)
    (hy : t.yield = t'.yield)
    (hc : (tablesOf g start eof false sfuel).conflicts = [])
    (hf : (genTables g start eof false sfuel).2 < sfuel) : t = t' := by
  obtain ⟨f1, h1⟩ := LRComplete.complete_full g start eof sfuel t hg hs ht hr hc hf
  obtain ⟨f2, h2⟩ := LRComplete.complete_full g start eof sfuel t' hg hs ht' hr' hc hf
  rw [← hy] at h2
  exact LRComplete.accept_unique _ _ f1 f2 t t' h1 h2

/-- for every ambiguous grammar generation reports at least one conflict -/
theorem C13_ambiguous_conflict (g : Grammar) (start eof sfuel : Nat) (t t' : Tree)
    (hg : g.Closed) (hs : start < g.numNT) (he : eof ∉ g.terminals)
    (ht : t.Valid g) (hr : t.root = .n start) (ht' : t'.Valid g) (hr' : t'.root = .n start)
    (hy : t.yield = t'.yield) (hne : t ≠ t')
    (hf : (genTables g start eof false sfuel).2 < sfuel) :
    (tablesOf g start eof false sfuel).conflicts ≠ [] := by
  intro hc
  exact hne (C13_unambiguous g start eof sfuel t t' hg hs he ht hr ht' hr' hy hc hf)

/-- prefix mode: no conflict ⇒ an input has at most one prefix in the language, with one tree -/
theorem C13_prefix_unique (g : Grammar) (start eof sfuel : Nat) (t t' : Tree) (inp : List Nat)
    (hg : g.Closed) (hs : start < g.numNT) (he : eof ∉ g.terminals)
    (ht : t.Valid g) (hr : t.root = .n start) (ht' : t'.Valid g) (hr' : t'.root = .n start)
    (hp : ∃ a rest, inp = t.yield ++ a :: rest ∧ a ≤ (g.augment start eof).maxTerminal)
    (hp' : ∃ a rest, inp = t'.yield ++ a :: rest ∧ a ≤ (g.augment start eof).maxTerminal)
    (hc : (tablesOf g start eof true sfuel).conflicts = [])
    (hf : (genTables g start eof true sfuel).2 < sfuel) : t = t' := by
  obtain ⟨a, rest, hi, ha⟩ := hp
  obtain ⟨a', rest', hi', ha'⟩ := hp'
  obtain ⟨f1, h1⟩ := LRComplete.complete_prefix g start eof sfuel t a rest hg hs ht hr ha hc hf
  obtain ⟨f2, h2⟩ := LRComplete.complete_prefix g start eof sfuel t' a' rest' hg hs ht' hr' ha' hc hf
  rw [← hi] at h1
  rw [← hi'] at h2
  exact LRComplete.accept_unique _ _ f1 f2 t t' h1 h2

end Theo
